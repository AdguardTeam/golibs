/-
C13 — executable model of `stringutil.ContainsFold` and `stringutil.SplitTrimmed`
(`/repo/stringutil/stringutil.go`), written against the *minimally repaired* code (the scan
predicate tests membership in the whole `unicode.SimpleFold` orbit of the needle's first
rune; the code as shipped compares against one fold only and is kept as
`containsFoldOrig`).

Strings are `Bytes = List Nat`.  Index and slice expressions of the golibs code go through
`GoM` so that a Go panic is a value.  Stdlib pieces:

* `decodeRune`     = `utf8.DecodeRuneInString` (invalid input → `(RuneError, 1)`),
* `decodeLastRune` = `utf8.DecodeLastRuneInString`,
* `runes`          = the rune sequence of `for _, r := range s`,
* `indexFunc`      = `strings.IndexFunc`,
* `equalFold`      = `strings.EqualFold` in rune-sequence form, parametric in
                     `fold = unicode.SimpleFold` (contract FOLD-1, see `Spec/C13.lean`),
* `trimSpace`      = `strings.TrimSpace`, `split` = `strings.Split`.

Each of them is compared with the real function by the `C13.std.*` ops on every check.
Core Lean only (this file is linked into the driver executable).
-/
import GolibsVerif.Go.Basic

namespace GolibsVerif.C13

/-! ## UTF-8 decoding -/

/-- `utf8.RuneError` -/
def RuneError : Nat := 0xFFFD

/-- UTF-8 continuation byte, `b & 0xC0 == 0x80` (so `utf8.RuneStart b = !isCont b`). -/
def isCont (b : Nat) : Prop := 0x80 ≤ b ∧ b ≤ 0xBF

instance (b : Nat) : Decidable (isCont b) := by unfold isCont; infer_instance

/-- The `first` / `acceptRanges` tables of `unicode/utf8`: for a leading byte, the encoded
size (0 = invalid `xx`, 1 = ASCII `as`) and the accept range of the *second* byte. -/
def lead (b : Nat) : Nat × Nat × Nat :=
  if b < 0x80 then (1, 0, 0)
  else if b < 0xC2 then (0, 0, 0)
  else if b < 0xE0 then (2, 0x80, 0xBF)
  else if b = 0xE0 then (3, 0xA0, 0xBF)
  else if b = 0xED then (3, 0x80, 0x9F)
  else if b < 0xF0 then (3, 0x80, 0xBF)
  else if b = 0xF0 then (4, 0x90, 0xBF)
  else if b < 0xF4 then (4, 0x80, 0xBF)
  else if b = 0xF4 then (4, 0x80, 0x8F)
  else (0, 0, 0)

/-- `utf8.DecodeRuneInString`: `(rune, width)`; `(RuneError, 0)` for the empty string and
`(RuneError, 1)` for every invalid or truncated encoding. -/
def decodeRune : Bytes → Nat × Nat
  | [] => (RuneError, 0)
  | s0 :: rest =>
    match (lead s0).1, rest with
    | 1, _ => (s0, 1)
    | 2, s1 :: _ =>
      if (lead s0).2.1 ≤ s1 ∧ s1 ≤ (lead s0).2.2 then (s0 % 32 * 64 + s1 % 64, 2)
      else (RuneError, 1)
    | 3, s1 :: s2 :: _ =>
      if (lead s0).2.1 ≤ s1 ∧ s1 ≤ (lead s0).2.2 ∧ isCont s2 then
        (s0 % 16 * 4096 + s1 % 64 * 64 + s2 % 64, 3)
      else (RuneError, 1)
    | 4, s1 :: s2 :: s3 :: _ =>
      if (lead s0).2.1 ≤ s1 ∧ s1 ≤ (lead s0).2.2 ∧ isCont s2 ∧ isCont s3 then
        (s0 % 8 * 262144 + s1 % 64 * 4096 + s2 % 64 * 64 + s3 % 64, 4)
      else (RuneError, 1)
    | _, _ => (RuneError, 1)

theorem decodeRune_width_pos (b : Nat) (t : Bytes) : 1 ≤ (decodeRune (b :: t)).2 := by
  generalize hs : b :: t = s
  fun_cases decodeRune s <;> simp at hs ⊢

theorem decodeRune_width_le (s : Bytes) : (decodeRune s).2 ≤ s.length := by
  fun_cases decodeRune s <;> simp

/-- The rune sequence of `for _, r := range s` (each invalid byte is one `RuneError`). -/
def runes (s : Bytes) : List Nat :=
  match s with
  | [] => []
  | b :: t => (decodeRune (b :: t)).1 :: runes ((b :: t).drop (decodeRune (b :: t)).2)
termination_by s.length
decreasing_by
  have := decodeRune_width_pos b t
  simp only [List.length_drop, List.length_cons]; omega

/-- `strings.IndexFunc(s, p)` continued at byte offset `off`; `-1` when no rune satisfies `p`. -/
def indexFuncAux (p : Nat → Bool) (s : Bytes) (off : Nat) : Int :=
  match s with
  | [] => -1
  | b :: t =>
    if p (decodeRune (b :: t)).1 then (off : Int)
    else indexFuncAux p ((b :: t).drop (decodeRune (b :: t)).2) (off + (decodeRune (b :: t)).2)
termination_by s.length
decreasing_by
  have := decodeRune_width_pos b t
  simp only [List.length_drop, List.length_cons]; omega

/-- `strings.IndexFunc` -/
def indexFunc (p : Nat → Bool) (s : Bytes) : Int := indexFuncAux p s 0

/-! ## Simple case folding -/

/-- Bound on the number of `SimpleFold` steps a walk round one orbit may take (the largest
orbit of Unicode 15 has 4 members; FOLD-1 states `period ≤ orbitFuel`). -/
def orbitFuel : Nat := 8

/-- `for r := fold(a); r != a; r = fold(r) { folds = append(folds, r) }`, started at
`f = fold(a)`: the members of the orbit of `a` other than `a` itself.  The Go loop has no
bound; the model stops after `orbitFuel` steps.  Under FOLD-1 the walk is back at `a` before
that, so the two agree (`orbitMem_iff` in `Lemmas/C13.lean`). -/
def orbitRest (fold : Nat → Nat) (a : Nat) : Nat → Nat → List Nat
  | 0, _ => []
  | n + 1, f => if f = a then [] else f :: orbitRest fold a n (fold f)

/-- The slice `folds` of the repaired `ContainsFold`. -/
def folds (fold : Nat → Nat) (a : Nat) : List Nat := orbitRest fold a orbitFuel (fold a)

/-- Is `b` in the `SimpleFold` orbit of `a`: `b == a || slices.Contains(folds, b)`.  (The
repaired scan predicate of `ContainsFold`, and the rune comparison of `strings.EqualFold`.) -/
def orbitMem (fold : Nat → Nat) (a b : Nat) : Bool :=
  decide (b = a) || (folds fold a).contains b

/-- `strings.EqualFold` on rune sequences. -/
def eqFoldRunes (fold : Nat → Nat) : List Nat → List Nat → Bool
  | [], [] => true
  | a :: as, b :: bs => orbitMem fold a b && eqFoldRunes fold as bs
  | _, _ => false

/-- `strings.EqualFold(s, t)` -/
def equalFold (fold : Nat → Nat) (s t : Bytes) : Bool := eqFoldRunes fold (runes s) (runes t)

/-! ## `ContainsFold` -/

/-- The loop of `ContainsFold`; `pred` is the closure handed to `strings.IndexFunc`.

```go
for i := 0; i != -1 && len(s) >= len(substr); {
    if strings.EqualFold(s[:substrLen], substr) { return true }
    i = strings.IndexFunc(s[1:], pred)
    s = s[1+i:]
}
return false
```
The recursion is on `len(s)`: Lean accepting it is the proof that the loop terminates.  The
last branch only serves that termination argument; `containsFold_never_panics` shows that
no `.error` branch — this one, or a slice expression out of range — is ever taken. -/
def cfLoop (fold : Nat → Nat) (pred : Nat → Bool) (sub : Bytes) (s : Bytes) : GoM Bool :=
  if s.length < sub.length then .ok false else
  match GoM.sliceTo s sub.length with
  | .error e => .error e
  | .ok w =>
    if equalFold fold w sub then .ok true else
    match GoM.sliceFrom s 1 with
    | .error e => .error e
    | .ok s1 =>
      match GoM.sliceFrom s (1 + indexFunc pred s1) with
      | .error e => .error e
      | .ok s' =>
        if indexFunc pred s1 = -1 then .ok false
        else if _hlt : s'.length < s.length then cfLoop fold pred sub s'
        else .error (.explicit "unreachable: s[1+i:] is not shorter than s")
termination_by s.length

/-- `stringutil.ContainsFold` after the repair (`fix-1.diff`): the scan looks for any member of
the fold orbit of the needle's first rune,
`func(r rune) bool { return r == first || slices.Contains(folds, r) }`. -/
def containsFold (fold : Nat → Nat) (s sub : Bytes) : GoM Bool :=
  if s.length < sub.length then .ok false
  else if s.length = sub.length then .ok (equalFold fold s sub)
  else cfLoop fold (fun r => orbitMem fold (decodeRune sub).1 r) sub s

/-- `stringutil.ContainsFold` as shipped: only `first` and `unicode.SimpleFold(first)` are
searched for. -/
def containsFoldOrig (fold : Nat → Nat) (s sub : Bytes) : GoM Bool :=
  if s.length < sub.length then .ok false
  else if s.length = sub.length then .ok (equalFold fold s sub)
  else cfLoop fold (fun r => r == (decodeRune sub).1 || r == fold (decodeRune sub).1) sub s

/-! ## `strings.TrimSpace`, `strings.Split` -/

/-- `unicode.IsSpace` -/
def isSpace (r : Nat) : Bool :=
  r == 0x09 || r == 0x0A || r == 0x0B || r == 0x0C || r == 0x0D || r == 0x20 || r == 0x85 || r == 0xA0
  || r == 0x1680 || (0x2000 ≤ r && r ≤ 0x200A) || r == 0x2028 || r == 0x2029 || r == 0x202F
  || r == 0x205F || r == 0x3000

def trimLeftSpace (s : Bytes) : Bytes :=
  match s with
  | [] => []
  | b :: t =>
    if isSpace (decodeRune (b :: t)).1 then trimLeftSpace ((b :: t).drop (decodeRune (b :: t)).2)
    else b :: t
termination_by s.length
decreasing_by
  have := decodeRune_width_pos b t
  simp only [List.length_drop, List.length_cons]; omega

/-- `utf8.DecodeLastRuneInString` -/
def decodeLastRune (s : Bytes) : Nat × Nat :=
  match s.reverse with
  | [] => (RuneError, 0)
  | c0 :: before =>
    if c0 < 0x80 then (c0, 1) else
    -- nearest rune-start byte among the three bytes before the last one
    match (before.take 3).findIdx? (fun b => !decide (isCont b)) with
    | none => (RuneError, 1)
    | some j =>
      let d := decodeRune (s.drop (s.length - 2 - j))
      if d.2 = j + 2 then d else (RuneError, 1)

def trimRightSpace (s : Bytes) : Bytes :=
  if h : s = [] then [] else
  have _ := h
  if isSpace (decodeLastRune s).1 ∧ 1 ≤ (decodeLastRune s).2 then
    trimRightSpace (s.take (s.length - (decodeLastRune s).2))
  else s
termination_by s.length
decreasing_by
  have : 0 < s.length := List.length_pos_iff.mpr h
  simp only [List.length_take]; omega

/-- `strings.TrimSpace` -/
def trimSpace (s : Bytes) : Bytes := trimRightSpace (trimLeftSpace s)

/-- `strings.Split(s, "")` (`explode`): one element per UTF-8 sequence / invalid byte. -/
def explode (s : Bytes) : List Bytes :=
  match s with
  | [] => []
  | b :: t => (b :: t).take (decodeRune (b :: t)).2 :: explode ((b :: t).drop (decodeRune (b :: t)).2)
termination_by s.length
decreasing_by
  have := decodeRune_width_pos b t
  simp only [List.length_drop, List.length_cons]; omega

/-- `strings.Split(s, sep)` for non-empty `sep`, as one left-to-right scan: `cur` is the
current piece (reversed), `skip` the number of bytes of a matched separator still to skip. -/
def splitScan (sep : Bytes) : Bytes → Bytes → Nat → List Bytes
  | [], cur, _ => [cur.reverse]
  | _ :: t, cur, skip + 1 => splitScan sep t cur skip
  | b :: t, cur, 0 =>
    if sep.isPrefixOf (b :: t) then cur.reverse :: splitScan sep t [] (sep.length - 1)
    else splitScan sep t (b :: cur) 0

/-- `strings.Split` -/
def split (s sep : Bytes) : List Bytes :=
  if sep = [] then explode s else splitScan sep s [] 0

/-! ## `SplitTrimmed` on a backing array -/

/-- A `[]string` value: the elements, and whether the slice header is nil. -/
structure StrSlice where
  elems : List Bytes
  isNil : Bool
  deriving Repr, DecidableEq

/-- `a[i]` on the backing array of a `[]string` of length `a.length`, with Go's bounds check. -/
def idxS (a : List Bytes) (i : Nat) : GoM Bytes :=
  match a[i]? with
  | some v => .ok v
  | none => .error (.indexOutOfRange i a.length)

/-- `a[i] = v` with Go's bounds check. -/
def setS (a : List Bytes) (i : Nat) (v : Bytes) : GoM (List Bytes) :=
  if i < a.length then .ok (a.set i v) else .error (.indexOutOfRange i a.length)

/-- State of the filter loop of `SplitTrimmed`.  `A` is the backing array of `split`
(`len(split) = cap(split) = A.length`).  `strs` is `A[:j]` while `own = none`; if `append`
ever had to grow it, `strs` is the fresh array `own = some B` (and no longer aliases `split`). -/
structure FState where
  A : List Bytes
  own : Option (List Bytes)
  j : Nat
  deriving Repr, DecidableEq

/-- `strs = append(strs, t)`: writes `A[j]` in place while `len(strs) < cap(strs)`,
otherwise copies `strs` to a fresh array. -/
def FState.append (st : FState) (t : Bytes) : FState :=
  match st.own with
  | some b => { st with own := some (b ++ [t]), j := st.j + 1 }
  | none =>
    if st.j < st.A.length then { st with A := st.A.set st.j t, j := st.j + 1 }
    else { st with own := some (st.A.take st.j ++ [t]), j := st.j + 1 }

/-- The value of `strs`. -/
def FState.strs (st : FState) : List Bytes :=
  match st.own with
  | some b => b
  | none => st.A.take st.j

/-- `k` iterations of `for _, s := range split { s = TrimSpace(s); if s == "" { continue };
strs = append(strs, s) }` starting at index `i`: each iteration *reads* `A[i]` from the
(possibly already overwritten) backing array. -/
def filterLoop (trim : Bytes → Bytes) : Nat → Nat → FState → GoM FState
  | 0, _, st => .ok st
  | k + 1, i, st =>
    match idxS st.A i with
    | .error e => .error e
    | .ok s =>
      if trim s = [] then filterLoop trim k (i + 1) st
      else filterLoop trim k (i + 1) (st.append (trim s))

/-- `for i := len(strs); i < len(split); i++ { split[i] = "" }` -/
def zeroLoop : Nat → Nat → List Bytes → GoM (List Bytes)
  | 0, _, a => .ok a
  | k + 1, i, a =>
    match setS a i [] with
    | .error e => .error e
    | .ok a' => zeroLoop k (i + 1) a'

/-- `stringutil.SplitTrimmed`, parametric in `strings.TrimSpace` and `strings.Split`
(`strings.Split` returns a freshly made, non-nil slice with `len = cap`). -/
def splitTrimmed (trim : Bytes → Bytes) (split : Bytes → Bytes → List Bytes) (str sep : Bytes) :
    GoM StrSlice :=
  let str := trim str
  if str = [] then .ok { elems := [], isNil := false } else
  let sp := split str sep
  match filterLoop trim sp.length 0 { A := sp, own := none, j := 0 } with
  | .error e => .error e
  | .ok st =>
    match zeroLoop (sp.length - st.j) st.j st.A with
    | .error e => .error e
    | .ok a' => .ok { elems := ({ st with A := a' } : FState).strs, isNil := false }

end GolibsVerif.C13
