/-
C18 — executable models of `service.SignalHandler.Handle / shutdown / shutdownService`
(`/repo/service/signal.go`, `osutil.isShutdownSignal` in `/repo/osutil/signal_unix.go`) and of
`service.RefreshWorker.refreshInALoop / refresh / Shutdown` (`/repo/service/refreshworker.go`).

The models are of the *minimally repaired* code (DESIGN.md §9 #14, #15):
  * `shutdownService` recovers a panic of one service's `Shutdown` and returns it as an error
    (`errors.FromRecovered`), so the reverse loop continues and the status is failure;
  * `refreshInALoop` re-checks `done` after the timer case of its `select` was chosen.
Both repairs are a Boolean parameter of the general definitions (`recover`, `recheck`), so
that the behaviour of the code before the repair stays available for the negated witnesses
in `Theorems/C18.lean`; the property theorems are about the instances with `true`.

The synchronisation skeletons these definitions were written against are in
`Model/C18Skel.lean`; `theorem skel_… : Gen.SyncSkel.… = Expected.… := rfl` ties them to
the current source on every run.
-/
import GolibsVerif.Go.Basic
import GolibsVerif.Gen.Consts

namespace GolibsVerif.C18
open GolibsVerif.Gen.Consts (ExitCodeSuccess ExitCodeFailure)

/-! ## Part 1 — SignalHandler -/

/-- What one registered service's `Shutdown` does. -/
inductive Outcome where
  | nil      -- returns nil
  | err      -- returns a non-nil error
  | panic    -- panics
  deriving DecidableEq, Repr

/-- An `os.Signal` value: `sys n` is `syscall.Signal(n)` (the dynamic type of `unix.SIGINT` …);
`other n` is a value of any other dynamic type, which compares unequal to every
`syscall.Signal` in an interface comparison. -/
inductive Signal where
  | sys (n : Nat)
  | other (n : Nat)
  deriving DecidableEq, Repr

/-- linux signal numbers of the three names in `isShutdownSignal`'s `case` list (the names
are tied by `skel_isShutdownSignal`; the numbers are checked by the harness at start). -/
def SIGINT : Nat := 2
def SIGQUIT : Nat := 3
def SIGTERM : Nat := 15

/-- `osutil.isShutdownSignal`: `switch sig { case unix.SIGINT, unix.SIGQUIT, unix.SIGTERM:
return true; default: return false }`. -/
def isShutdownSignal : Signal → Bool
  | .sys n => n == SIGINT || n == SIGQUIT || n == SIGTERM
  | .other _ => false

/-- `h.services[i]` with Go's bounds check. -/
def idxSvc (svcs : List Outcome) (i : Nat) : GoM Outcome :=
  match svcs[i]? with
  | some o => .ok o
  | none => .error (.indexOutOfRange i svcs.length)

/-- `shutdownService(ctx, s)`: `defer func() { if v := recover(); v != nil { err =
errors.FromRecovered(v) } }(); return s.Shutdown(ctx)`.  The result says whether `err != nil`.
With `recover = false` this is the bare `s.Shutdown(ctx)` of the code before the repair: the
panic propagates. -/
def shutdownService (recover : Bool) : Outcome → GoM Bool
  | .nil => .ok false
  | .err => .ok true
  | .panic => if recover then .ok true else .error (.explicit "panic in Shutdown")

/-- Result of `h.shutdown`: the indices of the services whose `Shutdown` was entered, in call
order, and the returned status — or the panic that left the function. -/
structure ShutdownRes where
  calls : List Nat
  result : GoM Nat
  deriving Repr

/-- The loop `for i := len(h.services) - 1; i >= 0; i-- { … }` of `h.shutdown`; the first
argument is `i + 1` (so `0` is `i = -1`, where `i >= 0` fails), `status` and `calls` are the
loop-carried state. -/
def shutdownLoop (recover : Bool) (svcs : List Outcome) : Nat → Nat → List Nat → ShutdownRes
  | 0, status, calls => { calls := calls, result := .ok status }          -- `return status`
  | i + 1, status, calls =>
    match idxSvc svcs i with                                               -- `h.services[i]`
    | .error p => { calls := calls, result := .error p }
    | .ok o =>
      match shutdownService recover o with                                 -- `err := shutdownService(…)`
      | .error p => { calls := calls ++ [i], result := .error p }
      | .ok false => shutdownLoop recover svcs i status (calls ++ [i])     -- `if err == nil { continue }`
      | .ok true => shutdownLoop recover svcs i ExitCodeFailure (calls ++ [i])  -- `status = ExitCodeFailure`

/-- `h.shutdown(ctx)`: `status = osutil.ExitCodeSuccess`, then the reverse loop. -/
def shutdownG (recover : Bool) (svcs : List Outcome) : ShutdownRes :=
  shutdownLoop recover svcs svcs.length ExitCodeSuccess []

/-- Result of `h.Handle(ctx)` for a finite sequence of delivered signals: either it is still
blocked in `range h.signal` (the channel is never closed), or it returned. -/
inductive HandleRes where
  | blocked
  | returned (status : Nat) (calls : List Nat)
  deriving Repr, DecidableEq

/-- `h.Handle(ctx)`: `for sig := range h.signal { if osutil.IsShutdownSignal(sig) { …; return
h.shutdown(ctx) } }` under `defer slogutil.RecoverAndLog`: a panic that leaves `h.shutdown` is
recovered and `Handle` returns the zero value of its named result `status`, i.e. `0`. -/
def handleG (recover : Bool) : List Signal → List Outcome → HandleRes
  | [], _ => .blocked
  | sig :: rest, svcs =>
    if isShutdownSignal sig then
      let r := shutdownG recover svcs
      match r.result with
      | .ok status => .returned status r.calls
      | .error _ => .returned 0 r.calls
    else handleG recover rest svcs

/-- the repaired code -/
abbrev shutdown := shutdownG true
abbrev handle := handleG true

/-! ## Part 2 — RefreshWorker

An event-driven transition system.  The environment (harness / real world) produces the
events; the worker answers each with the calls it makes on its collaborators. -/

/-- Contexts: the one given to `Start`, the one given to `Shutdown`, and what
`contextCons.New(parent)` returns. -/
inductive Ctx where
  | start
  | shutdown
  | cons (parent : Ctx)
  deriving DecidableEq, Repr

/-- Which goroutine is inside `w.refresh`: the loop, or the caller of `Shutdown`. -/
inductive Caller where
  | loop
  | shutdown
  deriving DecidableEq, Repr

inductive Ev where
  /-- the timer channel returned by the last `clock.After` delivers -/
  | tick
  /-- the `Refresh` call made by `c` returns error code `e` (`0` = nil) -/
  | refreshReturns (c : Caller) (e : Nat)
  /-- `w.Shutdown(ctx)` is called -/
  | shutdown
  deriving DecidableEq, Repr

inductive Out where
  | untilNext                       -- `w.schedule.UntilNext(w.clock.Now())`
  | after (d : Nat)                 -- `w.clock.After(d)`
  | refresh (ctx : Ctx)             -- `w.refr.Refresh(ctx)` is entered
  | handle (ctx : Ctx) (e : Nat)    -- `w.errHdlr.Handle(ctx, err)`
  | shutdownReturns (e : Nat)       -- `Shutdown` returns (`0` = nil, else wraps error `e`)
  | panicClose                      -- `close(w.done)` of a closed channel panics
  deriving DecidableEq, Repr

/-- Where the goroutine running `refreshInALoop` is. -/
inductive Loop where
  | waiting      -- blocked in the outer `select`: `done` open, timer not fired
  | refreshing   -- inside `w.refr.Refresh`
  | exited       -- returned
  deriving DecidableEq, Repr

/-- Where the (first) `Shutdown` call is. -/
inductive Final where
  | idle         -- not called
  | refreshing   -- inside the final `w.refr.Refresh`
  | returned
  deriving DecidableEq, Repr

/-- The environment: `dur k` is what the `k`-th `UntilNext` call returns; `imm k` says that the
channel returned by the `k`-th `After` call is ready at once; `pick k` resolves Go's random
choice for the `k`-th `select` if both `done` and the timer are ready (`true` = timer). -/
structure Env where
  dur : Nat → Nat
  imm : Nat → Bool
  pick : Nat → Bool

structure St where
  loop : Loop
  closed : Bool     -- `w.done` is closed
  fin : Final
  k : Nat           -- number of `UntilNext` (and of `After`) calls so far
  deriving DecidableEq, Repr

/-- `w.refresh(ctx)` up to the call of the refresher: `ctx, cancel := w.contextCons.New(ctx);
defer cancel(); return w.refr.Refresh(ctx)`. -/
def refreshStart (parent : Ctx) : List Out := [.refresh (.cons parent)]

inductive Sel where
  | done | timer | block
  deriving DecidableEq, Repr

/-- `select { case <-w.done: …  case <-w.clock.After(waitDur): … }`. -/
def selectDoneTimer (closed ready pick : Bool) : Sel :=
  if closed && ready then (if pick then .timer else .done)
  else if closed then .done
  else if ready then .timer
  else .block

/-- The body of the timer case up to the start of `Refresh`.  With `recheck` (the repaired
code) it begins with `select { case <-w.done: return; default: }`. -/
def timerCase (recheck : Bool) (s : St) : St × List Out :=
  if recheck && s.closed then ({ s with loop := .exited }, [])
  else ({ s with loop := .refreshing }, refreshStart .start)

/-- `waitDur = w.schedule.UntilNext(w.clock.Now())` followed by the top of the `for` loop:
`w.clock.After(waitDur)` is evaluated and the `select` is entered. -/
def loopTop (recheck : Bool) (env : Env) (s : St) : St × List Out :=
  let pre := [Out.untilNext, Out.after (env.dur s.k)]
  let s' := { s with k := s.k + 1 }
  match selectDoneTimer s.closed (env.imm s.k) (env.pick s.k) with
  | .done => ({ s' with loop := .exited }, pre)
  | .block => ({ s' with loop := .waiting }, pre)
  | .timer => ((timerCase recheck s').1, pre ++ (timerCase recheck s').2)

/-- `Start`: the loop goroutine runs up to its first blocking point. -/
def initG (recheck : Bool) (env : Env) : St × List Out :=
  loopTop recheck env { loop := .waiting, closed := false, fin := .idle, k := 0 }

/-- One event.  Events that cannot happen in the state (a tick without an armed timer, a
return without a call in flight) change nothing and produce nothing. -/
def stepG (recheck : Bool) (env : Env) (ros : Bool) (s : St) : Ev → St × List Out
  | .tick =>
    match s.loop with
    | .waiting => timerCase recheck s
    | _ => (s, [])
  | .refreshReturns .loop e =>
    match s.loop with
    | .refreshing =>
      -- `if err != nil { w.errHdlr.Handle(ctx, err) }`, then the schedule is consulted
      ((loopTop recheck env s).1, (if e ≠ 0 then [Out.handle .start e] else []) ++ (loopTop recheck env s).2)
    | _ => (s, [])
  | .refreshReturns .shutdown e =>
    match s.fin with
    | .refreshing => ({ s with fin := .returned }, [.shutdownReturns e])
    | _ => (s, [])
  | .shutdown =>
    if s.closed then (s, [.panicClose])
    else
      -- `close(w.done)`: a loop blocked in the select returns
      let s1 := { s with closed := true, loop := if s.loop = Loop.waiting then Loop.exited else s.loop }
      if ros then ({ s1 with fin := .refreshing }, refreshStart .shutdown)
      else ({ s1 with fin := .returned }, [.shutdownReturns 0])

/-- A history from a state: the final state and the outputs of every event. -/
def runFromG (recheck : Bool) (env : Env) (ros : Bool) (s : St) : List Ev → St × List (List Out)
  | [] => (s, [])
  | e :: es =>
    ((runFromG recheck env ros (stepG recheck env ros s e).1 es).1,
     (stepG recheck env ros s e).2 :: (runFromG recheck env ros (stepG recheck env ros s e).1 es).2)

/-- `Start` followed by a history; the first group of outputs belongs to `Start`. -/
def runG (recheck : Bool) (env : Env) (ros : Bool) (evs : List Ev) : St × List (List Out) :=
  ((runFromG recheck env ros (initG recheck env).1 evs).1,
   (initG recheck env).2 :: (runFromG recheck env ros (initG recheck env).1 evs).2)

/-- the repaired code -/
abbrev step := stepG true
abbrev init := initG true
abbrev runFrom := runFromG true
abbrev run := runG true

end GolibsVerif.C18
