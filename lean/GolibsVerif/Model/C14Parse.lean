/-
C14 — executable model of `time.ParseDuration` (go1.24, `src/time/format.go`), written
statement by statement after the Go source: `leadingInt`, `leadingFraction`, `unitMap`,
`ParseDuration`.  Strings are byte lists, `uint64` values are `Nat`s; every place where the
Go code can wrap (`d += v`) carries an explicit `% 2^64`, every other `uint64` expression is
guarded by the overflow tests of the Go code itself (noted at the spot), so that it cannot
wrap.

The only non-integer arithmetic of `ParseDuration` is

    v += uint64(float64(f) * (float64(unit) / scale))

with `scale` built by repeated `scale *= 10`.  It is modelled exactly: a finite non-negative
`float64` is a fraction `num/den`, and every operation (`uint64 → float64`, `*`, `/`) is the
exact rational result rounded to 53 significant bits, ties to even (`F64.round`), i.e. IEEE
754 binary64 arithmetic with an unbounded exponent.  The exponent range of a real `float64`
matters only when more than 308 fraction digits are consumed (`scale` = +Inf, quotient 0) or
the quotient is subnormal (< 2^-1022); in both cases the real product is < 1, and so is the
model's, hence `uint64(·)` is 0 on both sides.  No `float64` addition occurs, so no fused
multiply-add can be generated on any architecture.

The model is validated against the real function by the op `C14.std.parsedur` on every run.
-/
import GolibsVerif.Model.C14

namespace GolibsVerif.C14

/-! ## `float64`, as far as `ParseDuration` uses it -/

/-- a finite non-negative `float64` value: the fraction `num / den` (`den > 0`) -/
structure F64 where
  num : Nat
  den : Nat
  deriving Repr, DecidableEq

/-- `n / d` rounded to the nearest integer, ties to even -/
def roundHalfEven (n d : Nat) : Nat :=
  let q := n / d
  let r := n % d
  if 2 * r < d then q else if 2 * r > d then q + 1 else if q % 2 = 0 then q else q + 1

/-- The fraction `n / d` (`d > 0`) rounded to 53 significant bits, ties to even: with `e`
the exponent for which `2^52 ≤ (n/d) / 2^e < 2^53`, the result is
`roundHalfEven ((n/d) / 2^e) * 2^e`. -/
def F64.round (n d : Nat) : F64 :=
  if n = 0 then ⟨0, 1⟩
  else if d ≤ n then
    let lg := Nat.log2 (n / d)                 -- 2^lg ≤ n/d < 2^(lg+1)
    if lg ≤ 52 then ⟨roundHalfEven (n * 2 ^ (52 - lg)) d, 2 ^ (52 - lg)⟩
    else ⟨roundHalfEven n (d * 2 ^ (lg - 52)) * 2 ^ (lg - 52), 1⟩
  else
    -- n/d < 1: `j` is the least exponent with d ≤ n * 2^j, so 2^-j ≤ n/d < 2^(1-j)
    let g := Nat.log2 d - Nat.log2 n
    let j := if d ≤ n * 2 ^ g then g else g + 1
    ⟨roundHalfEven (n * 2 ^ (j + 52)) d, 2 ^ (j + 52)⟩

/-- `float64(x)` for a `uint64` -/
def F64.ofNat (x : Nat) : F64 := F64.round x 1

/-- `a * b` -/
def F64.mul (a b : F64) : F64 := F64.round (a.num * b.num) (a.den * b.den)

/-- `a / b` (`b ≠ 0`) -/
def F64.div (a b : F64) : F64 := F64.round (a.num * b.den) (a.den * b.num)

/-- `uint64(a)` (truncation; all values that occur are < 2^63) -/
def F64.trunc (a : F64) : Nat := a.num / a.den

def F64.one : F64 := ⟨1, 1⟩
def F64.ten : F64 := ⟨10, 1⟩

/-! ## `leadingInt`, `leadingFraction` -/

def two63 : Nat := 9223372036854775808

/-- `leadingInt(s)`: `x` is the accumulator (0 at the call); `none` = `errLeadingInt`.
`x*10 + uint64(c) - '0'` does not wrap: `x ≤ 2^63/10` at that point. -/
def leadingInt : Bytes → Nat → Option (Nat × Bytes)
  | [], x => some (x, [])
  | c :: rest, x =>
    if c < 48 ∨ c > 57 then some (x, c :: rest)
    else if x > two63 / 10 then none
    else
      let x' := x * 10 + c - 48
      if x' > two63 then none else leadingInt rest x'

/-- `leadingFraction(s)`: state `x`, `scale`, `overflow` (0, 1, false at the call).
`x*10 + uint64(c) - '0'` does not wrap: `x ≤ (2^63-1)/10` at that point. -/
def leadingFraction : Bytes → Nat → F64 → Bool → Nat × F64 × Bytes
  | [], x, scale, _ => (x, scale, [])
  | c :: rest, x, scale, overflow =>
    if c < 48 ∨ c > 57 then (x, scale, c :: rest)
    else if overflow then leadingFraction rest x scale true
    else if x > (two63 - 1) / 10 then leadingFraction rest x scale true
    else
      let y := x * 10 + c - 48
      if y > two63 then leadingFraction rest x scale true
      else leadingFraction rest y (F64.mul scale F64.ten) false

/-! ## units -/

/-- `unitMap[u]` -/
def unitOf (u : Bytes) : Option Nat :=
  if u = [110, 115] then some 1                         -- "ns"
  else if u = [117, 115] then some 1000                 -- "us"
  else if u = [0xC2, 0xB5, 115] then some 1000          -- "µs" U+00B5
  else if u = [0xCE, 0xBC, 115] then some 1000          -- "μs" U+03BC
  else if u = [109, 115] then some 1000000              -- "ms"
  else if u = [115] then some 1000000000                -- "s"
  else if u = [109] then some 60000000000               -- "m"
  else if u = [104] then some 3600000000000             -- "h"
  else none

/-- the unit scan `for ; i < len(s); i++ { if c == '.' || '0' <= c && c <= '9' { break } }`:
returns `(s[:i], s[i:])` -/
def unitSpan : Bytes → Bytes × Bytes
  | [] => ([], [])
  | c :: rest =>
    if c = 46 ∨ (48 ≤ c ∧ c ≤ 57) then ([], c :: rest)
    else let r := unitSpan rest; (c :: r.1, r.2)

/-! ## one round of the loop of `ParseDuration` -/

/-- `post := false; if s != "" && s[0] == '.' { s = s[1:]; pl := len(s);
f, scale, s = leadingFraction(s); post = pl != len(s) }`: returns `f`, `scale`, `post`, `s`
(`f = 0`, `scale = 1` are the values the variables were declared with). -/
def parseFrac (s : Bytes) : Nat × F64 × Bool × Bytes :=
  match s with
  | [] => (0, F64.one, false, s)
  | c :: t =>
    if c = 46 then
      let r := leadingFraction t 0 F64.one false
      (r.1, r.2.1, t.length != r.2.2.length, r.2.2)
    else (0, F64.one, false, s)

/-- From `// Consume unit.` to the end of the loop body except `d += v`: the unit scan, the
`unitMap` lookup, `v > 1<<63/unit`, `v *= unit`, and the fraction
`v += uint64(float64(f) * (float64(unit) / scale))` with its overflow test. -/
def parseUnit (v f : Nat) (scale : F64) (s : Bytes) : Option (Nat × Bytes) :=
  let us := unitSpan s
  if us.1 = [] then none else                          -- missing unit
  match unitOf us.1 with
  | none => none                                       -- unknown unit
  | some unit =>
    if v > two63 / unit then none else
    let v := v * unit                                  -- ≤ 2^63: no wrap
    if f > 0 then
      -- f ≤ 2^63, unit ≤ 3.6e12 and f/scale < 1: the sum stays far below 2^64
      let v := v + F64.trunc (F64.mul (F64.ofNat f) (F64.div (F64.ofNat unit) scale))
      if v > two63 then none else some (v, us.2)
    else some (v, us.2)

/-- The body of `for s != "" { … }` up to (not including) `d += v`: returns `v` and the rest
of the text; `none` = one of the `return 0, errors.New(…)`. -/
def parseGroup (s : Bytes) : Option (Nat × Bytes) :=
  match s with
  | [] => none                                         -- not reached: the loop tests `s != ""`
  | c0 :: _ =>
    -- The next character must be [0-9.]
    if ¬ (c0 = 46 ∨ (48 ≤ c0 ∧ c0 ≤ 57)) then none else
    -- Consume [0-9]*
    match leadingInt s 0 with
    | none => none
    | some (v, s1) =>
      let pre := s.length != s1.length
      -- Consume (\.[0-9]*)?
      let fr := parseFrac s1
      if !pre && !fr.2.2.1 then none                   -- no digits (e.g. ".s" or "-.s")
      else parseUnit v fr.1 fr.2.1 fr.2.2.2

/-- `for s != "" { …; d += v; if d > 1<<63 { return error } }`.  `d` and `v` are both
`≤ 2^63`, so `d += v` can reach `2^64` and wrap — the Go code does not notice that
(`"9223372036854775808ns9223372036854775808ns"` parses to 0).  The fuel is `len(s)`; every
round consumes at least one byte (the unit), so it never runs out
(`parseLoop_fuel`, `Lemmas/C14ParseLoop.lean`). -/
def parseLoop : Nat → Bytes → Nat → Option Nat
  | _, [], d => some d
  | 0, _ :: _, _ => none
  | fuel + 1, c :: rest, d =>
    match parseGroup (c :: rest) with
    | none => none
    | some (v, s') =>
      let d' := (d + v) % 18446744073709551616
      if d' > two63 then none else parseLoop fuel s' d'

/-- `ParseDuration` after `// Consume [-+]?`: the `"0"` special case, the empty text, the
loop, and the result.  For `neg`, `-Duration(d)` is the `int64` negation of the `int64`
conversion of `d ≤ 2^63` (both wrap for `d = 2^63`). -/
def parseAfterSign (neg : Bool) (s : Bytes) : Option Int :=
  -- Special case: if all that is left is "0", this is zero.
  if s = [48] then some 0
  else if s = [] then none
  else
    match parseLoop s.length s 0 with
    | none => none
    | some d =>
      if neg then some (wrap64 (- wrap64 (d : Int)))
      else if d > two63 - 1 then none
      else some (d : Int)

/-- `time.ParseDuration(s)`; `none` = error.
`if s != "" { c := s[0]; if c == '-' || c == '+' { neg = c == '-'; s = s[1:] } }` -/
def parseDuration (s : Bytes) : Option Int :=
  match s with
  | [] => parseAfterSign false s
  | c :: t => if c = 45 ∨ c = 43 then parseAfterSign (c == 45) t else parseAfterSign false s

end GolibsVerif.C14
