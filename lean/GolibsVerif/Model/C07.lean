/-
C07 — executable model of `/repo/hostsfile/record.go`: `cutField`, `cutStringField`,
`(*Record).UnmarshalText` (both passes, as written) and `Record.MarshalText`.

Parameters: `toASCII` (golang.org/x/net/idna.ToASCII, consumed by the C03 model of
`netutil.ValidateDomainName`), `formatAddr` (`netip.Addr.MarshalText`; the theorems and the
driver instantiate it with the model `Netip.addrMarshalText` of `Go/NetipFmt.lean`, which is
`Addr.String()` for every valid address and is proved to be inverted by the parser model:
the contract ADDR-RT, `addr_roundtrip` in `Theorems/C07.lean`).  `netip.ParseAddr` is the Lean
model of `Go/Netip.lean`.

`bytes.IndexAny`, `bytes.Trim`, `bytes.TrimLeft` (and their `strings` twins) are modelled
byte-wise, which is what the Go functions do for an ASCII-only cutset (`gen/c07.go` checks
that `hostsfile.spaces` is ASCII-only and regenerates it into `Gen/C07.lean`).

Index and slice expressions go through `GoM`.  The validation loop is a well-founded
recursion on the length of the remaining tail; the measure decreases because a non-empty
field was cut off (`cut_tail_lt`, proved below from the normal form `cut_eq`).
-/
import GolibsVerif.Go.Netip
import GolibsVerif.Model.NetAddr
import GolibsVerif.Lemmas.GoM
import GolibsVerif.Gen.C07

namespace GolibsVerif.C07
open GolibsVerif GolibsVerif.Str GolibsVerif.Netutil GolibsVerif.Netip

/-! ### `bytes` / `strings` functions over an ASCII cutset -/

/-- membership in a cutset -/
def inSet (cs : Bytes) (b : Nat) : Bool := cs.contains b

/-- `bytes.IndexAny(s, cs)` / `strings.IndexAny` for an ASCII-only `cs` (−1 when absent) -/
def indexAnyFrom (cs : Bytes) : Bytes → Nat → Int
  | [], _ => -1
  | b :: rest, i => if inSet cs b then (i : Int) else indexAnyFrom cs rest (i + 1)

def indexAny (s cs : Bytes) : Int := indexAnyFrom cs s 0

/-- `bytes.TrimLeft(s, cs)` for an ASCII-only `cs` -/
def trimLeft (s cs : Bytes) : Bytes := s.dropWhile (inSet cs)

/-- `bytes.TrimRight(s, cs)` for an ASCII-only `cs` -/
def trimRight (s cs : Bytes) : Bytes := (s.reverse.dropWhile (inSet cs)).reverse

/-- `bytes.Trim(s, cs)` for an ASCII-only `cs` (`trimRightASCII(trimLeftASCII(s))`) -/
def trim (s cs : Bytes) : Bytes := trimRight (trimLeft s cs) cs

/-- `hostsfile.spaces`, regenerated from the source -/
def spaces : Bytes := GolibsVerif.Gen.C07.spaces

def isSpace (b : Nat) : Bool := inSet spaces b

/-- the comment character `'#'` -/
def hash : Nat := 35

/-! ### `cutField` / `cutStringField` -/

/-- `cutField(data)`.  (`tail` is `nil` in the first branch; the callers only look at
`len(tail)`, so `nil` and the empty slice are the same value here.) -/
def cutField (data : Bytes) : GoM (Bytes × Bytes) :=
  let endIdx := indexAny data spaces
  if endIdx < 0 then pure (data, [])
  else do
    let field ← GoM.sliceTo data endIdx
    let rest ← GoM.sliceFrom data endIdx
    pure (field, trimLeft rest spaces)

/-- `cutStringField(data)`: the same code on a `string`. -/
def cutStringField (data : Bytes) : GoM (Bytes × Bytes) :=
  let endIdx := indexAny data spaces
  if endIdx < 0 then pure (data, [])
  else do
    let field ← GoM.sliceTo data endIdx
    let rest ← GoM.sliceFrom data endIdx
    pure (field, trimLeft rest spaces)

/-! #### normal form of the cut (needed for the termination of the validation loop) -/

theorem indexAnyFrom_spec (cs : Bytes) (s : Bytes) (i : Nat) :
    (indexAnyFrom cs s i = -1 ∧ s.takeWhile (fun b => !inSet cs b) = s) ∨
    (indexAnyFrom cs s i = ((i + (s.takeWhile (fun b => !inSet cs b)).length : Nat) : Int)) := by
  induction s generalizing i with
  | nil => left; simp [indexAnyFrom]
  | cons b r ih =>
    unfold indexAnyFrom
    by_cases h : inSet cs b = true
    · right; simp [h, List.takeWhile]
    · simp only [h]
      have hb : inSet cs b = false := by simpa using h
      rcases ih (i + 1) with ⟨h1, h2⟩ | h1
      · left; exact ⟨h1, by simp [List.takeWhile, hb, h2]⟩
      · right; rw [h1]; simp [List.takeWhile, hb]; omega

/-- the non-blank predicate -/
def nsp (b : Nat) : Bool := !isSpace b

theorem cut_eq (data : Bytes) :
    cutField data = .ok (data.takeWhile nsp, trimLeft (data.dropWhile nsp) spaces) := by
  have hsplit := List.takeWhile_append_dropWhile (p := nsp) (l := data)
  have hidx := indexAnyFrom_spec spaces data 0
  unfold cutField indexAny
  rw [show (fun b => !inSet spaces b) = nsp from rfl] at hidx
  generalize data.takeWhile nsp = a at hsplit hidx
  generalize data.dropWhile nsp = b at hsplit
  subst hsplit
  rcases hidx with ⟨h1, h2⟩ | h1
  · have hb : b = [] := by simpa using h2
    subst hb
    rw [List.append_nil] at h1 ⊢
    simp [h1, trimLeft, pure, Except.pure]
  · have hnn : ¬ (((0 + a.length : Nat) : Int) < 0) := by omega
    rw [h1, if_neg hnn, Nat.zero_add, GoM.sliceTo_append_len, GoM.sliceFrom_append_len]
    rfl

theorem cutString_eq (data : Bytes) :
    cutStringField data = .ok (data.takeWhile nsp, trimLeft (data.dropWhile nsp) spaces) :=
  cut_eq data

/-- cutting a non-empty field off makes the tail strictly shorter -/
theorem cut_tail_lt {t f t' : Bytes} (h : cutStringField t = .ok (f, t')) (hf : f ≠ []) :
    t'.length < t.length := by
  rw [cutString_eq] at h
  injection h with h
  injection h with h1 h2
  subst h1 h2
  have h1 : (trimLeft (t.dropWhile nsp) spaces).length ≤ (t.dropWhile nsp).length :=
    List.IsSuffix.length_le (List.dropWhile_suffix _)
  have h2 := congrArg List.length (List.takeWhile_append_dropWhile (p := nsp) (l := t))
  have h3 : 0 < (t.takeWhile nsp).length := List.length_pos_iff.2 hf
  simp only [List.length_append] at h2
  omega

/-! ### `Record` and its errors -/

/-- `hostsfile.Record` -/
structure Record where
  addr : Addr
  source : Bytes
  names : List Bytes
  deriving Repr

/-- the errors `UnmarshalText` returns -/
inductive RecErr where
  | emptyLine                       -- ErrEmptyLine
  | noHosts                         -- ErrNoHosts
  | addrParse                       -- whatever netip.ParseAddr returned
  | name (idx : Nat) (e : Err)      -- fmt.Errorf("name at index %d: %w", idx, e)
  deriving Repr

/-- `(*netip.Addr).UnmarshalText(text)`: the new value of `*ip` and whether an error was
returned. -/
def addrUnmarshalText (text : Bytes) : Addr × Bool :=
  if text.length = 0 then (.invalid, false)
  else match parseAddr text with
    | some a => (a, false)
    | none => (.invalid, true)

set_option linter.unusedVariables false in
/-- The first pass,
`for f, t := cutStringField(hosts); f != ""; f, t = cutStringField(t) { … n++ }`,
entered with the current tail; returns `n`, the error, and (ghost) the fields that passed
validation, in order. -/
def validateLoop (toASCII : Bytes → Option Bytes) (t : Bytes) (n : Nat) (seen : List Bytes) :
    GoM (Nat × Option RecErr × List Bytes) :=
  match h : cutStringField t with
  | .error p => .error p
  | .ok (f, t') =>
    if hf : f = [] then pure (n, none, seen)
    else
      match validateDomainName toASCII f with
      | .error p => .error p
      | .ok (some e) => pure (n, some (.name n e), seen)
      | .ok none => validateLoop toASCII t' (n + 1) (seen ++ [f])
termination_by t.length
decreasing_by exact cut_tail_lt h hf

/-- The second pass, `for i := range rec.Names { rec.Names[i], hosts = cutStringField(hosts) }`
with `len(rec.Names) = n`. -/
def fillNames : Nat → Bytes → GoM (List Bytes)
  | 0, _ => pure []
  | n + 1, hosts => do
    let (f, t) ← cutStringField hosts
    let rest ← fillNames n t
    pure (f :: rest)

/-- `if commIdx := bytes.IndexByte(data, '#'); commIdx >= 0 { data = data[:commIdx] }` -/
def cutComment (data : Bytes) : GoM Bytes :=
  let commIdx := indexByte data hash
  if commIdx ≥ 0 then GoM.sliceTo data commIdx else pure data

/-- `(*Record).UnmarshalText(data)`: the record after the call and the returned error. -/
def unmarshalText (toASCII : Bytes → Option Bytes) (r : Record) (data : Bytes) :
    GoM (Record × Option RecErr) := do
  let data ← cutComment data
  let (field, data) ← cutField (trim data spaces)
  if field.length = 0 then return (r, some .emptyLine)
  if data.length = 0 then return (r, some .noHosts)
  let (a, bad) := addrUnmarshalText field
  let r := { r with addr := a }
  if bad then return (r, some .addrParse)
  let hosts := data
  let (n, err, _) ← validateLoop toASCII hosts 0 []
  let names ← fillNames n hosts
  return ({ r with names := names }, err)

/-- `Record.MarshalText()` (`slices.Grow` / `slices.Clip` only touch the capacity; the grown
size is a sum of lengths, never negative, so `Grow` does not panic). -/
def marshalText (formatAddr : Addr → Bytes) (r : Record) : Bytes :=
  r.names.foldl (fun data name => data ++ [32] ++ name) (formatAddr r.addr)

end GolibsVerif.C07
