/-
C09 — property theorems about the FRAMED transition system (`Model/C09Frames.lean`).

A *framed execution* is `FTrace c FSt.init flog σ`: from the empty cache with no call
pending, any sequence of `call` labels (a `Set(k, v)` call is made and becomes a frame) and
sections — of a frame, in the order the code of `cache.Set` prescribes for THAT frame, or of a
one-section call (`Get`, `Del`, `Clear`, `Stats`) — in any interleaving whatever.  That covers
other goroutines and the calls a callback makes from inside `OnDelete`, to any depth.
-/
import GolibsVerif.Lemmas.C09Frames
import GolibsVerif.Lemmas.C09FramesRun
import GolibsVerif.Theorems.C09

namespace GolibsVerif.C09

/-- **Every framed execution is a history of the frameless system**: forgetting the frames
(dropping `call` labels, keeping each section's event and the cache after it) gives a `Trace`
of `CStep` from the empty cache to the final cache.  Nothing is assumed about the
configuration. -/
theorem frames_refine_steps {c : Conf} {flog : List FRec} {σ : FSt}
    (ht : FTrace c FSt.init flog σ) : Trace c St.init (projLog flog) σ.cache :=
  (ftrace_proj ht (FramesOk.init c)).2

/-- transfer of `inv_reachable`: the cache invariant holds in the final state and after every
section of every framed execution -/
theorem inv_reachable_framed {c : Conf} {flog : List FRec} {σ : FSt}
    (ht : FTrace c FSt.init flog σ) :
    Inv c σ.cache ∧ ∀ r ∈ flog, Inv c r.after.cache := by
  have hinit : ∀ {l : List FRec} {σ : FSt}, FTrace c FSt.init l σ → Inv c σ.cache :=
    fun h => (inv_reachable (frames_refine_steps h)).1
  refine ⟨hinit ht, ?_⟩
  intro r hr
  obtain ⟨pre, post, rfl⟩ := List.append_of_mem hr
  obtain ⟨σ0, hpre, hstep, _⟩ := ftrace_split (ev := r.ev) (σ1 := r.after) ht
  exact hinit (ftrace_append hpre (ftrace_single hstep))

/-- transfer of `stats_bounded`: what any `Stats()` call observes, wherever it falls between
the sections of the pending `Set` frames -/
theorem stats_bounded_framed {c : Conf} {pre post : List FRec} {who : Option Nat} {st : Stats}
    {σ1 σ : FSt} (ht : FTrace c FSt.init (pre ++ ⟨.sec who (.stats st), σ1⟩ :: post) σ) :
    st.count = (absOf c.lru (evsOf (projLog pre))).live.length ∧ st.count ≤ c.maxCount ∧
    st.size = aSize (absOf c.lru (evsOf (projLog pre))).live ∧ st.size ≤ c.maxSize := by
  have := frames_refine_steps ht
  rw [projLog_sec] at this
  exact stats_bounded this

/-- transfer of `get_latest` -/
theorem get_latest_framed {c : Conf} {pre post : List FRec} {who : Option Nat} {k : Bytes}
    {r : Option Bytes} {σ1 σ : FSt}
    (ht : FTrace c FSt.init (pre ++ ⟨.sec who (.get k r), σ1⟩ :: post) σ) :
    r = lastSurviving (evsOf (projLog pre)) k := by
  have := frames_refine_steps ht
  rw [projLog_sec] at this
  exact get_latest this

/-! ### `OnDelete`, per frame -/

/-- **`OnDelete` exactly once per eviction, by the evicting frame, before its next section.**
For every frame `i` of every framed execution: the sections of frame `i`, followed by the
`OnDelete` call it still owes at the end of the execution (if it stopped between an eviction
and the callback), satisfy the `OnDelete` discipline `cbOK` of `Spec/C09.lean` — with a
callback configured every `evict k v` of the frame is immediately followed (in the frame) by
`onDelete k v`, and no `onDelete` of the frame occurs anywhere else; without a callback there
is none.  And no `OnDelete` is ever called by anything but a `Set` frame. -/
theorem onDelete_once_framed {c : Conf} {flog : List FRec} {σ : FSt}
    (ht : FTrace c FSt.init flog σ) :
    (∀ i, cbOK c.hasCb (secsOf i flog ++ owed σ i) = true) ∧
    (∀ r ∈ flog, ∀ k v, r.ev ≠ .sec none (.onDelete k v)) := by
  constructor
  · intro i
    rw [cbOK, cbScan_iff_run, cbRun_append]
    rw [show cbRun c.hasCb none (secsOf i flog) = _ from frame_run ht i]
    exact cbRun_owed _ _
  · intro r hr k v hev
    obtain ⟨pre, post, rfl⟩ := List.append_of_mem hr
    obtain ⟨σ0, _, hstep, _⟩ := ftrace_split (ev := r.ev) (σ1 := r.after) ht
    rw [hev] at hstep
    cases hstep

/-- positionally, forwards: with a callback configured, an eviction of `(k, v)` by frame `i`
is followed, as the next section of frame `i`, by `onDelete k v`, and the section of frame
`i` after that (if any) is not another `onDelete`; or the execution ends before frame `i`
runs again, and then frame `i` is in phase `cb k v`, owing exactly that call.  Sections of
other frames may come in between. -/
theorem evict_then_onDelete_framed {c : Conf} (hcb : c.hasCb = true) {pre post : List FRec}
    {who : Option Nat} {k v : Bytes} {σ1 σ : FSt}
    (ht : FTrace c FSt.init (pre ++ ⟨.sec who (.evict k v), σ1⟩ :: post) σ) :
    ∃ i, who = some i ∧
      ((∃ rest, secsOf i post = .onDelete k v :: rest ∧
          ∀ k' v', rest.head? ≠ some (.onDelete k' v')) ∨
       (secsOf i post = [] ∧ σ.phaseAt i = some (.cb k v))) := by
  obtain ⟨σ0, _, hstep, hpost⟩ := ftrace_split ht
  cases hstep with
  | evict i f s' e hf hh hfull he =>
    refine ⟨i, rfl, ?_⟩
    have hrun := frame_run hpost i
    rw [move_phaseAt _ _ hf] at hrun
    simp only [if_true, hcb, pendOf] at hrun
    cases hsec : secsOf i post with
    | nil =>
      rw [hsec] at hrun
      exact .inr ⟨rfl, pendOf_eq_some (Option.some.inj hrun).symm⟩
    | cons x xs =>
      rw [hsec] at hrun
      obtain ⟨q, hq, hxs⟩ := Option.bind_eq_some_iff.1 hrun
      obtain ⟨rfl, rfl⟩ := cbNext_some hq
      exact .inl ⟨xs, rfl, cbRun_none_head hxs⟩

/-- positionally, backwards: every `OnDelete(k, v)` call in a framed execution is made by a
`Set` frame `i`, a callback is configured, and the section of frame `i` before it is the
eviction of exactly `(k, v)` -/
theorem onDelete_after_evict_framed {c : Conf} {pre post : List FRec} {who : Option Nat}
    {k v : Bytes} {σ1 σ : FSt}
    (ht : FTrace c FSt.init (pre ++ ⟨.sec who (.onDelete k v), σ1⟩ :: post) σ) :
    ∃ i, who = some i ∧ c.hasCb = true ∧ (secsOf i pre).getLast? = some (.evict k v) := by
  obtain ⟨σ0, hpre, hstep, _⟩ := ftrace_split ht
  cases hstep with
  | onDelete i f _ _ hf hp =>
    refine ⟨i, rfl, ?_⟩
    have hrun := frame_run hpre i
    rw [phaseAt_of_get hf, hp] at hrun
    rcases cbRun_to_some _ _ _ _ _ hrun with ⟨_, hnone⟩ | ⟨hl, hh⟩
    · cases hnone
    · exact ⟨hh, hl⟩

/-! ### Evictions only while the frame's own `Set` does not fit -/

/-- **A frame evicts only while its own `Set` does not fit**, "fit" being evaluated on the
cache as it is when the section runs — i.e. after everything the callbacks of this and of other
frames, and other goroutines, have done in between (`σ0` is the state reached by the whole
prefix `pre`).  The evicting label belongs to a frame `i` that was created by a
`call i key val` label of the prefix; LRU is on; `|key| + |val| ≤ MaxElementSize`; the loop
condition `size + |key| + |val| > MaxSize || count == MaxCount` holds for THAT key and value
in `σ0` — equivalently, in terms of the reference map run over the history so far; and the
entry dropped is the least recently used one. -/
theorem evict_only_when_needed_framed {c : Conf} {pre post : List FRec} {who : Option Nat}
    {k v : Bytes} {σ1 σ : FSt}
    (ht : FTrace c FSt.init (pre ++ ⟨.sec who (.evict k v), σ1⟩ :: post) σ) :
    ∃ i f σ0, who = some i ∧ FTrace c FSt.init pre σ0 ∧ σ0.frames[i]? = some f ∧
      (∃ p1 p2 σc, pre = p1 ++ ⟨.call i f.key f.val, σc⟩ :: p2) ∧
      c.lru = true ∧ f.key.length + f.val.length ≤ c.maxElem ∧
      full c σ0.cache (f.key.length + f.val.length) = true ∧
      (aSize (absOf c.lru (evsOf (projLog pre))).live + (f.key.length + f.val.length) > c.maxSize ∨
        (absOf c.lru (evsOf (projLog pre))).live.length = c.maxCount) ∧
      (absOf c.lru (evsOf (projLog pre))).live.head? = some (k, v) := by
  obtain ⟨σ0, hpre, hok, h0, ha0, hstep, _⟩ := fstep_in_history ht
  cases hstep with
  | evict i f s' e hf hh hfull he =>
    obtain ⟨hadd, hor⟩ := atLoopHead_ok (hok i f hf) hh
    obtain ⟨hsz, hcnt⟩ := ha0.size_count h0
    refine ⟨i, f, σ0, rfl, hpre, hf, frame_origin hpre i f hf, lru_of_full hor hfull, hadd, hfull,
      ?_, ?_⟩
    · rw [hsz, hcnt]
      exact full_eq_true.1 hfull
    · rw [← ha0.live, (evictOne_ok he).1]; rfl

/-- **A frame stores only when its `Set` fits** at that moment: the storing label
`commit k v r` belongs to a frame created by `call i k v`, and the loop condition is false for
`(k, v)` in the cache as left by the whole prefix. -/
theorem commit_only_when_fits_framed {c : Conf} {pre post : List FRec} {who : Option Nat}
    {k v : Bytes} {r : Bool} {σ1 σ : FSt}
    (ht : FTrace c FSt.init (pre ++ ⟨.sec who (.commit k v r), σ1⟩ :: post) σ) :
    ∃ i σ0, who = some i ∧ FTrace c FSt.init pre σ0 ∧
      (∃ p1 p2 σc, pre = p1 ++ ⟨.call i k v, σc⟩ :: p2) ∧
      k.length + v.length ≤ c.maxElem ∧ full c σ0.cache (k.length + v.length) = false ∧
      aSize (absOf c.lru (evsOf (projLog pre))).live + (k.length + v.length) ≤ c.maxSize ∧
      (absOf c.lru (evsOf (projLog pre))).live.length ≠ c.maxCount := by
  obtain ⟨σ0, hpre, hok, h0, ha0, hstep, _⟩ := fstep_in_history ht
  cases hstep with
  | commit i f s' _ hf hh hfull hc =>
    obtain ⟨hadd, _⟩ := atLoopHead_ok (hok i f hf) hh
    refine ⟨i, σ0, rfl, hpre, frame_origin hpre i f hf, hadd, hfull, ?_⟩
    obtain ⟨hsz, hcnt⟩ := ha0.size_count h0
    rw [hsz, hcnt]
    exact full_eq_false.1 hfull

/-- **The check is re-evaluated at every loop head, and it alone decides**: a frame at the
head of the loop (first section past the refusal tests, or back from a callback) that runs a
section evicts if `full` holds for its key and value in the present cache, and stores if it
does not — whatever happened since the frame last looked. -/
theorem loop_head_decides {c : Conf} {σ σ' : FSt} {i : Nat} {f : Frame} {ev : Ev}
    (hf : σ.frames[i]? = some f) (hh : f.atLoopHead c σ.cache)
    (hs : FStep c σ (.sec (some i) ev) σ') :
    (full c σ.cache f.add = true → ∃ k v, ev = .evict k v) ∧
    (full c σ.cache f.add = false → ∃ r, ev = .commit f.key f.val r) := by
  obtain ⟨g, _, _, hg, hsec, _⟩ := fstep_set_inv hs
  obtain rfl : g = f := Option.some.inj (hg.symm.trans hf)
  cases hsec with
  | refuse hp hc =>
    rcases hh with ⟨_, hpr⟩ | hl
    · exact absurd hpr hc
    · rw [hp] at hl; cases hl
  | evict s' e _ hfull _ => exact ⟨fun _ => ⟨_, _, rfl⟩, fun h => (by rw [hfull] at h; cases h)⟩
  | onDelete k v hp => rcases hh with ⟨hs', _⟩ | hl <;> simp [hp] at *
  | commit s' r _ hfull _ => exact ⟨fun h => (by rw [hfull] at h; cases h), fun _ => ⟨_, rfl⟩⟩

/-- **No pending frame is ever stuck.**  In every state of every framed execution (normalised
configuration), every frame that has not returned can run its next step: the guards of the
framed system do not exclude anything the code would do, the eviction loop never reaches the
list sentinel and no `listUnlink` touches an unlinked item, whatever the interleaving. -/
theorem frame_progress {c : Conf} (ok : ConfOk c) {flog : List FRec} {σ : FSt}
    (ht : FTrace c FSt.init flog σ) {i : Nat} {f : Frame} (hf : σ.frames[i]? = some f)
    (hnd : f.phase ≠ .done) : ∃ ev σ', FStep c σ (.sec (some i) ev) σ' := by
  obtain ⟨hok, htr⟩ := ftrace_proj ht (FramesOk.init c)
  have hinv : Inv c σ.cache := (inv_reachable htr).1
  obtain ⟨hev, ⟨s2, r2, hcm⟩, _, _⟩ := sections_total ok hinv f.key f.val
  have head : f.atLoopHead c σ.cache → ∃ ev σ', FStep c σ (.sec (some i) ev) σ' := by
    intro hh
    obtain ⟨hadd, hor⟩ := atLoopHead_ok (hok i f hf) hh
    cases hfull : full c σ.cache f.add with
    | true =>
      obtain ⟨s', e, he⟩ := hev f.add (lru_of_full hor hfull) hadd hfull
      exact ⟨_, _, FStep.evict σ i f s' e hf hh hfull he⟩
    | false => exact ⟨_, _, FStep.commit σ i f s2 r2 hf hh hfull hcm⟩
  cases hp : f.phase with
  | start =>
    by_cases hc : setCheck c σ.cache f.key f.val = .proceed
    · exact head (Or.inl ⟨hp, hc⟩)
    · exact ⟨_, _, FStep.refuse σ i f hf hp hc⟩
  | cb k v => exact ⟨_, _, FStep.onDelete σ i f k v hf hp⟩
  | loop => exact head (Or.inr hp)
  | done => exact absurd hp hnd

/-- **Every script of the nested interpreter is a framed execution.**  For every configuration
`New` accepts and every script (any calls, any callback behaviour, re-entrant to any depth),
`runScript` returns, and its log is the projection of a framed execution from the empty cache
in which every `Set` is a `call` label followed by the sections of its own frame, what a
callback does runs as further frames between the caller's `onDelete` label and its next
section, and at the end every frame has returned.  So the framed theorems above speak about
exactly the histories the differential tie compares with the Go code. -/
theorem run_is_framed (r : RawConf) (ops : List Op) :
    ∃ s log flog σ, runScript r ops = .ok (s, log) ∧ FTrace (newConf r) FSt.init flog σ ∧
      projLog flog = log ∧ σ.cache = s ∧ ∀ f ∈ σ.frames, f.phase = .done := by
  obtain ⟨s, log, hr, _, _, flog, extra, ht, hp, hd⟩ := script_ok r ops
  exact ⟨s, log, flog, _, hr, ht, hp, rfl, fun f hmem => hd f (by simpa [FSt.init] using hmem)⟩

/-! ### Non-vacuity: an execution with two interleaved frames -/

def exConf : Conf := { maxSize := 4, maxElem := 4, maxCount := 2, lru := true, hasCb := true }

/-- MaxSize 4, MaxCount 2, LRU, callback.  Frame 2 (`Set(03, 03)`) evicts `(01, 02)`; before it
gets to call `OnDelete`, another goroutine's `Set(09, 09)` (frame 3) is made and stores —
filling the cache again; frame 2 then calls `OnDelete(01, 02)`, re-evaluates the loop
condition, finds the cache full once more and evicts `(02, 02)`; a `Get` runs between that
eviction and its callback; then `OnDelete(02, 02)`, and at last the `Set` fits and stores. -/
example : ∃ flog σ, FTrace exConf FSt.init flog σ ∧
    flog.map (·.ev) =
      [.call 0 [1] [2], .sec (some 0) (.commit [1] [2] false),
       .call 1 [2] [2], .sec (some 1) (.commit [2] [2] false),
       .call 2 [3] [3], .sec (some 2) (.evict [1] [2]),
       .call 3 [9] [9], .sec (some 3) (.commit [9] [9] false),
       .sec (some 2) (.onDelete [1] [2]),
       .sec (some 2) (.evict [2] [2]), .sec none (.get [9] (some [9])), .sec (some 2) (.onDelete [2] [2]),
       .sec (some 2) (.commit [3] [3] false)] := by
  refine ⟨_, _,
    .cons (.call _ [1] [2]) <|
    .cons (.commit _ 0 ⟨[1], [2], .start⟩ _ false rfl (Or.inl ⟨rfl, by decide⟩) (by decide) rfl) <|
    .cons (.call _ [2] [2]) <|
    .cons (.commit _ 1 ⟨[2], [2], .start⟩ _ false rfl (Or.inl ⟨rfl, by decide⟩) (by decide) rfl) <|
    .cons (.call _ [3] [3]) <|
    .cons (.evict _ 2 ⟨[3], [3], .start⟩ _ ⟨[1], [2], true⟩ rfl (Or.inl ⟨rfl, by decide⟩) (by decide) rfl) <|
    .cons (.call _ [9] [9]) <|
    .cons (.commit _ 3 ⟨[9], [9], .start⟩ _ false rfl (Or.inl ⟨rfl, by decide⟩) (by decide) rfl) <|
    .cons (.onDelete _ 2 ⟨[3], [3], .cb [1] [2]⟩ [1] [2] rfl rfl) <|
    .cons (.evict _ 2 ⟨[3], [3], .loop⟩ _ ⟨[2], [2], true⟩ rfl (Or.inr rfl) (by decide) rfl) <|
    .cons (.get _ _ [9] (some [9]) rfl) <|
    .cons (.onDelete _ 2 ⟨[3], [3], .cb [2] [2]⟩ [2] [2] rfl rfl) <|
    .cons (.commit _ 2 ⟨[3], [3], .loop⟩ _ false rfl (Or.inr rfl) (by decide) rfl) <|
    .nil _, rfl⟩
end GolibsVerif.C09
