/-
C01 — text-consuming APIs are total.

`Gen/C01Inventory.lean` is regenerated from /repo on every run: every exported function and
method of netutil, hostsfile, urlutil, stringutil, timeutil with its input kinds and the
hazard sites (index, slice, single-value type assertion, explicit panic, non-range loop,
division) reachable from it through golibs code.  This file
  * names, for every input-consuming entry that has a hazard, the kernel-checked totality
    theorem about its model (`covered`);
  * proves `inventory_covered` over the regenerated table, so that a new exported
    function, or a wrapper that acquires an index expression, breaks an obligation;
  * restates the totality theorems as corollaries (so their axioms are audited here).
-/
import GolibsVerif.Gen.C01Inventory
import GolibsVerif.Lemmas.C01
import GolibsVerif.Theorems.C02
import GolibsVerif.Theorems.C02IP
import GolibsVerif.Theorems.C03
import GolibsVerif.Theorems.C04
import GolibsVerif.Theorems.C05
import GolibsVerif.Theorems.C06
import GolibsVerif.Theorems.C07
import GolibsVerif.Theorems.C08
import GolibsVerif.Theorems.C12
import GolibsVerif.Theorems.C13
import GolibsVerif.Theorems.C14

namespace GolibsVerif.C01
open GolibsVerif GolibsVerif.Gen.C01Inventory

/-- the kinds of caller-supplied input the property quantifies over -/
def inputKinds : List String := ["text", "netip", "url", "reader"]

def consumesInput (e : Entry) : Bool := e.consumes.any (fun k => inputKinds.contains k)

/-- entries whose model has a totality theorem below -/
def covered : List String := [
  "netutil.ValidateDomainName", "netutil.ValidateHostname", "netutil.ValidateSRVDomainName",
  "netutil.ValidateHostnameLabel", "netutil.ValidateTLDLabel", "netutil.ValidateServiceNameLabel",
  "netutil.IsValidHostname", "netutil.IsValidHostnameLabel",
  "netutil.IsValidIPString", "netutil.IsValidIPPortString",
  "netutil.IsLocallyServed", "netutil.IsSpecialPurpose",
  "netutil.IPToAddr", "netutil.IPToAddrNoMapped",
  "netutil.IsSubdomain", "netutil.IsImmediateSubdomain", "netutil.Subdomains", "netutil.ParseIPv4",
  "netutil.CloneIPs",
  "stringutil.ContainsFold", "stringutil.SplitTrimmed",
  "urlutil.URL.UnmarshalJSON",
  "netutil.IPFromReversedAddr", "netutil.IPToReversedAddr",
  "netutil.ExtractReversedAddr", "netutil.PrefixFromReversedAddr",
  "hostsfile.Record.UnmarshalText", "hostsfile.Parse",
  "netutil.IPNetToPrefix", "netutil.IPNetToPrefixNoMapped"]

/-- modelled and tied by the correspondence check but without a totality theorem here: none -/
def pending : List String := []

def entryOK (e : Entry) : Bool :=
  !consumesInput e || e.hazards.isEmpty || covered.contains e.name || pending.contains e.name

theorem inventory_check : inventory.all entryOK = true := by decide +kernel

/-- Every exported, input-consuming function of the five packages either has no hazard site
at all (nothing in it or its golibs callees can panic or loop), or is in `covered`, i.e. has a
totality theorem below. -/
theorem inventory_covered (e : Entry) (he : e ∈ inventory) (hc : consumesInput e = true) :
    e.hazards = [] ∨ e.name ∈ covered := by
  have := List.all_eq_true.1 inventory_check e he
  simp only [entryOK, hc, Bool.not_true, Bool.false_or, Bool.or_eq_true, List.isEmpty_iff,
    List.contains_iff_mem] at this
  rcases this with (h | h) | h
  · exact Or.inl h
  · exact Or.inr h
  · exact absurd h (by simp [pending])

/-- the inventory really contains input-consuming, hazard-bearing entries -/
theorem inventory_nontrivial :
    (inventory.filter (fun e => consumesInput e && !e.hazards.isEmpty)).length ≥ 25 := by decide +kernel

open GolibsVerif.Netutil in
/-- `ValidateDomainName`, `ValidateHostname`, `ValidateSRVDomainName` and the label validators
never panic (any input, any `idna.ToASCII`). -/
theorem validators_never_panic (toASCII : Bytes → Option Bytes) (s : Bytes) :
    (∃ r, validateHostname toASCII s = .ok r) ∧ (∃ r, validateDomainName toASCII s = .ok r) ∧
    (∃ r, validateSRVDomainName toASCII s = .ok r) ∧ (∃ r, validateHostnameLabel s = .ok r) ∧
    (∃ r, validateTLDLabel s = .ok r) ∧ (∃ r, validateServiceNameLabel s = .ok r) :=
  let ⟨a, b, c⟩ := C03.validators_total toASCII s
  ⟨a, b, c, C03.label_validators_total s⟩

open GolibsVerif.Netutil in
theorem isValid_never_panic (toASCII : Bytes → Option Bytes) (s : Bytes) :
    (∃ b, isValidHostname toASCII s = .ok b) ∧ (∃ b, isValidHostnameLabel s = .ok b) ∧
    (∃ b, isValidIPString s = .ok b) ∧ (∃ b, isValidIPPortString s = .ok b) :=
  ⟨(C02.isValidHostname_iff toASCII s).1, (C02.isValidHostnameLabel_iff s).1,
   ⟨_, C02.isValidIPString_iff s⟩, ⟨_, C02.isValidIPPortString_iff s⟩⟩

theorem subnet_predicates_never_panic (x : C06.Addr) :
    (∃ b, C06.isLocallyServed x = .ok b) ∧ (∃ b, C06.isSpecialPurpose x = .ok b) := by
  constructor
  · by_cases h : x.InDoc Gen.Subnets.locallyServedDoc
    · exact ⟨true, (C06.isLocallyServed_iff x).1.2 h⟩
    · exact ⟨false, (C06.isLocallyServed_iff x).2.2 h⟩
  · by_cases h : x.InDoc Gen.Subnets.specialPurposeDoc
    · exact ⟨true, (C06.isSpecialPurpose_iff x).1.2 h⟩
    · exact ⟨false, (C06.isSpecialPurpose_iff x).2.2 h⟩

open GolibsVerif.Netutil in
theorem small_netutil_never_panic (d t : Bytes) (netParseIP : Bytes → Option Bytes) (ips : Option (List Bytes)) :
    (∃ b, isSubdomain d t = .ok b) ∧ (∃ b, isImmediateSubdomain d t = .ok b) ∧
    (∃ r, subdomains d = .ok r) ∧ (∃ r, parseIPv4 netParseIP d = .ok r) ∧ (∃ r, cloneIPs ips = .ok r) :=
  ⟨isSubdomain_total d t, isImmediateSubdomain_total d t, subdomains_total d, parseIPv4_total netParseIP d,
   cloneIPs_total ips⟩

open GolibsVerif.Netutil in
/-- `IPFromReversedAddr` and `IPToReversedAddr` never panic (any input, any `idna.ToASCII`) -/
theorem arpa_codec_never_panics (toASCII : Bytes → Option Bytes) (s ip : Bytes) (hip : ∀ b ∈ ip, b < 256) :
    (∃ r, ipFromReversedAddr toASCII s = .ok r) ∧ (∃ r, ipToReversedAddr ip = .ok r) := by
  obtain ⟨r, hr, _⟩ := C04.ipFromReversedAddr_total toASCII s
  refine ⟨⟨r, hr⟩, ?_⟩
  have hne := (C04.encode_canon ip hip).2.2.2
  cases h : ipToReversedAddr ip with
  | ok v => exact ⟨v, rfl⟩
  | error e => exact absurd h (hne e)

open GolibsVerif.Netutil in
/-- `PrefixFromReversedAddr` never panics (any input, any `idna.ToASCII`); `ExtractReversedAddr`
never panics provided `idna.ToASCII` keeps a leading dot (contract `hDot`; without it the
model does reach an out-of-range index, see `Theorems/C05.lean`). -/
theorem arpa_prefix_never_panics (toASCII : Bytes → Option Bytes)
    (hDot : ∀ s t, toASCII s = some t → s.head? = some 46 → t.head? = some 46) (s : Bytes) :
    (∃ r, prefixFromReversedAddr toASCII s = .ok r) ∧ (∃ r, extractReversedAddr toASCII s = .ok r) :=
  ⟨C05.prefixFromReversedAddr_total toASCII s, C05.extractReversedAddr_total toASCII hDot s⟩

/-- `Record.UnmarshalText` never panics (any line, any `idna.ToASCII`), and `Parse` never panics
on any byte stream (the scanner is the SCAN-1 contract). -/
theorem hostsfile_never_panics (toASCII : Bytes → Option Bytes) (r : C07.Record) (line : Bytes)
    (isHandleSet : Bool) (srcName stream : Bytes) :
    (∃ res, C07.unmarshalText toASCII r line = .ok res) ∧
    (∃ res, C08.parse toASCII isHandleSet srcName false stream = .ok res) :=
  ⟨C07.unmarshal_total toASCII r line,
   let ⟨_, _, h⟩ := C08.parse_exact toASCII isHandleSet srcName stream; ⟨_, h⟩⟩

/-- `IPNetToPrefix` (for the two documented families) and `IPNetToPrefixNoMapped` never panic -/
theorem ipnet_conversions_never_panic (n : Option C12.IPNet) (fam : Nat)
    (hf : fam = C12.famV4 ∨ fam = C12.famV6) :
    (∃ r, C12.ipNetToPrefix n fam = .ok r) ∧ (∃ r, C12.ipNetToPrefixNoMapped n = .ok r) := by
  refine ⟨C12.ipNetToPrefix_total n fam hf, ?_⟩
  cases n with
  | none => exact ⟨_, rfl⟩
  | some n =>
    unfold C12.ipNetToPrefixNoMapped
    cases h : C12.to4 (C12.orNil n.ip) with
    | some ip4 => simp only [h]; exact C12.ipNetToPrefix_total _ _ (Or.inl rfl)
    | none => simp only [h]; exact C12.ipNetToPrefix_total _ _ (Or.inr rfl)

theorem stringutil_never_panics (fold : Nat → Nat) (s sub : Bytes) :
    (∃ b, C13.containsFold fold s sub = .ok b) ∧
    (∃ r, C13.splitTrimmed C13.trimSpace C13.split s sub = .ok r) :=
  ⟨C13.containsFold_never_panics fold s sub, let ⟨r, h, _⟩ := C13.splitTrimmed_spec_std s sub; ⟨r, h⟩⟩

/-- the repaired `URL.UnmarshalJSON` never panics (`b[0]`, `b[l-1]` are guarded by `l == 0`) -/
theorem url_unmarshalJSON_never_panics {U : Type} (S : C14.UrlStd U) (J : C14.JsonStd) (b : Bytes) :
    ∃ r, C14.urlUnmarshalJSON S J b = .ok r := by
  unfold C14.urlUnmarshalJSON
  by_cases h1 : b = [110, 117, 108, 108]
  · exact ⟨_, by simp only [h1, if_true]; rfl⟩
  · simp only [h1, if_false]
    by_cases h2 : (b.length : Int) = 0
    · exact ⟨_, by simp only [h2, if_true]; rfl⟩
    · simp only [h2, if_false]
      have hpos : 0 < b.length := by omega
      have e0 : GoM.idx b 0 = .ok b[0] := GoM.idx_ofNat_lt b 0 hpos
      have hl : ((b.length : Int) - 1) = ((b.length - 1 : Nat) : Int) := by omega
      have e1 : GoM.idx b ((b.length : Int) - 1) = .ok b[b.length - 1] := by
        rw [hl]; exact GoM.idx_ofNat_lt b _ (by omega)
      simp only [e0, e1, bind, Except.bind]
      split
      · exact ⟨_, rfl⟩
      · split <;> exact ⟨_, rfl⟩

end GolibsVerif.C01
