/-
C10 — property theorems: the cache is linearizable under concurrent use (race freedom of
the lock discipline is `Theorems/C10Lock.lean`).

Reading guide.  A *concurrent execution* is `CTrace c KSt.init log σ` (`Model/C10.lean`): from
the fresh cache, any sequence of invocations (`inv id op`: any call, any time, any number of
them — other goroutines and calls made from inside `OnDelete` callbacks alike), critical
sections (`sec id ev`: the next section of a call that is in flight, in the order the code of
that call prescribes, interleaved arbitrarily with the sections of all other calls in flight —
this is `FStep` of `Model/C09Frames.lean`) and responses (`ret id r`: a call whose last section
has run returns, any time later).  `historyOf log` keeps the invocations and responses.
`Linearizable` is Herlihy–Wing linearizability for the lossy-register specification
(`Spec/C10.lean`).  `c` ranges over EVERY configuration (not only normalised ones).
-/
import GolibsVerif.Lemmas.C10Lin
import GolibsVerif.Lemmas.C10Obs
import GolibsVerif.Lemmas.C10Sched
import GolibsVerif.Lemmas.C10Progress
import GolibsVerif.Lemmas.C10Hist

namespace GolibsVerif.C10
open GolibsVerif.C09

/-- **Every concurrent execution of the cache is linearizable**: any configuration, any number
of calls, any interleaving of their critical sections.  Linearization point of a `Set`: its
`commit` (or `refused`) section; of `Get`/`Del`/`Clear`/`Stats`: their only section; the
evictions made by `Set`s in flight are the losses of the lossy register. -/
theorem linearizable {c : Conf} {log : List KRec} {σ : KSt} (ht : CTrace c KSt.init log σ) :
    Linearizable c (historyOf log) := by
  obtain ⟨lin, hi, _⟩ := linInv_reachable ht
  refine ⟨lin, hi.nodup, ?_, ?_, hi.rt, _, hi.run⟩
  · intro x hx
    obtain ⟨cs, hcs, hop, hst⟩ := hi.done x hx
    refine ⟨hop ▸ hi.invd _ _ hcs, ?_⟩
    intro r hr
    obtain ⟨cs', hcs', hst'⟩ := hi.retd _ _ hr
    rw [hcs] at hcs'; injection hcs' with e; subst e
    rcases hst with h | h <;> rw [h] at hst'
    · cases hst'
    · injection hst' with h'; exact h'.symm
  · intro id r hr
    obtain ⟨cs, hcs, hst⟩ := hi.retd id r hr
    exact hi.all id cs hcs (by intro fr h; rw [hst] at h; cases h)

/-- … and that history is well formed: the i-th invocation carries call id `i` (so every id is
invoked exactly once), a call returns at most once, only if it was invoked, and its invocation
does not come after its response. -/
theorem history_wellformed {c : Conf} {log : List KRec} {σ : KSt} (ht : CTrace c KSt.init log σ) :
    WellFormed (historyOf log) := by
  obtain ⟨lin, hi, _⟩ := linInv_reachable ht
  refine ⟨by rw [hi.ids_eq]; simp, hi.rets_nodup, fun id r hr => ?_, hi.ord⟩
  obtain ⟨cs, hcs, _⟩ := hi.retd id r hr
  exact ⟨cs.op, hi.invd id cs hcs⟩

/-- **A `Get` returns the value of a `Set` on the same key that is not superseded** — never
another key's value, never a torn one.  If the section of a `Get k` call returns `some v` then
the execution so far contains the invocation of a call `Set k v` (so it was invoked before the
`Get` returned), later that call's storing section `commit k v`, and between that section and
the `Get`'s section no section stores to, deletes, evicts or clears `k`. -/
theorem get_returns_own_key_value {c : Conf} {pre post : List KRec} {id : Nat} {k v : Bytes}
    {σ1 σ : KSt} (ht : CTrace c KSt.init (pre ++ ⟨.sec id (.get k (some v)), σ1⟩ :: post) σ) :
    ∃ ids p1 p2 p3 σa σb rep,
      pre = p1 ++ ⟨.inv ids (.set k v), σa⟩ :: p2 ++ ⟨.sec ids (.commit k v rep), σb⟩ :: p3 ∧
      ∀ r ∈ p3, ∀ id' e, r.ev = .sec id' e → ¬ Supersedes k e := by
  obtain ⟨σ0, hpre, hstep, _⟩ := ctrace_split ht
  -- the framed execution and what its `Get` theorem says
  have hf := ctrace_ftrace (ctrace_append hpre (ctrace_single hstep))
  rw [flogFrom_append _ _ _ _ hpre] at hf
  simp only [flogFrom, List.append_nil] at hf
  have hlast := get_latest_framed (post := []) hf
  rw [evsOf_projLog_flogFrom] at hlast
  obtain ⟨e1, e2, rep, hevs, hnone⟩ := lastSurviving_some hlast.symm
  obtain ⟨pa, p3, ids, σb, rfl, _, h3⟩ := secEvs_split hevs
  -- the storing section belongs to a `Set k v` call invoked earlier
  obtain ⟨σc, hpa, hcommit, _⟩ := ctrace_split hpre
  obtain ⟨op, fr, _, hop, p1, p2, σa, rfl⟩ := sec_call hpa hcommit
  obtain rfl : op = .set k v := opEv_inv hop rfl
  refine ⟨ids, p1, p2, p3, σa, σb, rep, by simp, ?_⟩
  intro r hr id' e he
  apply hnone e
  rw [← h3]
  unfold secEvs
  rw [List.mem_filterMap]
  exact ⟨r, hr, by simp [KRec.secEv, he]⟩

/-- **Every `Stats` response is a bounded, exact snapshot.**  A `Stats` call that returns `st` in
any concurrent execution ran its section at some point of the execution (its linearization
point); `st.count ≤ MaxCount`, `st.size ≤ MaxSize`; and with `l` the entries of the cache at
that point — each key once, exactly the register the cache stands for there — `st.count` is
their number and `st.size` the sum of their key and value lengths. -/
theorem stats_snapshot_bounded {c : Conf} {log : List KRec} {σ : KSt}
    (ht : CTrace c KSt.init log σ) {id : Nat} {st : Stats}
    (hr : HEv.ret id (.stats st) ∈ historyOf log) :
    st.count ≤ c.maxCount ∧ st.size ≤ c.maxSize ∧
    ∃ pre post σ1, log = pre ++ ⟨.sec id (.stats st), σ1⟩ :: post ∧
      Lists (pairs σ1.f.cache.lru) (absReg σ1.f.cache) ∧
      st.count = (pairs σ1.f.cache.lru).length ∧ st.size = aSize (pairs σ1.f.cache.lru) := by
  obtain ⟨lin, hi, _⟩ := linInv_reachable ht
  obtain ⟨cs, hcs, hst⟩ := hi.retd id _ hr
  obtain ⟨pre, post, σ1, ev, rfl, hres, _⟩ := fixed_section ht hcs (Or.inr hst)
  have hev : ev = .stats st := by
    cases ev <;> simp [resOf] at hres
    subst hres; rfl
  subst hev
  obtain ⟨σ0, hpre, hstep, _⟩ := ctrace_split ht
  obtain ⟨hinv, hok⟩ := ctrace_inv hpre
  have hcs' := ksec_cstep hok hstep
  generalize hs0 : σ0.f.cache = s0 at hcs' hinv
  generalize hs1 : σ1.f.cache = s1 at hcs'
  generalize hst' : Ev.stats st = e at hcs'
  cases hcs' with
  | stats =>
    injection hst' with hst'; subst hst'
    refine ⟨hinv.count_le, hinv.size_le, pre, post, σ1, rfl, ?_, ?_, ?_⟩
    · rw [hs1]; exact lists_absReg hinv
    · rw [hs1]; simp [stats, pairs]
    · rw [hs1, aSize_pairs]; exact hinv.size_eq
  | _ => cases hst'

/-- **An entry is dropped only while a `Set` is in flight for which the cache is full.**  Every
eviction in every concurrent execution is a section of a call `Set ks vs` that was invoked
earlier and has not finished (`running`); LRU is on; `|ks| + |vs| ≤ MaxElementSize`; the loop
condition `size + |ks| + |vs| > MaxSize || count == MaxCount` holds for THAT key and value in
the cache as it is at that moment (`σ0`, after whatever all the other calls did); and the
entry dropped is the least recently used one. -/
theorem drop_only_by_needy_set {c : Conf} {pre post : List KRec} {id : Nat} {k v : Bytes}
    {σ1 σ : KSt} (ht : CTrace c KSt.init (pre ++ ⟨.sec id (.evict k v), σ1⟩ :: post) σ) :
    ∃ σ0 ks vs i, CTrace c KSt.init pre σ0 ∧
      σ0.calls[id]? = some ⟨.set ks vs, .running (some i)⟩ ∧
      (∃ p1 p2 σa, pre = p1 ++ ⟨.inv id (.set ks vs), σa⟩ :: p2) ∧
      c.lru = true ∧ ks.length + vs.length ≤ c.maxElem ∧
      full c σ0.f.cache (ks.length + vs.length) = true ∧
      (pairs σ0.f.cache.lru).head? = some (k, v) := by
  obtain ⟨σ0, hpre, hstep, _⟩ := ctrace_split ht
  obtain ⟨lin, hi, _⟩ := linInv_reachable hpre
  obtain ⟨_, hok⟩ := ctrace_inv hpre
  obtain ⟨op, fr, hc, _, hone⟩ := kstep_calls hstep
  have hf := kstep_fstep hstep
  cases fr with
  | none =>
    -- an eviction is not the section of a one-section call
    obtain ⟨r, hr⟩ := resOf_of_isSecOf (hone rfl)
    cases hr
  | some i =>
    obtain ⟨f, hff, _, rfl⟩ := (callFrames_reachable hpre).own id op i hc
    simp only [frameOf_set hc] at hf
    refine ⟨σ0, f.key, f.val, i, hpre, hc, inv_mem_history (hi.invd _ _ hc), ?_⟩
    obtain ⟨g, _, _, hg, hsec, _⟩ := fstep_set_inv hf
    obtain rfl : g = f := Option.some.inj (hg.symm.trans hff)
    cases hsec with
    | evict s' e hh hfull he =>
      obtain ⟨hadd, hor⟩ := atLoopHead_ok (hok i g hff) hh
      refine ⟨lru_of_full hor hfull, hadd, hfull, ?_⟩
      rw [(evictOne_ok he).1]; simp [pairs]

/-- **Progress**: in every state of every concurrent execution (normalised configuration) every
call in flight can take its next step — a running call can run its next critical section
(the guards of the concurrent system exclude nothing the code would do, the eviction loop never
reaches the list sentinel, no `listUnlink` touches an unlinked item: no modelled panic, no
deadlock among the model's calls), and a call whose last section has run can return. -/
theorem call_progress {c : Conf} (ok : ConfOk c) {log : List KRec} {σ : KSt}
    (ht : CTrace c KSt.init log σ) {id : Nat} {cs : CallSt} (hc : σ.calls[id]? = some cs) :
    (∀ fr, cs.st = .running fr → ∃ ev σ', KStep c σ (.sec id ev) σ') ∧
    (∀ r, cs.st = .finished r → ∃ σ', KStep c σ (.ret id r) σ') := by
  obtain ⟨op, st⟩ := cs
  constructor
  · intro fr hst
    simp only at hst; subst hst
    exact call_can_step ok ht hc
  · intro r hst
    simp only at hst; subst hst
    exact ⟨_, KStep.ret σ id op r hc⟩

/-- **What the scheduled-script interpreter produces is a concurrent execution.**  `runSched` is
the interpreter the differential tie drives (`C10.sched` case lines: every `Set` in its own
goroutine, parked inside its `OnDelete` callback and resumed by the script; the other calls run
to completion in between): its log is a `CTrace` from the fresh cache made by `New(conf)`, so
every theorem above speaks about every tie case. -/
theorem sched_is_ctrace {r : RawConf} {steps : List SStep} {s : Sched}
    (h : runSched r steps = .ok s) : CTrace (newConf r) KSt.init s.log s.σ := by
  obtain ⟨s', h', hok⟩ := runSched_spec r steps
  rw [h] at h'
  cases h'
  exact hok

/-- **The interpreter never fails**: for every configuration `New` accepts and every script it
returns — no modelled panic, and the fuel of its loops always suffices (a `Set` evicts at most
as many entries as the cache holds).  So `sched_is_ctrace` is never vacuous, and a `PANIC` printed
by the Lean driver can only come from a malformed case line. -/
theorem sched_total (r : RawConf) (steps : List SStep) : ∃ s, runSched r steps = .ok s :=
  (runSched_spec r steps).imp fun _ h => h.1

/-- in particular the history of every scheduled script is linearizable -/
theorem sched_linearizable {r : RawConf} {steps : List SStep} {s : Sched}
    (h : runSched r steps = .ok s) : Linearizable (newConf r) (historyOf s.log) :=
  linearizable (sched_is_ctrace h)

/-- **The acceptor for recorded histories is sound**: a history it accepts is linearizable.
(The converse — it finds a certificate whenever one exists — is not proved; it searches all
orders compatible with the real-time order exhaustively, and a miss would show as a tie
mismatch, never as a false "green".) -/
theorem acceptHist_sound {c : Conf} {h : History} (ha : acceptHist c h = true) :
    Linearizable c h := by
  obtain ⟨cert, hc⟩ := acceptHist_checks ha
  exact checkCert_sound hc

/-! ### Non-vacuity -/

/-- MaxCount 1, LRU, callback.  `Set(a, x)` stores.  `Set(a, y)` (call 1) finds the cache full,
evicts `(a, x)` and is parked in `OnDelete(a, x)`.  While it is parked `Set(a, z)` (call 2) is
invoked, stores and returns, and a `Get(a)` sees `z`.  Call 1 is resumed: the cache is full again,
it evicts `(a, z)`, parks in `OnDelete(a, z)`, is resumed once more and stores `y`; the last
`Get(a)` sees `y`.  Calls 1 and 2 are two overlapping `Set`s of one key; the `Get` after both sees
the one that was linearized second although it was invoked first. -/
def exConf : RawConf := { maxSize := 0, maxElem := 0, maxCount := 1, lru := true, hasCb := true }

def exScript : List SStep :=
  [.set [97] [120], .set [97] [121], .set [97] [122], .get [97], .resume 1, .resume 1, .get [97]]

example : (runSched exConf exScript).toOption.map (fun s => historyOf s.log) =
    some [.inv 0 (.set [97] [120]), .ret 0 (.set false), .inv 1 (.set [97] [121]),
      .inv 2 (.set [97] [122]), .ret 2 (.set false), .inv 3 (.get [97]), .ret 3 (.get (some [122])),
      .ret 1 (.set false), .inv 4 (.get [97]), .ret 4 (.get (some [121]))] := by decide +kernel

example : ∃ s, runSched exConf exScript = .ok s ∧ CTrace (newConf exConf) KSt.init s.log s.σ ∧
    Linearizable (newConf exConf) (historyOf s.log) := by
  obtain ⟨s, h⟩ := sched_total exConf exScript
  exact ⟨s, h, sched_is_ctrace h, sched_linearizable h⟩

def c0 : Conf := newConf { maxSize := 0, maxElem := 0, maxCount := 0, lru := true, hasCb := false }

/-- two overlapping `Set`s on one key and a `Get` that sees the second -/
example : Linearizable c0
    [.inv 0 (.set [97] [120]), .inv 1 (.set [97] [121]), .ret 0 (.set false), .ret 1 (.set true),
     .inv 2 (.get [97]), .ret 2 (.get (some [121]))] := acceptHist_sound (by decide)

/-- a `Get` overlapping a `Set` may see either: the old state … -/
example : Linearizable c0
    [.inv 0 (.set [97] [120]), .inv 1 (.get [97]), .ret 1 (.get none), .ret 0 (.set false)] :=
  acceptHist_sound (by decide)

/-- … or the new value -/
example : Linearizable c0
    [.inv 0 (.set [97] [120]), .inv 1 (.get [97]), .ret 1 (.get (some [120])), .ret 0 (.set false)] :=
  acceptHist_sound (by decide)

/-- a pending `Set` (never returned) may already have taken effect -/
example : Linearizable c0 [.inv 0 (.set [97] [120]), .inv 1 (.get [97]), .ret 1 (.get (some [120]))] :=
  acceptHist_sound (by decide)

/-- the acceptor rejects a stale read: both `Set`s had returned before the `Get` was invoked -/
example : acceptHist c0
    [.inv 0 (.set [97] [120]), .ret 0 (.set false), .inv 1 (.set [97] [121]), .ret 1 (.set true),
     .inv 2 (.get [97]), .ret 2 (.get (some [120]))] = false := by decide

/-- and `Linearizable` is not trivially true: a `Get` cannot return a value nobody `Set` -/
example : ¬ Linearizable c0 [.inv 0 (.get [97]), .ret 0 (.get (some [120]))] := by
  rintro ⟨lin, _, hlin, hall, _, m, hrun⟩
  -- from the empty register only the empty register is reachable before the first operation,
  -- and `Get` reads `none` there
  have key : ∀ {m0 m' : Reg} {l : List LinOp}, Run c0 m0 l m' → m0 = Reg.empty →
      ∀ y rest, l = y :: rest → y.op = .get [97] → y.res = .get none := by
    intro m0 m' l hr0
    induction hr0 with
    | nil => intro _ y rest hl; cases hl
    | drop k _ ih =>
      intro h0
      apply ih
      subst h0; funext q; simp [Reg.erase, Reg.empty]
    | @op m1 m2 m3 z l' hstep _ _ =>
      intro h0 y rest hl hop
      cases hl
      subst h0
      rw [hop] at hstep
      generalize z.res = zr at hstep
      cases hstep with
      | get => rfl
  -- every linearized call is call 0, the `Get`; so the linearization starts with it
  have hall0 : ∀ z ∈ lin, z.id = 0 ∧ z.op = .get [97] := by
    intro z hz
    simpa using (hlin z hz).1
  cases lin with
  | nil => simpa using hall 0 (.get (some [120])) (by simp)
  | cons x rest =>
    have hres : x.res = .get (some [120]) :=
      ((hlin x (by simp)).2 _ (by rw [(hall0 x (by simp)).1]; simp)).symm
    have := key hrun rfl x rest rfl (hall0 x (by simp)).2
    rw [hres] at this
    cases this

end GolibsVerif.C10
