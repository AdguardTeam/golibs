/-
C09 — property theorems for the cache (`Model/C09.lean`, reference in `Spec/C09.lean`).

Reading guide.  A *history* is `Trace c St.init log s`: any chronological sequence of
critical sections of the cache starting from the empty cache, `log` listing each event
with the state right after it.  Pending `Set` calls appear only through the guards of
their sections, so a history is ANY interleaving of `Set` frames with other calls — in
particular every call made from inside an `OnDelete` callback, to any nesting depth.
`c` ranges over every normalised configuration (the trace theorems do not even need it
to be normalised); `no_panic` / `run_is_history` show that the nested interpreter
`runScript` — every configuration `New` accepts, every script of calls, every behaviour of
the callback given as "the i-th `OnDelete` of this `Set` performs these calls" — returns
and is such a history.
-/
import GolibsVerif.Lemmas.C09FramesRun

namespace GolibsVerif.C09

/-! ### The invariant, for every configuration and every history -/

theorem inv_init (c : Conf) : Inv c St.init := Inv.init c

theorem inv_step {c : Conf} {s s' : St} {ev : Ev} (h : Inv c s) (hs : CStep c s ev s') :
    Inv c s' := (step_ok hs h (Agree.self s)).1

/-- Keys unique, `size = Σ(|k|+|v|)`, `size ≤ MaxSize`, `count ≤ MaxCount` (and the usage
list holds exactly the map's items, all linked iff LRU is on) in the final state and in the
state after every single critical section of every history. -/
theorem inv_reachable {c : Conf} {log : List Rec} {s : St} (ht : Trace c St.init log s) :
    Inv c s ∧ ∀ r ∈ log, Inv c r.after := by
  obtain ⟨h, _, hall⟩ := trace_ok ht (Inv.init c) Agree.init
  exact ⟨h, hall⟩

/-- The cache state is a function of the events: it equals the reference "map + recency
list" run over them.  Since the reference drops an entry only on `evict`, `del`, `clear`
and on the `commit` of the same key, entries disappear in no other way. -/
theorem refines_reference {c : Conf} {log : List Rec} {s : St} (ht : Trace c St.init log s) :
    pairs s.lru = (absOf c.lru (evsOf log)).live ∧
    s.hit = hitsSinceClear (evsOf log) ∧ s.miss = missesSinceClear (evsOf log) := by
  obtain ⟨_, ha⟩ := trace_from_init ht
  obtain ⟨hh, hm⟩ := hit_absOf c.lru (evsOf log)
  exact ⟨ha.live, ha.hit.trans hh, ha.miss.trans hm⟩

/-- What any `Stats()` call observes, wherever it happens in a history (also inside a
callback, between two iterations of somebody's eviction loop): `Count` is the number of
live entries and at most `MaxCount`; `Size` is the summed key+value lengths of the live
entries and at most `MaxSize`. -/
theorem stats_bounded {c : Conf} {pre post : List Rec} {st : Stats} {s1 s : St}
    (ht : Trace c St.init (pre ++ ⟨.stats st, s1⟩ :: post) s) :
    st.count = (absOf c.lru (evsOf pre)).live.length ∧ st.count ≤ c.maxCount ∧
    st.size = aSize (absOf c.lru (evsOf pre)).live ∧ st.size ≤ c.maxSize := by
  obtain ⟨s0, h0, ha0, hstep⟩ := step_in_history ht
  obtain ⟨hsz, hcnt⟩ := ha0.size_count h0
  cases hstep
  rw [hsz, hcnt]
  exact ⟨rfl, h0.count_le, rfl, h0.size_le⟩

/-- `Get` returns the value of the latest surviving `Set` of that key, or nil. -/
theorem get_latest {c : Conf} {pre post : List Rec} {k : Bytes} {r : Option Bytes} {s1 s : St}
    (ht : Trace c St.init (pre ++ ⟨.get k r, s1⟩ :: post) s) :
    r = lastSurviving (evsOf pre) k := by
  obtain ⟨s0, h0, ha0, hstep⟩ := step_in_history ht
  cases hstep with
  | get _ _ _ hg => rw [(get_agree h0 ha0 hg).2, aLookup_absOf]

/-- `Set` that stores reports whether it replaced a live entry; a refused `Set` (the other
way `Set` returns) reports false by construction of the interpreter (`runOp`). -/
theorem set_reports_replace {c : Conf} {pre post : List Rec} {k v : Bytes} {rep : Bool} {s1 s : St}
    (ht : Trace c St.init (pre ++ ⟨.commit k v rep, s1⟩ :: post) s) :
    rep = (lastSurviving (evsOf pre) k).isSome := by
  obtain ⟨s0, h0, ha0, hstep⟩ := step_in_history ht
  cases hstep with
  | commit _ _ _ _ _ _ hc => rw [(setCommit_agree h0 ha0 hc).2, aLookup_absOf]

/-- An eviction happens only with LRU enabled, only when some pending `Set` of a legal
element size needs room, and removes the least recently used live entry with exactly its
current value: it is the head of the reference recency list, and its last-use stamp (the
position in the history of the latest storing `Set` or hitting `Get` of that key) is minimal
among all live entries. -/
theorem evict_is_lru {c : Conf} {pre post : List Rec} {k v : Bytes} {s1 s : St}
    (ht : Trace c St.init (pre ++ ⟨.evict k v, s1⟩ :: post) s) :
    c.lru = true ∧ (absOf c.lru (evsOf pre)).live.head? = some (k, v) ∧
    (∀ p ∈ (absOf c.lru (evsOf pre)).live,
      lastUse c.lru (evsOf pre) k ≤ lastUse c.lru (evsOf pre) p.1) ∧
    ∃ add, add ≤ c.maxElem ∧
      (aSize (absOf c.lru (evsOf pre)).live + add > c.maxSize ∨
       (absOf c.lru (evsOf pre)).live.length = c.maxCount) := by
  obtain ⟨s0, h0, ha0, hstep⟩ := step_in_history ht
  cases hstep with
  | evict _ add e hl hadd hf he =>
    obtain ⟨hlru, _⟩ := evictOne_ok he
    have hhead : (absOf c.lru (evsOf pre)).live.head? = some (e.key, e.val) := by
      rw [← ha0.live, hlru]; simp [pairs]
    obtain ⟨hsz, hcnt⟩ := ha0.size_count h0
    rw [hsz, hcnt]
    exact ⟨hl, hhead, head_min_stamp _ _ _ _ hhead, add, hadd, full_eq_true.1 hf⟩

/-- Without LRU no step of a run is an eviction. -/
theorem nolru_never_evicts {c : Conf} (hl : c.lru = false) {log : List Rec} {s0 s : St}
    (ht : Trace c s0 log s) : ∀ r ∈ log, ∀ k v, r.ev ≠ .evict k v := by
  induction ht with
  | nil => simp
  | cons hstep _ ih =>
    intro r hr k v hev
    rcases List.mem_cons.1 hr with rfl | hr
    · -- the only step labelled `evict` has `c.lru = true` as a guard
      cases hstep with
      | evict _ _ _ hlru => rw [hl] at hlru; cases hlru
      | _ => cases hev
    · exact ih r hr k v hev

/-- Without LRU a `Set` that does not fit (too large an element, or `size + |k| + |v| > MaxSize`,
or `count = MaxCount`) is refused: it returns false and changes nothing. -/
theorem nolru_refuse_noop {c : Conf} (hl : c.lru = false) (s : St) (k v : Bytes)
    (cbs : List (List Op))
    (hfull : k.length + v.length > c.maxElem ∨ full c s (k.length + v.length) = true) :
    runOp c (.set k v cbs) s = .ok (s, [⟨.refused k v, s⟩]) := by
  have : setCheck c s k v ≠ .proceed := by
    intro hp
    obtain ⟨h1, h2⟩ := setCheck_proceed hp
    rcases hfull with h | h
    · omega
    · simp [hl, h] at h2
  unfold runOp
  cases hc : setCheck c s k v <;> simp_all

/-- With or without LRU, a `Set` whose element is larger than `MaxElementSize` (after
normalisation: at most `MaxSize`) is refused the same way. -/
theorem too_large_refuse_noop (c : Conf) (s : St) (k v : Bytes) (cbs : List (List Op))
    (h : k.length + v.length > c.maxElem) :
    runOp c (.set k v cbs) s = .ok (s, [⟨.refused k v, s⟩]) := by
  have : setCheck c s k v = .tooLarge := by simp [setCheck, h]
  simp [runOp, this]

/-- `Hit` / `Miss` as seen by any `Stats()` call count exactly the `Get`s that returned a
value / nil since the last `Clear` (`Clear` resets the statistics).  The Go counters are
`int32`; the model counts in `Nat` (assumption: fewer than 2^31 `Get`s between `Clear`s). -/
theorem hit_miss_exact {c : Conf} {pre post : List Rec} {st : Stats} {s1 s : St}
    (ht : Trace c St.init (pre ++ ⟨.stats st, s1⟩ :: post) s) :
    st.hit = hitsSinceClear (evsOf pre) ∧ st.miss = missesSinceClear (evsOf pre) := by
  obtain ⟨s0, _, ha0, hstep⟩ := step_in_history ht
  obtain ⟨hh, hm⟩ := hit_absOf c.lru (evsOf pre)
  cases hstep
  exact ⟨ha0.hit.trans hh, ha0.miss.trans hm⟩

/-- Every critical section is total from every state satisfying the invariant: the
eviction loop never reaches the list sentinel (normalised configuration, legal element
size) and no `listUnlink` touches an item that is not linked. -/
theorem sections_total {c : Conf} (ok : ConfOk c) {s : St} (h : Inv c s) (k v : Bytes) :
    (∀ add, c.lru = true → add ≤ c.maxElem → full c s add = true →
      ∃ s' e, evictOne s = .ok (s', e)) ∧
    (∃ s' r, setCommit c s k v = .ok (s', r)) ∧
    (∃ s' r, get c s k = .ok (s', r)) ∧
    (∃ s', del c s k = .ok s') := by
  refine ⟨fun add hl hadd hf => ?_, setCommit_total h k v, get_total h k, ⟨_, del_char h k⟩⟩
  obtain ⟨s1, e, he, _⟩ := evictStep ok hadd h hl hf
  exact ⟨s1, e, he⟩

/-- Every script — any calls, any callback behaviour, re-entrant to any depth — against a
cache made by `New(conf)` for any `conf` runs to completion without a (modelled) panic, and
what it does is a history, so all the theorems above speak about it. -/
theorem run_is_history (r : RawConf) (ops : List Op) :
    ∃ s log, runScript r ops = .ok (s, log) ∧ Trace (newConf r) St.init log s := by
  obtain ⟨s, log, hr, _, _, hF⟩ := script_ok r ops
  exact ⟨s, log, hr, hF.trace⟩

theorem no_panic (r : RawConf) (ops : List Op) : ∀ p, runScript r ops ≠ .error p := by
  obtain ⟨s, log, hr, _⟩ := run_is_history r ops
  intro p hp
  rw [hr] at hp
  cases hp

/-- The same from any reachable state and for a single call (this is the form C10 uses: a
call started in any state some other goroutine left behind). -/
theorem no_panic_from {c : Conf} (ok : ConfOk c) {s : St} (h : Inv c s) (op : Op) :
    ∃ s' log, runOp c op s = .ok (s', log) ∧ Trace c s log s' := by
  obtain ⟨s', log, hr, _, _, hF⟩ := (run_framed c ok).1 op s [] h
  exact ⟨s', log, hr, hF.trace⟩

/-- `OnDelete` is called exactly once per evicted entry, immediately after the eviction
(before any other cache event), with that entry's key and value, and never otherwise. -/
theorem onDelete_once (r : RawConf) (ops : List Op) {s : St} {log : List Rec}
    (hr : runScript r ops = .ok (s, log)) : cbOK r.hasCb (evsOf log) = true := by
  obtain ⟨s', log', hr', _, hcb, _⟩ := script_ok r ops
  rw [hr'] at hr
  cases hr
  exact hcb

/-! ### The property read off a script, in one statement -/

/-- For every configuration and every script: it returns, and in its log every `Stats`,
`Get`, storing `Set` and eviction is as the property demands. -/
theorem script_correct (r : RawConf) (ops : List Op) :
    ∃ s log, runScript r ops = .ok (s, log) ∧
      (∀ rec ∈ log, rec.after.lru.length ≤ (newConf r).maxCount ∧
        rec.after.size = sumSz rec.after.lru ∧ rec.after.size ≤ (newConf r).maxSize) ∧
      (∀ pre post k v s1, log = pre ++ ⟨.get k v, s1⟩ :: post → v = lastSurviving (evsOf pre) k) ∧
      (∀ pre post k v rep s1, log = pre ++ ⟨.commit k v rep, s1⟩ :: post →
        rep = (lastSurviving (evsOf pre) k).isSome) ∧
      (∀ pre post k v s1, log = pre ++ ⟨.evict k v, s1⟩ :: post →
        (absOf r.lru (evsOf pre)).live.head? = some (k, v)) ∧
      cbOK r.hasCb (evsOf log) = true := by
  obtain ⟨s, log, hr, ht⟩ := run_is_history r ops
  refine ⟨s, log, hr, ?_, ?_, ?_, ?_, onDelete_once r ops hr⟩
  · intro rec hrec
    have := (inv_reachable ht).2 rec hrec
    exact ⟨this.count_le, this.size_eq, this.size_le⟩
  · intro pre post k v s1 hlog; subst hlog; exact get_latest ht
  · intro pre post k v rep s1 hlog; subst hlog; exact set_reports_replace ht
  · intro pre post k v s1 hlog; subst hlog; exact (evict_is_lru ht).2.1

/-! ### Non-vacuity and the pre-fix code -/

/-- MaxSize 4, MaxCount 2, LRU, callback: the third `Set` evicts `01`; its callback reads `02`
and stores `09`, which fills the cache again, so the outer `Set` evicts once more — now `02`,
the least recently used entry in spite of the read, because `09` was stored after it. -/
example :
    (runScript { maxSize := 4, maxElem := 0, maxCount := 2, lru := true, hasCb := true }
      [.set [1] [2] [], .set [2] [2] [], .set [3] [3] [[.get [2], .set [9] [9] []]], .get [1],
       .stats]).toOption.map (fun p => evsOf p.2) =
    some [.commit [1] [2] false, .commit [2] [2] false,
          .evict [1] [2], .onDelete [1] [2], .get [2] (some [2]), .commit [9] [9] false,
          .evict [2] [2], .onDelete [2] [2], .commit [3] [3] false, .get [1] none,
          .stats { count := 2, size := 4, hit := 1, miss := 1 }] := by
  -- `+kernel`: the elaborator's own evaluator is slow on a script of this length
  decide +kernel

/-- replacement is reported, without LRU too (the repaired code) -/
example :
    (runScript { maxSize := 0, maxElem := 0, maxCount := 0, lru := false, hasCb := false }
      [.set [1] [2] [], .set [1] [3] [], .del [1], .get [1]]).toOption.map (fun p => evsOf p.2) =
    some [.commit [1] [2] false, .commit [1] [3] true, .del [1], .get [1] none] := by decide

/-- Defect 7 of DESIGN.md §9: the code as it stood (`listUnlink` not guarded by `EnableLRU`)
panics on the second `Set` of a key and on `Del` of a present key when LRU is off. -/
example :
    let c := newConf { maxSize := 0, maxElem := 0, maxCount := 0, lru := false, hasCb := false }
    let s : St := { lru := [⟨[1], [2], false⟩], size := 2, hit := 0, miss := 0 }
    (setCommitWith false c s [1] [3]).toOption = none ∧ (delWith false c s [1]).toOption = none ∧
    (setCommitWith true c s [1] [3]).toOption.isSome ∧ (delWith true c s [1]).toOption.isSome := by
  decide

end GolibsVerif.C09
