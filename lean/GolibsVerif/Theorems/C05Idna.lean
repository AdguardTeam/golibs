/-
C05 — the theorems of `Theorems/C05.lean` that carry contracts on `idna.ToASCII`, with
the parameter `toASCII` instantiated by the model `Idna.toASCII enc dec` of
`golang.org/x/net/idna.ToASCII` (`Go/Idna.lean`, tied to the real function by the op
`std.idna`).  Both contracts are theorems (`Idna.hDot_model`, `Idna.idna1_model`), so no
idna hypothesis remains; the punycode functions `enc` / `dec` stay parameters about which
nothing is assumed.
-/
import GolibsVerif.Theorems.C05
import GolibsVerif.Theorems.Idna

namespace GolibsVerif.C05
open GolibsVerif.Netutil GolibsVerif.Str GolibsVerif.Netip GolibsVerif GolibsVerif.Gen.Consts

/-- The model of `idna.ToASCII` keeps a leading dot (`IdnaKeepsLeadingDot`, the `hDot` of
`prefix_sound` / `extract_*`). -/
theorem hDot_holds (enc dec : Bytes → Option Bytes) : IdnaKeepsLeadingDot (Idna.toASCII enc dec) :=
  fun s t h hd => Idna.hDot_model enc dec s t h hd

/-- The model of `idna.ToASCII` satisfies IDNA-1 (`IdnaAsciiId`, the `hT` of `prefix_complete`). -/
theorem idna1_holds (enc dec : Bytes → Option Bytes) : IdnaAsciiId (Idna.toASCII enc dec) :=
  fun s h1 h2 => Idna.idna1_model enc dec s h1 h2

/-- `ExtractReversedAddr` never panics (with the modelled `idna.ToASCII`; no hypothesis). -/
theorem extractReversedAddr_total_idna (enc dec : Bytes → Option Bytes) (d : Bytes) :
    ∃ r, extractReversedAddr (Idna.toASCII enc dec) d = .ok r :=
  extractReversedAddr_total _ (hDot_holds enc dec) d

/-- `PrefixFromReversedAddr(s) = p` ⇔ the reference decoder reads `p` off the labels of `s`
(with the modelled `idna.ToASCII`; no hypothesis). -/
theorem prefix_iff_idna (enc dec : Bytes → Option Bytes) (s : Bytes) (p : Prefix) :
    prefixFromReversedAddr (Idna.toASCII enc dec) s = .ok (.ok p) ↔
      arpaPrefixSpec (labelsOf s) = some p :=
  prefix_iff _ (hDot_holds enc dec) (idna1_holds enc dec) s p

/-- `ExtractReversedAddr(d) = p` ⇔ `d` is a valid domain name and `p` is the prefix of its
longest label-aligned ARPA suffix (with the modelled `idna.ToASCII`; no hypothesis). -/
theorem extract_iff_idna (enc dec : Bytes → Option Bytes) (d : Bytes) (p : Prefix) :
    extractReversedAddr (Idna.toASCII enc dec) d = .ok (.ok p) ↔
      validateDomainName (Idna.toASCII enc dec) (trimSuffix d [46]) = .ok none ∧
        longestArpaSuffix (labelsOf d) = some p :=
  extract_iff _ (hDot_holds enc dec) d p

/-- instances, through the modelled `idna.ToASCII` with punycode functions that fail on
everything -/
example : prefixFromReversedAddr (Idna.toASCII (fun _ => none) (fun _ => none))
    (ascii "3.2.10.In-Addr.ARPA.") = .ok (.ok ⟨.v4 [10, 2, 3, 0], 24⟩) :=
  (prefix_iff_idna _ _ _ _).2 (by rw [ascii_ofList]; decide +kernel)

example : ∃ r, extractReversedAddr (Idna.toASCII (fun _ => none) (fun _ => none))
    (ascii ".ip6.arpa") = .ok r := extractReversedAddr_total_idna _ _ _

end GolibsVerif.C05
