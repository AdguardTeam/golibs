/-
C08 — `bufio.Scanner` with `bufio.ScanLines` does not depend on how the reader fragments the
byte stream (SCAN-1).

The scanner is the model of `Go/Scanner.lean`: `Scan`'s loop with its buffer window
(`start`, `end`, `len(buf)`), shifting, doubling up to `maxTokenSize`, the `ErrTooLong` exit,
the read loop with `maxConsecutiveEmptyReads`, `setErr`, the `atEOF = (s.err != nil)` call of
the split function, and `ScanLines` / `dropCR`.  The reader is a byte stream plus an
arbitrary fragmentation script of read results `(n, err)`.

Every theorem is an induction over arbitrary scripts (through `fill_spec`, `scanLoop_spec`,
`scanAll_spec` of `Lemmas/C08Scan.lean`); none is a statement about sample scripts.
-/
import GolibsVerif.Lemmas.C08Scan

namespace GolibsVerif.C08
open GolibsVerif GolibsVerif.Bufio

/-- **The scanner's output is a function of what was delivered and how the input ended.**
For every stream, every script, every initial buffer capacity and every maximum token size
(≤ 2^62, so that the overflow guard `len(buf) > maxInt/2` is not what stops the growth): if
the script has the scanner receive `m` bytes and then ends the input with `e` (`outcome`
accounts for the 101st consecutive `(0, nil)` read as `io.ErrNoProgress`), and the lines of
these `m` bytes are shorter than the maximum token size, then the tokens are exactly
`scanLines` of the `m` bytes — the unterminated tail included: the split function is called
with `atEOF = true` once `s.err != nil`, whatever the error — and `Err()` is nil for `io.EOF`
and `e` otherwise.  No panic. -/
theorem scan_outcome (stream : Bytes) (script : Script) (bufCap max m : Nat) (e : Err)
    (hmax : max ≤ maxInt / 2 + 1)
    (hout : outcome 0 script = (m, e)) (hm : m ≤ stream.length)
    (hshort : LinesShort (stream.take m) max) :
    scanStream bufCap max stream script = .ok (scanLines (stream.take m), errOf e) :=
  scanAll_spec _ _ _ (Or.inl ⟨rfl, rfl, by simp [Scanner.end_, Scanner.new], hmax, _, ⟨m, hout, hm, rfl⟩, hshort, rfl⟩)

/-- **SCAN-1.**  For every stream whose lines are shorter than the maximum token
size, every fragmentation script that delivers the whole stream and then `io.EOF` (possibly
together with the last bytes) and never answers `(0, nil)` more than 100 times in a row, and
every initial buffer: the tokens are exactly `scanLines stream` and `Err()` is nil. -/
theorem scan_fragmentation_independent (stream : Bytes) (script : Script) (bufCap max : Nat)
    (hmax : max ≤ maxInt / 2 + 1) (hshort : LinesShort stream max)
    (hdel : delivered script = stream.length) (hend : ending script = .eof) (hstall : NoStall 0 script) :
    scanStream bufCap max stream script = .ok (scanLines stream, none) := by
  have hout := outcome_noStall script 0 hstall
  rw [hdel, hend] at hout
  have := scan_outcome stream script bufCap max stream.length .eof hmax hout (Nat.le_refl _)
    (by rw [List.take_length]; exact hshort)
  rw [List.take_length] at this
  exact this

/-- **A failing reader.**  If the script ends with an error `e` other than `io.EOF` after
delivering a prefix `p` of the stream (`p = stream.take (delivered script)`), the tokens are
exactly `scanLines p` — the final-token rule applies to the unterminated tail of `p` just as
at end of file, because `Scan` passes `atEOF = (s.err != nil)` — and `Err()` is `e`. -/
theorem scan_read_error (stream : Bytes) (script : Script) (bufCap max : Nat) (e : Err)
    (hmax : max ≤ maxInt / 2 + 1)
    (hdel : delivered script ≤ stream.length) (hend : ending script = e) (hne : e ≠ .eof)
    (hstall : NoStall 0 script) (hshort : LinesShort (stream.take (delivered script)) max) :
    scanStream bufCap max stream script = .ok (scanLines (stream.take (delivered script)), some e) := by
  have hout := outcome_noStall script 0 hstall
  rw [hend] at hout
  have := scan_outcome stream script bufCap max _ e hmax hout hdel hshort
  simpa [errOf, hne] using this

/-- `j > 0` empty reads that come after `k` empty reads, `100 < k + j`, end in `io.ErrNoProgress` -/
theorem outcome_stall (post : Script) : ∀ (j k : Nat), maxConsecutiveEmptyReads < k + j → 0 < j →
    outcome k (List.replicate j (0, none) ++ post) = (0, .noProgress) := by
  intro j
  induction j with
  | zero => intro k _ h; omega
  | succ j ih =>
    intro k h _
    simp only [List.replicate_succ, List.cons_append, outcome, if_true]
    by_cases hk : maxConsecutiveEmptyReads ≤ k
    · simp [hk]
    · simp only [hk, if_false]
      exact ih (k + 1) (by omega) (by simp only [maxConsecutiveEmptyReads] at *; omega)

/-- `k'`: the number of empty reads at the end of `pre` (after `k`, if `pre` has no other) -/
theorem outcome_append (pre post : Script) (hnoerr : ∀ x ∈ pre, x.2 = none) : ∀ k, NoStall k pre →
    ∃ k', outcome k (pre ++ post) = ((outcome k' post).1 + delivered pre, (outcome k' post).2) := by
  induction pre with
  | nil => exact fun k _ => ⟨k, rfl⟩
  | cons hd tl ih =>
    obtain ⟨n, x⟩ := hd
    obtain rfl : x = none := hnoerr (n, x) List.mem_cons_self
    have ih := ih fun y hy => hnoerr y (List.mem_cons_of_mem _ hy)
    intro k hk
    by_cases h0 : n = 0
    · subst h0
      simp only [NoStall, if_true] at hk
      obtain ⟨k', h⟩ := ih (k + 1) hk.2
      exact ⟨k', by simp only [List.cons_append, outcome, if_true, Nat.not_le.2 hk.1, if_false, h, delivered, Nat.zero_add]⟩
    · simp only [NoStall, h0, if_false] at hk
      obtain ⟨k', h⟩ := ih 0 hk
      exact ⟨k', by simp only [List.cons_append, outcome, h0, if_false, h, delivered, Nat.add_assoc, Nat.add_comm n]⟩

/-- **A stalling reader.**  If, after reads without error and without a stall that deliver a
prefix `p` of the stream, the reader answers `(0, nil)` 101 times in a row, the tokens are
`scanLines p` and `Err()` is `io.ErrNoProgress`, whatever follows in the script. -/
theorem scan_stall (stream : Bytes) (pre post : Script) (bufCap max : Nat)
    (hmax : max ≤ maxInt / 2 + 1) (hnoerr : ∀ x ∈ pre, x.2 = none) (hstall : NoStall 0 pre)
    (hdel : delivered pre ≤ stream.length)
    (hshort : LinesShort (stream.take (delivered pre)) max) :
    scanStream bufCap max stream (pre ++ List.replicate (maxConsecutiveEmptyReads + 1) (0, none) ++ post) =
      .ok (scanLines (stream.take (delivered pre)), some .noProgress) := by
  obtain ⟨k', hout⟩ := outcome_append pre (List.replicate (maxConsecutiveEmptyReads + 1) (0, none) ++ post) hnoerr 0 hstall
  rw [outcome_stall post _ k' (by omega) (by omega), Nat.zero_add, ← List.append_assoc] at hout
  have := scan_outcome stream _ bufCap max _ .noProgress hmax hout hdel hshort
  simpa [errOf] using this

theorem linesShort_of_length (s : Bytes) (lim : Nat) (h : s.length < lim) : LinesShort s lim :=
  fun _ hl _ => Nat.lt_of_le_of_lt hl.length_le h

theorem linesShort_cons_line {l r : Bytes} {lim : Nat} (hl : 10 ∉ l) :
    LinesShort (l ++ 10 :: r) lim ↔ l.length < lim ∧ LinesShort r lim :=
  ⟨fun h => ⟨h l (List.prefix_append _ _).isInfix hl, h.suffix ⟨l ++ [10], by simp⟩⟩,
   fun ⟨h1, h2⟩ x hx h10 => (infix_split hx h10).elim (fun h => Nat.lt_of_le_of_lt h.length_le h1) (h2 x · h10)⟩

/-- **What "lines shorter than the limit" means**, in the terms of `scanLines_lines`
(`Theorems/C08.lean`): for a stream made of LF-terminated lines `ls` and an unterminated rest
`last`, `LinesShort` says exactly that every line — its `'\r'` included, its `'\n'` excluded — and
the rest are shorter than `lim`. -/
theorem linesShort_lines (ls : List Bytes) (hls : ∀ l ∈ ls, 10 ∉ l) (last : Bytes) (hlast : 10 ∉ last)
    (lim : Nat) :
    LinesShort ((ls.flatMap fun l => l ++ [10]) ++ last) lim ↔
      (∀ l ∈ ls, l.length < lim) ∧ last.length < lim := by
  induction ls with
  | nil => exact ⟨fun h => ⟨by simp, h last (List.infix_refl _) hlast⟩, fun h => linesShort_of_length _ _ h.2⟩
  | cons l ls ih =>
    rw [List.flatMap_cons, List.append_assoc, List.append_assoc, List.singleton_append,
      linesShort_cons_line (hls l List.mem_cons_self), ih fun l hl => hls l (List.mem_cons_of_mem _ hl),
      List.forall_mem_cons, and_assoc]

/-! ### the hypotheses are satisfiable -/

/-- "ab\\r\\ncd\\n\\nxyz" in 1-byte reads, an empty read, a read that is cut by the room of the
2-byte buffer, data together with `io.EOF` -/
example : scanStream 2 16 (ascii "ab\r\ncd\n\nxyz") [(1, none), (0, none), (1, none), (6, none), (3, some .eof)] =
    .ok ([ascii "ab", ascii "cd", [], ascii "xyz"], none) := by
  rw [ascii_ofList, ascii_ofList, ascii_ofList, ascii_ofList]
  exact (scan_fragmentation_independent _ _ 2 16 (by decide) (linesShort_of_length _ _ (by decide))
    (by decide) (by decide) (by decide)).trans (by decide)

/-- the same stream with an error after 6 bytes: `"cd"` is unterminated in the prefix and is
still a token -/
example : scanStream 0 16 (ascii "ab\r\ncd\n\nxyz") [(4, none), (2, some (.reader 7))] =
    .ok ([ascii "ab", ascii "cd"], some (.reader 7)) := by
  rw [ascii_ofList, ascii_ofList, ascii_ofList]
  exact (scan_read_error _ _ 0 16 (.reader 7) (by decide) (by decide) (by decide) (by decide) (by decide)
    (linesShort_of_length _ _ (by decide))).trans (by decide)

end GolibsVerif.C08
