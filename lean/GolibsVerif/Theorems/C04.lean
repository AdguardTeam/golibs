/-
C04 — the ARPA address codec of `netutil/reversed.go` against the canonical PTR names of
`Spec/C04.lean` (RFC 1035 §3.5, RFC 3596 §2.5).  The property's own statement
`accepts_only_canon` is false for the code as it is (`accepts_only_canon_refuted`: the
`ip6.arpa` name of an IPv4-mapped address is accepted and decoded without un-mapping); the
theorems around it say what does hold, with and without the contract IDNA-1 on `idna.ToASCII`.
-/
import GolibsVerif.Lemmas.C04Main

namespace GolibsVerif.C04
open GolibsVerif.Netutil GolibsVerif.Str GolibsVerif.Netip GolibsVerif.Gen.Consts GolibsVerif

/-- The constants regenerated from `/repo/netutil` are the documented roots and the length
of a full IPv6 name. -/
theorem consts_documented :
    arpaV4Suffix = 46 :: (lblInAddr ++ 46 :: lblArpa) ∧
    arpaV6Suffix = 46 :: (lblIp6 ++ 46 :: lblArpa) ∧ arpaV6MaxLen = 72 := ⟨rfl, rfl, rfl⟩

/-- `IPToReversedAddr(ip)` is the canonical PTR name of the address `ip` denotes (an
IPv4-mapped 16-byte slice denotes the IPv4 address); slices of any other length are
rejected (`none` = the `*AddrError`); no panic.  Since `canonPTR` encodes an IPv4-mapped
address as IPv4, the result is also `canonPTR (.v6 ip [])` for every 16-byte slice. -/
theorem encode_canon (ip : Bytes) (hb : ∀ b ∈ ip, b < 256) :
    (∀ a, denotes ip a → ipToReversedAddr ip = .ok (some (canonPTR a))) ∧
    (ip.length = 16 → ipToReversedAddr ip = .ok (some (canonPTR (.v6 ip [])))) ∧
    (ip.length ≠ 4 → ip.length ≠ 16 → ipToReversedAddr ip = .ok none) ∧
    (∀ e, ipToReversedAddr ip ≠ .error e) := by
  rw [ipToReversedAddr_eq ip hb]
  refine ⟨?_, fun h16 => ?_, fun h4 h16 => by rw [if_neg h4, if_neg h16], fun _ => nofun⟩
  · rintro a (⟨hl, rfl⟩ | ⟨hm, rfl⟩ | ⟨hl, hm, rfl⟩)
    · rw [if_pos hl]; rfl
    · rw [if_neg (by rw [hm.1]; decide), if_pos hm.1]
      simp only [canonPTR, if_pos hm]
    · rw [if_neg (by rw [hl]; decide), if_pos hl]
  · rw [if_neg (by rw [h16]; decide), if_pos h16]

/-- Whatever `IPFromReversedAddr` accepts, for any behaviour of `idna.ToASCII`: the input,
with one trailing dot trimmed and ASCII-lower-cased, is exactly `d.c.b.a.in-addr.arpa`
(decimal, no leading zeros) of the IPv4 address returned, or exactly the 32-nibble
`ip6.arpa` name of the zone-less IPv6 address returned. -/
theorem accepts_spelling (toASCII : Bytes → Option Bytes) (s : Bytes) (a : Addr)
    (h : ipFromReversedAddr toASCII s = .ok (.ok a)) :
    (∃ b, a = .v4 b ∧ b.length = 4 ∧ (∀ x ∈ b, x < 256) ∧
      asciiLower (trimSuffix s [46]) = ptr4 b) ∨
    (∃ b, a = .v6 b [] ∧ b.length = 16 ∧ (∀ x ∈ b, x < 256) ∧
      asciiLower (trimSuffix s [46]) = ptr6 b) := by
  obtain ⟨⟨hwf, hz⟩, hs⟩ := accepted_spelling toASCII s a h
  cases a with
  | invalid => exact hwf.elim
  | v4 b => exact Or.inl ⟨b, rfl, hwf.1, hwf.2, hs⟩
  | v6 b z => cases hz b z rfl; exact Or.inr ⟨b, rfl, hwf.1, hwf.2, hs⟩

/-
The property's statement, FALSE for the code as it is (see `accepts_only_canon_refuted`):

  theorem accepts_only_canon (toASCII) (s) (a) (h : ipFromReversedAddr toASCII s = .ok (.ok a)) :
      asciiLower (trimSuffix s [46]) = canonPTR a

What holds is the same conclusion for every accepted input whose result is not an
IPv4-mapped IPv6 address: -/

/-- `accepts_only_canon`, restricted to results that are not IPv4-mapped IPv6 addresses:
the accepted input is, ASCII-case-insensitively and modulo one trailing dot, the canonical
PTR name of the address returned; the address is well-formed and has no zone. -/
theorem accepts_only_canon_partial (toASCII : Bytes → Option Bytes) (s : Bytes) (a : Addr)
    (h : ipFromReversedAddr toASCII s = .ok (.ok a)) (hm : ∀ b z, a = .v6 b z → ¬ is4in6 b) :
    asciiLower (trimSuffix s [46]) = canonPTR a ∧ WF a ∧ (∀ b z, a = .v6 b z → z = []) := by
  obtain ⟨⟨hwf, hz⟩, hs⟩ := accepted_spelling toASCII s a h
  exact ⟨hs.trans (canonPTR_eq_spelling a hm).symm, hwf, hz⟩

/-- IPv4 results are never affected by the restriction. -/
theorem accepts_only_canon_v4 (toASCII : Bytes → Option Bytes) (s : Bytes) (b : List Nat)
    (h : ipFromReversedAddr toASCII s = .ok (.ok (.v4 b))) :
    asciiLower (trimSuffix s [46]) = canonPTR (.v4 b) :=
  (accepts_only_canon_partial toASCII s _ h (fun _ _ he => by cases he)).1

/-- the `ip6.arpa` name of `::ffff:1.2.3.4` -/
def mappedWitness : Bytes := ptr6 [0, 0, 0, 0, 0, 0, 0, 0, 0, 0, 255, 255, 1, 2, 3, 4]

/-- The unconditional `accepts_only_canon` does not hold: with `idna.ToASCII` the identity,
`4.0.3.0.2.0.1.0.f.f.f.f.0.….0.ip6.arpa` is accepted and decoded to `::ffff:1.2.3.4`, whose
canonical PTR name is `4.3.2.1.in-addr.arpa`. -/
theorem accepts_only_canon_refuted :
    ¬ ∀ (toASCII : Bytes → Option Bytes) (s : Bytes) (a : Addr),
      ipFromReversedAddr toASCII s = .ok (.ok a) → asciiLower (trimSuffix s [46]) = canonPTR a := by
  intro hall
  have hacc := decode_spelling some (fun _ _ _ => rfl)
    (.v6 [0, 0, 0, 0, 0, 0, 0, 0, 0, 0, 255, 255, 1, 2, 3, 4] []) ⟨⟨rfl, by decide⟩, fun _ _ he => by cases he; rfl⟩
    mappedWitness (asciiLower_of_no_upper _ (ptr6_not_upper _)) [] (Or.inl rfl)
  rw [List.append_nil] at hacc
  -- the accepted name has 72 bytes, the canonical one 20
  have hlen := congrArg List.length
    ((accepted_spelling _ _ _ hacc).2.symm.trans (hall some mappedWitness _ hacc))
  rw [spelling, ptr6_length] at hlen
  simp [canonPTR, is4in6, ptr4, joinDot, dec, lblInAddr, lblArpa] at hlen

/-- Under IDNA-1 (`idna.ToASCII` returns an ASCII name without A-labels unchanged): every
ASCII case variant `v` of the canonical PTR name of a well-formed address `a` (IPv4, or
zone-less IPv6 that is not IPv4-mapped), with or without one trailing dot, decodes to `a`. -/
theorem decode_encode (toASCII : Bytes → Option Bytes)
    (hT : ∀ s, (∀ b ∈ s, b < 128) → NoXnLabel s → toASCII s = some s)
    (a : Addr) (hwf : WF a) (hm : ∀ b z, a = .v6 b z → z = [] ∧ ¬ is4in6 b)
    (v : Bytes) (hv : asciiLower v = canonPTR a) (dot : Bytes) (hd : dot = [] ∨ dot = [46]) :
    ipFromReversedAddr toASCII (v ++ dot) = .ok (.ok a) :=
  decode_spelling toASCII hT a ⟨hwf, fun b z he => (hm b z he).1⟩ v
    (hv.trans (canonPTR_eq_spelling a fun b z he => (hm b z he).2)) dot hd

/-- Under IDNA-1 the decoder inverts the encoder on the canonical name itself. -/
theorem decode_canon (toASCII : Bytes → Option Bytes)
    (hT : ∀ s, (∀ b ∈ s, b < 128) → NoXnLabel s → toASCII s = some s)
    (a : Addr) (hwf : WF a) (hm : ∀ b z, a = .v6 b z → z = [] ∧ ¬ is4in6 b) :
    ipFromReversedAddr toASCII (canonPTR a) = .ok (.ok a) := by
  have := decode_encode toASCII hT a hwf hm (canonPTR a) (canonPTR_lower a) [] (Or.inl rfl)
  simpa using this

/-- Injectivity of the encoder on canonical addresses: two well-formed addresses (IPv4, or
zone-less IPv6 that is not IPv4-mapped) with the same canonical PTR name are equal — with
`decode_canon` and `accepts_only_canon_partial`, the codec is a bijection between those
addresses and the names `IPFromReversedAddr` maps back to them. -/
theorem canonPTR_injective (a a' : Addr) (hwf : WF a) (hwf' : WF a')
    (hm : ∀ b z, a = .v6 b z → z = [] ∧ ¬ is4in6 b)
    (hm' : ∀ b z, a' = .v6 b z → z = [] ∧ ¬ is4in6 b)
    (h : canonPTR a = canonPTR a') : a = a' := by
  have h1 := decode_canon some (fun _ _ _ => rfl) a hwf hm
  have h2 := decode_canon some (fun _ _ _ => rfl) a' hwf' hm'
  rw [h] at h1
  rw [h1] at h2
  injection h2 with h2; injection h2

/-- "Accepts nothing else", unconditionally (IPv4-mapped results included) and for every
`idna.ToASCII`: all inputs that `IPFromReversedAddr` maps to one address are equal modulo
ASCII case and one trailing dot — an address has at most one accepted name. -/
theorem accepted_names_unique (toASCII : Bytes → Option Bytes) (s s' : Bytes) (a : Addr)
    (h : ipFromReversedAddr toASCII s = .ok (.ok a))
    (h' : ipFromReversedAddr toASCII s' = .ok (.ok a)) :
    asciiLower (trimSuffix s [46]) = asciiLower (trimSuffix s' [46]) :=
  (accepted_spelling toASCII s a h).2.trans (accepted_spelling toASCII s' a h').2.symm

/-- Under IDNA-1 every ASCII case variant of the 32-nibble `ip6.arpa` spelling of sixteen
bytes decodes to exactly those sixteen bytes — IPv4-mapped ones included (this is the
behaviour behind the known finding: no unmapping on the way in). -/
theorem decode_nibbles (toASCII : Bytes → Option Bytes)
    (hT : ∀ s, (∀ b ∈ s, b < 128) → NoXnLabel s → toASCII s = some s)
    (b : List Nat) (hl : b.length = 16) (hb : ∀ x ∈ b, x < 256)
    (v : Bytes) (hv' : asciiLower v = ptr6 b) (dot : Bytes) (hd : dot = [] ∨ dot = [46]) :
    ipFromReversedAddr toASCII (v ++ dot) = .ok (.ok (.v6 b [])) :=
  decode_spelling toASCII hT (.v6 b []) ⟨⟨hl, hb⟩, fun _ _ he => by cases he; rfl⟩ v hv' dot hd

/-- **The accepted name determines the address — unconditionally** (IPv4-mapped results
included, every `idna.ToASCII`): two accepted inputs that are equal modulo ASCII case and one
trailing dot decode to the same address.  With `accepted_names_unique` the decoder is, on
what it accepts, a bijection between names modulo case/dot and addresses. -/
theorem accepted_name_determines_addr (toASCII : Bytes → Option Bytes) (s s' : Bytes)
    (a a' : Addr)
    (h : ipFromReversedAddr toASCII s = .ok (.ok a))
    (h' : ipFromReversedAddr toASCII s' = .ok (.ok a'))
    (hs : asciiLower (trimSuffix s [46]) = asciiLower (trimSuffix s' [46])) : a = a' := by
  -- what is accepted depends on the trimmed name only through its lower-casing
  have hb := accepted_body toASCII s a h
  rw [body_iff, hs, ← body_iff, accepted_body toASCII s' a' h'] at hb
  injection hb with hb
  injection hb with hb
  exact hb.symm

/-- For every `idna.ToASCII` and every input, `IPFromReversedAddr` returns (no Go panic: no
index of `ipv6FromReversed` is out of range, the slice before `.in-addr.arpa` is in range,
`replaceKind`'s `panic` branch is not reached), and every rejection is an `*AddrError` of
kind "arpa domain name" whose `Addr` is the input without its one trailing dot. -/
theorem ipFromReversedAddr_total (toASCII : Bytes → Option Bytes) (s : Bytes) :
    ∃ r, ipFromReversedAddr toASCII s = .ok r ∧
      ∀ e, r = .error e → ∃ inner, e = .addr .arpa (trimSuffix s [46]) inner := by
  rcases prologue_cases toASCII s with ⟨hv, _⟩ | ⟨inner, hp⟩
  · rw [fromRev_of_valid toASCII s hv]
    exact body_total _
  · exact ⟨_, fromRev_of_invalid toASCII s _ hp, fun e he => by cases he; exact ⟨_, rfl⟩⟩

/-- the helper alone: on a string of at least 64 bytes no index is out of range (the caller
checks `len(arpa) == 72`) -/
theorem ipv6FromReversed_no_panic (arpa : Bytes) (h : 64 ≤ arpa.length) :
    ∃ r, ipv6FromReversed arpa = .ok r := ipv6FromReversed_total arpa h

/-- `idna.ToASCII` as the identity satisfies IDNA-1 -/
example : ∀ s : Bytes, (∀ b ∈ s, b < 128) → NoXnLabel s → (some : Bytes → Option Bytes) s = some s :=
  fun _ _ _ => rfl

example : canonPTR (.v4 [192, 0, 2, 255]) = ascii "255.2.0.192.in-addr.arpa" := by
  rw [ascii_ofList]; simp [canonPTR, ptr4, joinDot, dec, lblInAddr, lblArpa]
example : canonPTR (.v6 [0x20, 0x01, 0x0d, 0xb8, 0, 0, 0, 0, 0, 0, 0, 0, 0, 0, 0, 0x1f] []) =
    ascii "f.1.0.0.0.0.0.0.0.0.0.0.0.0.0.0.0.0.0.0.0.0.0.0.8.b.d.0.1.0.0.2.ip6.arpa" := by
  rw [ascii_ofList]; decide
example : canonPTR (.v6 [0, 0, 0, 0, 0, 0, 0, 0, 0, 0, 255, 255, 1, 2, 3, 4] []) =
    canonPTR (.v4 [1, 2, 3, 4]) := by simp [canonPTR, is4in6]
example : denotes [1, 2, 3, 4] (.v4 [1, 2, 3, 4]) := Or.inl ⟨rfl, rfl⟩
example : denotes [0, 0, 0, 0, 0, 0, 0, 0, 0, 0, 255, 255, 1, 2, 3, 4] (.v4 [1, 2, 3, 4]) :=
  Or.inr (Or.inl ⟨by decide, rfl⟩)
example : ipToReversedAddr [1, 2, 3, 4] = .ok (some (ascii "4.3.2.1.in-addr.arpa")) := by
  rw [ascii_ofList]; decide
example : ipToReversedAddr [1, 2, 3] = .ok none := by decide

/-- the test name `4.3.2.1.In-Addr.ARPA.` is a case variant of the canonical name of `1.2.3.4`
followed by one dot -/
theorem mixedCase_variant :
    ascii "4.3.2.1.In-Addr.ARPA." = ascii "4.3.2.1.In-Addr.ARPA" ++ [46] ∧
    asciiLower (ascii "4.3.2.1.In-Addr.ARPA") = canonPTR (.v4 [1, 2, 3, 4]) := by
  rw [ascii_ofList, ascii_ofList]
  exact ⟨rfl, by simp [canonPTR, ptr4, joinDot, dec, lblInAddr, lblArpa]; decide⟩

/-- a mixed-case variant with a trailing dot is decoded (instance of `decode_encode`) -/
example : ipFromReversedAddr some (ascii "4.3.2.1.In-Addr.ARPA.") = .ok (.ok (.v4 [1, 2, 3, 4])) := by
  rw [mixedCase_variant.1]
  exact decode_encode some (fun _ _ _ => rfl) (.v4 [1, 2, 3, 4]) ⟨rfl, by decide⟩
    (fun _ _ he => by cases he) _ mixedCase_variant.2 [46] (Or.inr rfl)
/-- model evaluation: accepted / rejected, as a Boolean (`Err` has no decidable equality) -/
def acceptedAs (r : GoM (Except Err Addr)) (a : Addr) : Bool :=
  match r with
  | .ok (.ok a') => a' == a
  | _ => false

def rejected (r : GoM (Except Err Addr)) : Bool :=
  match r with
  | .ok (.error _) => true
  | _ => false
example : acceptedAs (ipFromReversedAddr some (ascii "4.3.2.1.IN-addr.arpa.")) (.v4 [1, 2, 3, 4]) = true := by
  rw [ascii_ofList]; decide
/-- premises of `accepted_names_unique` are met by two different spellings of one name -/
example : acceptedAs (ipFromReversedAddr some (ascii "4.3.2.1.in-addr.ARPA")) (.v4 [1, 2, 3, 4]) = true := by
  rw [ascii_ofList]; decide
/-- leading zero, `+`, five labels, 31 nibbles, the repaired non-ASCII look-alike root -/
example : rejected (ipFromReversedAddr some (ascii "04.3.2.1.in-addr.arpa")) = true := by
  rw [ascii_ofList]; decide
example : rejected (ipFromReversedAddr some (ascii "+4.3.2.1.in-addr.arpa")) = true := by
  rw [ascii_ofList]; decide
example : rejected (ipFromReversedAddr some (ascii "5.4.3.2.1.in-addr.arpa")) = true := by
  rw [ascii_ofList]; decide
example : rejected (ipFromReversedAddr some
    (ascii "1.0.0.0.0.0.0.0.0.0.0.0.0.0.0.0.0.0.0.0.0.0.0.0.8.b.d.0.1.0.0.ip6.arpa")) = true := by
  rw [ascii_ofList]; decide
example : rejected (ipFromReversedAddr some
    ([52, 46, 51, 46, 50, 46, 49, 46, 0xc4, 0xb0] ++ ascii "n-addr.arpa")) = true := by
  rw [ascii_ofList]; decide

end GolibsVerif.C04
