/-
C14 — property theorems about the model of `time.ParseDuration` (`Model/C14Parse.lean`, tied
to the real function by the op `C14.std.parsedur` on every run): the contract DUR-RT that
`duration_roundtrip_of_contract` (`Theorems/C14.lean`) assumes is proved here for that model,
so the Duration round trip holds without any hypothesis about `time.ParseDuration`.
Lemmas in `Lemmas/C14Parse*.lean`.  Only property theorems and non-vacuity examples live here.
-/
import GolibsVerif.Model.C14
import GolibsVerif.Lemmas.GoM
import GolibsVerif.Model.C14Parse
import GolibsVerif.Spec.C14
import GolibsVerif.Lemmas.C14ParseDrop
import GolibsVerif.Theorems.C14

namespace GolibsVerif.C14

/-- `time.ParseDuration(time.Duration(d).String()) = d`, no error, for
every one of the 2^64 `int64` values (on the models of the two functions).  Proved from
print/parse inverse lemmas (`fmtInt`/`leadingInt`, `fmtFrac`/`leadingFraction`) and the
exactness of the `float64` arithmetic on fractions of at most 9 digits, not by enumeration. -/
theorem parse_stdString (d : Int) (hd : inInt64 d) : parseDuration (stdString d) = some d :=
  parse_stdString_all d hd

/-- `timeutil.Duration.String` does not panic, and its text (a
redundant trailing `0s`, then `0m`, cut) parses back to `d`, for every `int64`. -/
theorem parse_golibs_string (d : Int) (hd : inInt64 d) :
    ∃ s, durationString d = .ok s ∧ parseDuration s = some d :=
  ⟨_, durationString_eq d hd, durRT_parseDuration.parse_strip d hd⟩

/-- `UnmarshalText(MarshalText(d)) = d` for every `int64` duration —
no panic, no error — with `time.ParseDuration` modelled, not assumed. -/
theorem duration_roundtrip (d : Int) (hd : inInt64 d) :
    (durationMarshalText d).map (durationUnmarshalText parseDuration) = .ok (some d) :=
  duration_roundtrip_of_contract parseDuration durRT_parseDuration d hd

/-- the reference text of `duration_string_spec` parses back, too -/
theorem parse_stripRedundant (d : Int) (hd : inInt64 d) :
    parseDuration (stripRedundant (stdString d)) = some d :=
  durRT_parseDuration.parse_strip d hd

/-- For EVERY text `s` that ends in `m`, `s ++ "0s"` and `s` are
parsed alike (same value or both an error). -/
theorem parse_drop_zero_seconds (pre : Bytes) :
    parseDuration ((pre ++ [109]) ++ [48, 115]) = parseDuration (pre ++ [109]) :=
  parseDuration_append_zero 109 115 (by decide) (by omega) (by decide) pre

/-- For EVERY text `s` that ends in `h`, `s ++ "0m"` and `s` are
parsed alike. -/
theorem parse_drop_zero_minutes (pre : Bytes) :
    parseDuration ((pre ++ [104]) ++ [48, 109]) = parseDuration (pre ++ [104]) :=
  parseDuration_append_zero 104 109 (by decide) (by omega) (by decide) pre

/-- The contract **DUR-RT** of `Spec/C14.lean`, verbatim, holds for the model of
`time.ParseDuration` — so `duration_roundtrip_of_contract` applies to it. -/
theorem dur_rt_model : DurRT parseDuration := durRT_parseDuration

/-- Model sanity: the fuel of the loop (`len(s)`) never runs out — with any fuel
`n ≥ len(s)` the result is the same, i.e. the loop always ends by an error or with `s = ""`. -/
theorem parse_loop_fuel_suffices (s : Bytes) (d n : Nat) (hn : s.length ≤ n) :
    parseLoop n s d = parseLoop s.length s d :=
  parseLoop_fuel n s d hn

/-- Model sanity: every successful round of the loop consumes at least one byte. -/
theorem parse_group_consumes (s : Bytes) (v : Nat) (r : Bytes) (h : parseGroup s = some (v, r)) :
    r.length < s.length :=
  parseGroup_length s v r h

/-- go1.24 behaviour, reproduced by the op `C14.std.parsedur`: the `uint64`
sum `d += v` wraps unnoticed, `"9223372036854775808ns9223372036854775808ns"` parses to 0;
`-9223372036854775808ns` is accepted and `9223372036854775808ns` is not. -/
theorem parse_wrap_quirk :
    parseDuration (ascii "9223372036854775808ns9223372036854775808ns") = some 0 ∧
    parseDuration (ascii "-9223372036854775808ns") = some (-9223372036854775808) ∧
    parseDuration (ascii "9223372036854775808ns") = none := by
  rw [ascii_ofList, ascii_ofList, ascii_ofList]; decide +kernel

/-! ## Non-vacuity -/

-- `duration_roundtrip_of_contract` at `dur_rt_model` gives the statement of `duration_roundtrip`
example (d : Int) (hd : inInt64 d) :
    (durationMarshalText d).map (durationUnmarshalText parseDuration) = .ok (some d) :=
  duration_roundtrip_of_contract parseDuration dur_rt_model d hd

example : parseDuration (stdString 5400000000000) = some 5400000000000 := parse_stdString _ (by decide)
example : parseDuration (ascii "1h30m") = some 5400000000000 := by rw [ascii_ofList]; decide +kernel
example : parseDuration (ascii "1.5s") = some 1500000000 := by rw [ascii_ofList]; decide +kernel
example : parseDuration (ascii "1h1h") = some 7200000000000 := by rw [ascii_ofList]; decide +kernel
example : parseDuration (ascii "1") = none := by rw [ascii_ofList]; decide
example : parseDuration (ascii ".s") = none := by rw [ascii_ofList]; decide

end GolibsVerif.C14
