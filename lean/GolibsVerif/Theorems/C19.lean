/-
C19 — property theorems for `slogutil.JSONHybridHandler`
(model: `Model/C19.lean`, `Model/C19Lts.lean`; reference: `Spec/C19.lean`).

Parameters everywhere:
`pol` — the growth policy of `append` (arbitrary), `text` — `slog.TextHandler` (TEXT-1),
`encode` — `encoding/json` (either arbitrary under JSON-RT, or the executable model
`goJsonEncode`, for which JSON-RT is proved).
-/
import GolibsVerif.Lemmas.C19World
import GolibsVerif.Lemmas.C19Json
import GolibsVerif.Lemmas.C19Lts
import GolibsVerif.Gen.C19Skel

namespace GolibsVerif.C19

/-! ## Attribute accumulation: every derivation tree, every growth policy -/

/-- `attrs_path`.  Run any script of `WithAttrs` derivations (from any existing node), `Handle`
and `Enabled` calls and `Set` calls on the `*slog.LevelVar` from the root handler made by
`NewJSONHybridHandler`, with the records stored anywhere in an arbitrary initial heap, under
an arbitrary growth policy of `append`.  Then

* the outputs are those of the heap-free reference semantics, in which a node's attributes
  are the concatenation of the `WithAttrs` arguments along its path from the root (and the
  level is the constant the options' leveler reported at construction), and
* at the end every handler ever created still *reads* exactly its path concatenation
  (no later derivation or `Handle` has written into an array it can see). -/
theorem attrs_path (pol : Policy) (text : Int → Nat → List Attr → Bytes)
    (encode : Bytes → Bytes → Bytes) (lvl0 : Leveler) (lv0 : Int) (recs : List Record) (hp0 : Heap)
    (hrecs : ∀ r ∈ recs, r.wf hp0) (ops : List Op) (w' : World) (outs : List Out)
    (h : World.run pol text encode recs (rootWorld hp0 lvl0 lv0) ops = some (w', outs)) :
    ∃ s', specRun text encode (.const (lvl0.get lv0)) (recs.map (Record.info hp0)) (rootSpec lv0) ops =
        some (s', outs) ∧
      w'.handlers.map (fun hd => view w'.heap hd.attrs) = s'.paths ∧ w'.lvar = s'.lvar := by
  have hsim := root_abs pol text encode (.const (lvl0.get lv0)) lv0 hrecs ops
  rw [← rootWorld_eq, h] at hsim
  exact ⟨w'.abs, hsim.1, rfl, rfl⟩

/-- The model never gets stuck where the reference semantics is defined, and vice versa:
the two agree on the whole list of outputs (or both reject an ill-formed script) — for a root
that stores any leveler `lvl0` (asked on every `Enabled` call) … -/
theorem tree_refines_spec_dyn (pol : Policy) (text : Int → Nat → List Attr → Bytes)
    (encode : Bytes → Bytes → Bytes) (lvl0 : Leveler) (lv0 : Int) (recs : List Record) (hp0 : Heap)
    (hrecs : ∀ r ∈ recs, r.wf hp0) (ops : List Op) :
    (World.run pol text encode recs (rootWorldDyn hp0 lvl0 lv0) ops).map Prod.snd =
      (specRun text encode lvl0 (recs.map (Record.info hp0)) (rootSpec lv0) ops).map Prod.snd := by
  have hsim := root_abs pol text encode lvl0 lv0 hrecs ops
  cases hr : World.run pol text encode recs (rootWorldDyn hp0 lvl0 lv0) ops <;> rw [hr] at hsim
  · rw [hsim]; rfl
  · rw [hsim.1]; rfl

/-- … and for the root the code makes: the reference run with the constant level the options'
leveler reported at construction. -/
theorem tree_refines_spec (pol : Policy) (text : Int → Nat → List Attr → Bytes)
    (encode : Bytes → Bytes → Bytes) (lvl0 : Leveler) (lv0 : Int) (recs : List Record) (hp0 : Heap)
    (hrecs : ∀ r ∈ recs, r.wf hp0) (ops : List Op) :
    (World.run pol text encode recs (rootWorld hp0 lvl0 lv0) ops).map Prod.snd =
      (specRun text encode (.const (lvl0.get lv0)) (recs.map (Record.info hp0)) (rootSpec lv0) ops).map
        Prod.snd :=
  tree_refines_spec_dyn pol text encode _ lv0 recs hp0 hrecs ops

/-- The capacity choices of `append` are unobservable. -/
theorem policy_independent (pol₁ pol₂ : Policy) (text : Int → Nat → List Attr → Bytes)
    (encode : Bytes → Bytes → Bytes) (lvl0 : Leveler) (lv0 : Int) (recs : List Record) (hp0 : Heap)
    (hrecs : ∀ r ∈ recs, r.wf hp0) (ops : List Op) :
    (World.run pol₁ text encode recs (rootWorld hp0 lvl0 lv0) ops).map Prod.snd =
      (World.run pol₂ text encode recs (rootWorld hp0 lvl0 lv0) ops).map Prod.snd := by
  rw [tree_refines_spec pol₁ text encode lvl0 lv0 recs hp0 hrecs,
    tree_refines_spec pol₂ text encode lvl0 lv0 recs hp0 hrecs]

/-! ### The contract recorded for the derived attribute slice

`skel_withAttrs` (below) does not pin the expression `append(slices.Clip(h.textAttrs), attrs...)`
but what the translator's slice summary establishes for whatever computes the slice: the result
reads parent ++ added, and nothing is written into an array that existed before.  That is
all the attribute theorems use (`append_clip` is their only lemma about `WithAttrs`). -/

/-- "contents=parent++added; writes=fresh-only" on the backing-array heap -/
def IsolatingConcat (f : Heap → Slice → List Attr → Heap × Slice) : Prop :=
  ∀ hp s xs, s.wf hp → ∃ ext, (f hp s xs).1 = hp ++ ext ∧ (f hp s xs).2.wf (hp ++ ext) ∧
    view (hp ++ ext) (f hp s xs).2 = view hp s ++ xs

/-- the model's `append(slices.Clip(s), xs...)` satisfies it, for every growth policy -/
theorem clipAppend_isolating (pol : Policy) :
    IsolatingConcat (fun hp s xs => append pol hp (clip s) xs) :=
  fun hp s xs h => append_clip pol hp s xs h

/-- `make([]T, len(s)+len(xs))` + `copy` + `copy`, `nil` when both are empty -/
def concatFresh (hp : Heap) (s : Slice) (xs : List Attr) : Heap × Slice :=
  if s.len + xs.length = 0 then (hp, Slice.nil)
  else (hp ++ [view hp s ++ xs], { arr := hp.length, len := s.len + xs.length, cap := s.len + xs.length })

theorem concatFresh_isolating : IsolatingConcat concatFresh := by
  intro hp s xs h
  have hl : (view hp s).length = s.len := view_length h
  unfold concatFresh
  split
  · rename_i h0
    have hx : xs = [] := List.eq_nil_of_length_eq_zero (by omega)
    refine ⟨[], (List.append_nil _).symm, (List.append_nil hp).symm ▸ Slice.wf_nil hp, ?_⟩
    simp [hx, view, Slice.nil, show s.len = 0 by omega]
  · have hlen : (view hp s ++ xs).length = s.len + xs.length := by rw [List.length_append, hl]
    refine ⟨_, rfl, ⟨Nat.le_refl _, ?_⟩, ?_⟩
    · rw [arrayOf_length, hlen]
      exact Nat.le_refl _
    · rw [view, arrayOf_length, ← hlen, List.take_length]

/-- `sibling_isolation` for ANY computation of the derived slice that satisfies the contract. -/
theorem sibling_isolation_of_contract (f : Heap → Slice → List Attr → Heap × Slice)
    (hf : IsolatingConcat f) (hp : Heap) (s : Slice) (as₁ as₂ : List Attr) (hw : s.wf hp) :
    let d₁ := f hp s as₁
    let d₂ := f d₁.1 s as₂
    view d₂.1 d₁.2 = view hp s ++ as₁ ∧ view d₂.1 d₂.2 = view hp s ++ as₂ ∧ view d₂.1 s = view hp s := by
  intro d₁ d₂
  obtain ⟨e1, a1, a2, a3⟩ := hf hp s as₁ hw
  -- `d₁.1 = hp ++ e1`: the parent is still meaningful there and reads the same
  have hw1 : s.wf d₁.1 := a1.symm ▸ Slice.wf_ext hw e1
  have hv : view d₁.1 s = view hp s := a1.symm ▸ view_ext hw e1
  obtain ⟨e2, b1, _, b3⟩ := hf d₁.1 s as₂ hw1
  rw [show d₂.1 = d₁.1 ++ e2 from b1]
  exact ⟨(view_ext (a1.symm ▸ a2) e2).trans (a1.symm ▸ a3), b3.trans (by rw [hv]),
    (view_ext hw1 e2).trans hv⟩

/-- Derive two children from one handler, the second when the first
already exists (so whatever spare capacity the first derivation left is there); afterwards,
in the final heap, each child reads the parent's attributes followed by exactly its own, and
the parent reads what it read before — for every policy. -/
theorem sibling_isolation (pol : Policy) (hp : Heap) (h : Handler) (as₁ as₂ : List Attr)
    (hw : h.attrs.wf hp) :
    let d₁ := h.withAttrs pol hp as₁
    let d₂ := h.withAttrs pol d₁.1 as₂
    view d₂.1 d₁.2.attrs = view hp h.attrs ++ as₁ ∧
    view d₂.1 d₂.2.attrs = view hp h.attrs ++ as₂ ∧
    view d₂.1 h.attrs = view hp h.attrs :=
  sibling_isolation_of_contract _ (clipAppend_isolating pol) hp h.attrs as₁ as₂ hw

/-- Without `slices.Clip` the property fails as soon as `append` leaves spare capacity: the
second child's attribute overwrites the first child's (witness: one spare slot). -/
theorem noClip_breaks_isolation :
    ∃ (pol : Policy) (hp : Heap) (h : Handler) (as₁ as₂ : List Attr),
      h.attrs.wf hp ∧
      let d₁ := h.withAttrsNoClip pol hp as₁
      let d₂ := h.withAttrsNoClip pol d₁.1 as₂
      view d₂.1 d₁.2.attrs ≠ view hp h.attrs ++ as₁ := by
  refine ⟨fun _ _ _ _ => 1, [[.user 0 false, .zero]], { level := .const 0, attrs := { arr := 0, len := 1, cap := 2 } },
    [.user 1 false], [.user 2 false], by decide, by decide⟩

/-! ## One `Handle` call -/

/-- `Handle` (as repaired): for a well-formed record and handler, in any heap and under any
policy, the heap is only extended and the emitted bytes are the reference line of the
record's own attributes followed by the handler's kept attributes. -/
theorem handle_spec (pol : Policy) (text : Int → Nat → List Attr → Bytes)
    (encode : Bytes → Bytes → Bytes) (hp : Heap) (h : Handler) (r : Record) (hr : r.wf hp) :
    ∃ ext, h.handle pol text encode hp r =
      (specLine text encode r.level r.rid (r.attrs hp ++ keep (view hp h.attrs))).map
        fun out => (hp ++ ext, out) :=
  handle_eq_specLine pol text encode hp h r hr

/-- Handling the same `slog.Record` value again — after anything that only extended the heap,
in particular after a first `Handle` of it on any handler — gives the same bytes. -/
theorem same_record_twice (pol : Policy) (text : Int → Nat → List Attr → Bytes)
    (encode : Bytes → Bytes → Bytes) (hp ext : Heap) (h : Handler) (r : Record)
    (hr : r.wf hp) (hh : h.attrs.wf hp) :
    (h.handle pol text encode (hp ++ ext) r).map Prod.snd =
      (h.handle pol text encode hp r).map Prod.snd := by
  obtain ⟨e1, h1⟩ := handle_spec pol text encode hp h r hr
  obtain ⟨e2, h2⟩ := handle_spec pol text encode (hp ++ ext) h r (Record.wf_ext hr ext)
  rw [h1, h2, Record.attrs_ext hr, view_ext hh]
  cases specLine text encode r.level r.rid (r.attrs hp ++ keep (view hp h.attrs)) <;> rfl

/-- the text handler of the witness of `noClone_violates`: prints `.` per attribute and `!` for
the `!BUG` attribute -/
def witnessText : Int → Nat → List Attr → Bytes :=
  fun _ _ as => (as.map fun a => if a = .bug then 33 else 46) ++ [10]

/-- The unchanged tree (`r.AddAttrs` on the by-value copy, no `Clone`) violates the property:
a record with 8 attributes (5 inline, a shared `back` of length 3 and capacity 4) handled
twice by a handler with one attribute prints 9 attributes the first time and 10, the `!BUG`
attribute among them, the second time — while the repaired `Handle` prints the same line twice. -/
theorem noClone_violates :
    let pol : Policy := fun _ _ _ _ => 1
    let hp : Heap := [[.user 5 false, .user 6 false, .user 7 false, .zero], [.user 9 false]]
    let h : Handler := { level := .const 0, attrs := { arr := 1, len := 1, cap := 1 } }
    let r : Record := { level := 0, rid := 0, back := { arr := 0, len := 3, cap := 4 }
                        front := [.user 0 false, .user 1 false, .user 2 false, .user 3 false, .user 4 false] }
    let enc : Bytes → Bytes → Bytes := fun _ m => m
    r.wf hp ∧ h.attrs.wf hp ∧
    ((h.handleNoClone pol witnessText enc hp r).toOption.map Prod.snd = some (ascii ".........") ∧
     ((h.handleNoClone pol witnessText enc hp r).toOption.bind fun p =>
        (h.handleNoClone pol witnessText enc p.1 r).toOption.map Prod.snd) = some (ascii "........!.")) ∧
    ((h.handle pol witnessText enc hp r).toOption.map Prod.snd = some (ascii ".........") ∧
     ((h.handle pol witnessText enc hp r).toOption.bind fun p =>
        (h.handle pol witnessText enc p.1 r).toOption.map Prod.snd) = some (ascii ".........")) := by
  refine ⟨⟨by decide, by decide⟩, by decide, ⟨?_, ?_⟩, ⟨?_, ?_⟩⟩
  all_goals
    rw [ascii_ofList]
    decide

/-! ## The emitted line -/

theorem severity_valid (l : Int) : validUtf8 (severity l) = true := by
  unfold severity
  split <;> rw [ascii_ofList] <;> simp [validUtf8]

/-- "ERROR" iff the record's level is at least `slog.LevelError`, otherwise
"NORMAL". -/
theorem severity_spec (l : Int) :
    (severity l = ascii "ERROR" ↔ l ≥ levelError) ∧ (severity l = ascii "NORMAL" ↔ l < levelError) := by
  have hne : ascii "ERROR" ≠ ascii "NORMAL" := by rw [ascii_ofList, ascii_ofList]; decide
  unfold severity
  by_cases h : l ≥ levelError
  · rw [if_pos h]
    exact ⟨iff_of_true rfl h, iff_of_false hne (Int.not_lt.mpr h)⟩
  · rw [if_neg h]
    exact ⟨iff_of_false hne.symm h, iff_of_true rfl (Int.not_le.mp h)⟩

/-- `one_line_two_fields` + `message_is_text_line`, under the contracts, for any encoder:
`Handle` does not panic; it hands the writer exactly one newline-terminated line without an
inner newline; a reader of that line finds exactly the members `severity` and `message`, the
severity as specified and the message equal to the line `slog.TextHandler` prints for the
record with the handler's accumulated attributes appended (minus its newline). -/
theorem one_line_two_fields (pol : Policy) (text : Int → Nat → List Attr → Bytes)
    (encode : Bytes → Bytes → Bytes) (ht : TextContract text) (hj : JsonContract encode)
    (hp : Heap) (h : Handler) (r : Record) (hr : r.wf hp) :
    ∃ hp' out body msg,
      h.handle pol text encode hp r = .ok (hp', out) ∧
      out = body ++ [10] ∧ 10 ∉ body ∧
      text r.level r.rid (r.attrs hp ++ keep (view hp h.attrs)) = msg ++ [10] ∧
      parseLine out = some (severity r.level, msg) := by
  obtain ⟨ext, hs⟩ := handle_spec pol text encode hp h r hr
  obtain ⟨msg, hm1, hm2, hm3⟩ := ht.line r.level r.rid (r.attrs hp ++ keep (view hp h.attrs))
  obtain ⟨body, hb1, hb2⟩ := hj.oneLine (severity r.level) msg
  refine ⟨hp ++ ext, encode (severity r.level) msg, body, msg, ?_, hb1, hb2, hm1, ?_⟩
  · rw [hs, specLine_of_line hm1]; rfl
  · exact hj.roundTrip _ _ (severity_valid r.level) hm3

/-- The same for the executable model of `encoding/json` that the driver runs (and the
harness compares with the real encoder): JSON-RT is a theorem there, so only TEXT-1 is
assumed. -/
theorem one_line_two_fields_goJson (pol : Policy) (text : Int → Nat → List Attr → Bytes)
    (ht : TextContract text) (hp : Heap) (h : Handler) (r : Record) (hr : r.wf hp) :
    ∃ hp' out body msg,
      h.handle pol text goJsonEncode hp r = .ok (hp', out) ∧
      out = body ++ [10] ∧ 10 ∉ body ∧
      text r.level r.rid (r.attrs hp ++ keep (view hp h.attrs)) = msg ++ [10] ∧
      parseLine out = some (severity r.level, msg) :=
  one_line_two_fields pol text goJsonEncode ht goJson_contract hp h r hr

/-- Whatever bytes `Handle` emits, a reader finds in `message`
exactly the line `slog.TextHandler` prints for that record with the handler's accumulated
attributes appended — the text of `text(record attrs ++ kept handler attrs)` without its
final newline — and nothing of any other handler. -/
theorem message_is_text_line (pol : Policy) (text : Int → Nat → List Attr → Bytes)
    (encode : Bytes → Bytes → Bytes) (ht : TextContract text) (hj : JsonContract encode)
    (hp hp' : Heap) (h : Handler) (r : Record) (hr : r.wf hp) (out : Bytes)
    (hout : h.handle pol text encode hp r = .ok (hp', out)) :
    ∃ sev msg, parseLine out = some (sev, msg) ∧
      msg ++ [10] = text r.level r.rid (r.attrs hp ++ keep (view hp h.attrs)) := by
  obtain ⟨hp'', out', body, msg, h1, _, _, h4, h5⟩ :=
    one_line_two_fields pol text encode ht hj hp h r hr
  cases h1.symm.trans hout
  exact ⟨_, msg, h5, h4.symm⟩

/-- Well-formedness of the line survives *every* byte string the text layer could emit
(quotes, control bytes, newlines, ill-formed UTF-8): the model of the encoder always
produces one line that reads back as two members — the message with each ill-formed byte
replaced by U+FFFD. -/
theorem encoded_line_wellformed (sev msg : Bytes) :
    (∃ body, goJsonEncode sev msg = body ++ [10] ∧ 10 ∉ body) ∧
    parseLine (goJsonEncode sev msg) = some (sanitize sev, sanitize msg) :=
  ⟨goJsonEncode_oneLine sev msg, parseLine_goJsonEncode sev msg⟩

/-! ## `Enabled`: the configured level, under both readings of a `*slog.LevelVar` -/

/-- `Enabled(l)` holds iff `l` is at least the level the handler's `slog.Leveler`
field reports (`lvar` = what the `*slog.LevelVar` currently holds). -/
theorem enabled_iff (h : Handler) (lvar : Int) (l : Int) :
    h.enabled lvar l = true ↔ l ≥ h.level.get lvar := by
  simp [Handler.enabled]

/-- Every handler of a tree grown from a root that stores the leveler `lvl0` — root, children,
grandchildren, derived before or after any `Set` — stores `lvl0`: `WithAttrs` copies the field
and nothing writes it.  The `Enabled` theorems below are this fact read through `enabled_iff`. -/
theorem level_derived {pol : Policy} {text : Int → Nat → List Attr → Bytes}
    {encode : Bytes → Bytes → Bytes} {lvl0 : Leveler} {lv0 : Int} {recs : List Record} {hp0 : Heap}
    (hrecs : ∀ r ∈ recs, r.wf hp0) {ops : List Op} {w' : World} {outs : List Out}
    (h : World.run pol text encode recs (rootWorldDyn hp0 lvl0 lv0) ops = some (w', outs))
    {hd : Handler} (hmem : hd ∈ w'.handlers) : hd.level = lvl0 := by
  have hsim := root_abs pol text encode lvl0 lv0 hrecs ops
  rw [h] at hsim
  exact (hsim.2.node hd hmem).1

/-- The code: `NewJSONHybridHandler` asks the options' leveler once.  Run any
script of derivations, `Handle`, `Enabled` and `Set` calls on the `*slog.LevelVar`; every
handler ever created — root, children, grandchildren, derived before or after any `Set` — is
enabled for `l` iff `l` is at least the level the leveler reported *at construction*, whatever
the variable holds now or later (`lvar` is arbitrary): `Set` never changes an answer. -/
theorem enabled_derived (pol : Policy) (text : Int → Nat → List Attr → Bytes)
    (encode : Bytes → Bytes → Bytes) (lvl0 : Leveler) (lv0 : Int) (recs : List Record) (hp0 : Heap)
    (hrecs : ∀ r ∈ recs, r.wf hp0) (ops : List Op) (w' : World) (outs : List Out)
    (h : World.run pol text encode recs (rootWorld hp0 lvl0 lv0) ops = some (w', outs))
    (hd : Handler) (hmem : hd ∈ w'.handlers) (lvar l : Int) :
    hd.enabled lvar l = true ↔ l ≥ lvl0.get lv0 := by
  rw [enabled_iff, level_derived hrecs (rootWorld_eq hp0 lvl0 lv0 ▸ h) hmem]
  rfl

/-- The other reading: the root stores the leveler, `newHandlerDyn`.
After any script every handler of the tree is enabled for `l` iff `l` is at least what the
root's leveler reports in the final world — the *current* value of the `*slog.LevelVar`. -/
theorem enabled_derived_dyn (pol : Policy) (text : Int → Nat → List Attr → Bytes)
    (encode : Bytes → Bytes → Bytes) (lvl0 : Leveler) (lv0 : Int) (recs : List Record) (hp0 : Heap)
    (hrecs : ∀ r ∈ recs, r.wf hp0) (ops : List Op) (w' : World) (outs : List Out)
    (h : World.run pol text encode recs (rootWorldDyn hp0 lvl0 lv0) ops = some (w', outs))
    (hd : Handler) (hmem : hd ∈ w'.handlers) (l : Int) :
    hd.enabled w'.lvar l = true ↔ l ≥ lvl0.get w'.lvar := by
  rw [enabled_iff, level_derived hrecs h hmem]

/-- … spelled out for a root that stores a `*slog.LevelVar`: every handler of the tree —
whenever it was derived — is enabled for `l` iff `l` is at least the value last stored into
the variable (its initial value if the script never calls `Set`). -/
theorem enabled_follows_levelVar_dyn (pol : Policy) (text : Int → Nat → List Attr → Bytes)
    (encode : Bytes → Bytes → Bytes) (lv0 : Int) (recs : List Record) (hp0 : Heap)
    (hrecs : ∀ r ∈ recs, r.wf hp0) (ops : List Op) (w' : World) (outs : List Out)
    (h : World.run pol text encode recs (rootWorldDyn hp0 .var lv0) ops = some (w', outs))
    (hd : Handler) (hmem : hd ∈ w'.handlers) (l : Int) :
    hd.enabled w'.lvar l = true ↔ l ≥ lastLevel lv0 ops := by
  rw [enabled_derived_dyn pol text encode .var lv0 recs hp0 hrecs ops w' outs h hd hmem l, run_lvar h]
  rfl

/-- At any point of any script, all handlers of the tree give the same answer to `Enabled(l)`.
Holds under both readings: stated for a root storing any leveler, of which the code's root is
the instance `rootWorld_eq`. -/
theorem tree_consistent_dyn (pol : Policy) (text : Int → Nat → List Attr → Bytes)
    (encode : Bytes → Bytes → Bytes) (lvl0 : Leveler) (lv0 : Int) (recs : List Record) (hp0 : Heap)
    (hrecs : ∀ r ∈ recs, r.wf hp0) (ops : List Op) (w' : World) (outs : List Out)
    (h : World.run pol text encode recs (rootWorldDyn hp0 lvl0 lv0) ops = some (w', outs))
    (hd₁ hd₂ : Handler) (hm₁ : hd₁ ∈ w'.handlers) (hm₂ : hd₂ ∈ w'.handlers) (lvar l : Int) :
    hd₁.enabled lvar l = hd₂.enabled lvar l := by
  unfold Handler.enabled
  rw [level_derived hrecs h hm₁, level_derived hrecs h hm₂]

/-- `tree_consistent` for the root `NewJSONHybridHandler` makes -/
theorem tree_consistent (pol : Policy) (text : Int → Nat → List Attr → Bytes)
    (encode : Bytes → Bytes → Bytes) (lvl0 : Leveler) (lv0 : Int) (recs : List Record) (hp0 : Heap)
    (hrecs : ∀ r ∈ recs, r.wf hp0) (ops : List Op) (w' : World) (outs : List Out)
    (h : World.run pol text encode recs (rootWorld hp0 lvl0 lv0) ops = some (w', outs))
    (hd₁ hd₂ : Handler) (hm₁ : hd₁ ∈ w'.handlers) (hm₂ : hd₂ ∈ w'.handlers) (lvar l : Int) :
    hd₁.enabled lvar l = hd₂.enabled lvar l :=
  tree_consistent_dyn pol text encode _ lv0 recs hp0 hrecs ops w' outs (rootWorld_eq hp0 lvl0 lv0 ▸ h)
    hd₁ hd₂ hm₁ hm₂ lvar l

/-- The answers of the `Enabled` calls *inside* a script are those of the reference semantics
(`tree_refines_spec`, `tree_refines_spec_dyn`); spelled out for one call after an arbitrary
prefix, on a root that stores `lvl0`: the answer is `l ≥` the leveler's value at that moment. -/
theorem enabled_after_dyn (pol : Policy) (text : Int → Nat → List Attr → Bytes)
    (encode : Bytes → Bytes → Bytes) (lvl0 : Leveler) (lv0 : Int) (recs : List Record) (hp0 : Heap)
    (hrecs : ∀ r ∈ recs, r.wf hp0) (ops : List Op) (w' : World) (outs : List Out)
    (h : World.run pol text encode recs (rootWorldDyn hp0 lvl0 lv0) ops = some (w', outs))
    (n : Nat) (hn : n < w'.handlers.length) (l : Int) :
    World.run pol text encode recs (rootWorldDyn hp0 lvl0 lv0) (ops ++ [.enabled n l]) =
      some (w', outs ++ [.en (decide (l ≥ lvl0.get (lastLevel lv0 ops)))]) := by
  obtain ⟨hd, hhd⟩ : ∃ hd, w'.handlers[n]? = some hd := ⟨w'.handlers[n], List.getElem?_eq_getElem hn⟩
  have hl : w'.lvar = lastLevel lv0 ops := run_lvar h
  have hb : hd.enabled w'.lvar l = decide (l ≥ lvl0.get (lastLevel lv0 ops)) := by
    rw [Handler.enabled, level_derived hrecs h (List.mem_of_getElem? hhd), hl]
  simp only [run_snoc (.enabled n l) h, World.step, hhd, Option.bind_eq_bind, Option.bind_some,
    Option.pure_def, Option.map_some, hb]

/-- … and on the root the code makes: after any prefix, with any `Set` calls in it, `Enabled(l)`
on any existing node answers `l ≥` the level at construction. -/
theorem enabled_after (pol : Policy) (text : Int → Nat → List Attr → Bytes)
    (encode : Bytes → Bytes → Bytes) (lvl0 : Leveler) (lv0 : Int) (recs : List Record) (hp0 : Heap)
    (hrecs : ∀ r ∈ recs, r.wf hp0) (ops : List Op) (w' : World) (outs : List Out)
    (h : World.run pol text encode recs (rootWorld hp0 lvl0 lv0) ops = some (w', outs))
    (n : Nat) (hn : n < w'.handlers.length) (l : Int) :
    World.run pol text encode recs (rootWorld hp0 lvl0 lv0) (ops ++ [.enabled n l]) =
      some (w', outs ++ [.en (decide (l ≥ lvl0.get lv0))]) :=
  enabled_after_dyn pol text encode _ lv0 recs hp0 hrecs ops w' outs (rootWorld_eq hp0 lvl0 lv0 ▸ h) n hn l

/-- A handler that follows its `*slog.LevelVar` while the
children it derives keep the level seen at derivation (`withAttrsFrozen`) violates
`tree_consistent` under either reading: LevelVar at 0, derive a child, `Set(8)` — `Enabled(4)`
is now false on the root (as under the reading "current value") and still true on the child (as
under the reading "value at construction"). -/
theorem frozenChildren_inconsistent :
    let root := newHandlerDyn .var
    let child := (root.withAttrsFrozen (fun _ _ _ _ => 1) [] 0 [.user 0 false]).2
    -- before the `Set` they agree
    root.enabled 0 4 = true ∧ child.enabled 0 4 = true ∧
    -- after `Set(8)`
    root.enabled 8 4 = false ∧ child.enabled 8 4 = true := by
  refine ⟨by decide, by decide, by decide, by decide⟩

/-! ## Concurrency: all interleavings of `Handle` calls sharing one writer (MEM-1) -/

open Lts in
/-- The only step that changes what the writer has received is the `emit` step of a call inside
`Encode`, and it hands over one byte. -/
theorem out_step (P : Prog) (s s' : State) (l : Label) (hstep : next P s l = some s') :
    s'.out = s.out ∨ ∃ i c, l = .adv i ∧ (s.th i).pc = .writing ∧ s'.out = s.out ++ [c] := by
  revert hstep
  fun_cases next P s l
  -- the branch `writing`, `pending = c :: rest`
  case case15 i _ hpc c _ _ =>
    rintro ⟨⟩
    exact .inr ⟨i, c, rfl, hpc, rfl⟩
  -- every other branch is `none` or keeps `out`
  all_goals rintro ⟨⟩
  all_goals exact .inl rfl

open Lts in
/-- In every reachable state of every schedule, a step that makes the shared
writer receive a byte is taken by the call that holds `mu`. -/
theorem encoder_locked (P : Prog) (s s' : State) (i : Nat) (hr : Reachable P s)
    (hstep : next P s (.adv i) = some s') (hout : s'.out ≠ s.out) : s.mu = some i := by
  rcases out_step P s s' _ hstep with h | ⟨j, _, hl, hpc, _⟩
  · exact absurd h hout
  · cases hl
    exact ((inv_reachable P s hr).mutex i).mpr (by simp [inLock, hpc])

open Lts in
/-- Only `adv` steps of calls write: `Get` and pool GC never touch the writer. -/
theorem only_calls_write (P : Prog) (s s' : State) (l : Label) (hstep : next P s l = some s')
    (hout : s'.out ≠ s.out) : ∃ i, l = .adv i := by
  rcases out_step P s s' l hstep with h | ⟨i, _, hl, _⟩
  · exact absurd h hout
  · exact ⟨i, hl⟩

open Lts in
/-- From MEM-1's pool clause as modelled: no pooled buffer is held by two
calls, and `Encode` reads the line its own call rendered. -/
theorem pool_exclusive (P : Prog) (s : State) (hr : Reachable P s) :
    (∀ i j, i ≠ j → holds (s.th i).pc → holds (s.th j).pc → (s.th i).obj ≠ (s.th j).obj) ∧
    (∀ i, (s.th i).pc = .locked → s.bufs (s.th i).obj = P.line i) := by
  have hinv := inv_reachable P s hr
  exact ⟨hinv.excl, fun i hi => hinv.buf i (Or.inr hi)⟩

open Lts in
/-- In every reachable state the writer has received the complete lines of
the calls whose `Encode` returned, in that order, followed by a prefix of the line of the
one call that is inside `Encode` (if any). -/
theorem no_interleave (P : Prog) (s : State) (hr : Reachable P s) :
    ∃ pre, s.out = linesOf P s.completed ++ pre ∧
      (pre = [] ∨ ∃ i k, (s.th i).pc = .writing ∧ s.mu = some i ∧ pre = (lineOf P i).take k) := by
  have hinv := inv_reachable P s hr
  by_cases hw : ∃ i, (s.th i).pc = .writing
  · obtain ⟨i, hi⟩ := hw
    obtain ⟨k, _, hk⟩ := hinv.wr i hi
    exact ⟨_, hk, Or.inr ⟨i, k, hi, (hinv.mutex i).mpr (by simp [inLock, hi]), rfl⟩⟩
  · refine ⟨[], ?_, Or.inl rfl⟩
    rw [List.append_nil]
    apply hinv.idle
    intro i hi
    exact hw ⟨i, hi⟩

open Lts in
/-- When `n` calls have all returned, the writer holds exactly their `n` lines, each whole,
each once, in the order in which the calls held the mutex. -/
theorem all_lines_once (P : Prog) (s : State) (n : Nat) (hr : Reachable P s)
    (hdone : ∀ i, i < n → (s.th i).pc = .done) (hrest : ∀ i, n ≤ i → (s.th i).pc = .start) :
    s.out = linesOf P s.completed ∧ s.completed.Nodup ∧ ∀ i, i ∈ s.completed ↔ i < n := by
  have hinv := inv_reachable P s hr
  refine ⟨?_, hinv.nodup, ?_⟩
  · apply hinv.idle
    intro i
    by_cases h : i < n
    · rw [hdone i h]; decide
    · rw [hrest i (Nat.le_of_not_lt h)]; decide
  · intro i
    rw [hinv.comp i]
    by_cases h : i < n
    · simp [finished, hdone i h, h]
    · simp [finished, hrest i (Nat.le_of_not_lt h), h]

/-! ## The source still has the structure the models were written against (T-gen) -/

/-- The two paths of `Handle` (all helpers inlined), as re-extracted from the
current source: the success path and the error exit of the text handler. -/
theorem skel_handle : Gen.C19Skel.handle =
    [[("call", Lts.evGet), ("defer", "syncutil.Pool.Put"), ("call", Lts.evReset), ("call", Lts.evAddAttrs),
      ("call", Lts.evTextHandle), ("assume", "isnil(slog.TextHandler.Handle#1)"), ("call", Lts.evBytes),
      ("call", Lts.evLock), ("defer", "sync.Mutex.Unlock"), ("call", Lts.evEncode), ("run", Lts.evUnlock),
      ("run", Lts.evPut), ("return", "")],
     [("call", Lts.evGet), ("defer", "syncutil.Pool.Put"), ("call", Lts.evReset), ("call", Lts.evAddAttrs),
      ("call", Lts.evTextHandle), ("assume-not", "isnil(slog.TextHandler.Handle#1)"), ("run", Lts.evPut),
      ("return", "")]] := rfl

/-- … and on every path the operations are executed in the order of the steps of the transition
system: `Encode` only between `Lock` and `Unlock`, the pooled buffer used only between `Get`
and `Put`, which comes after `Unlock`; `Unlock` and `Put` are deferred calls. -/
theorem skel_handle_order :
    Gen.C19Skel.handle.map Lts.pathOps = [Lts.programOrder, Lts.errorOrder] ∧
    Gen.C19Skel.handle.map Lts.pathDeferred = [[Lts.evUnlock, Lts.evPut], [Lts.evPut]] := by
  simp [skel_handle, Lts.pathOps, Lts.pathDeferred, Lts.programOrder, Lts.errorOrder, Lts.stepEvents]

/-- `WithAttrs` has one path and no operation on a shared object; in the
handler it returns, encoder, pool and mutex are the receiver's own objects, the level is the
receiver's, and the attribute slice satisfies the contract `IsolatingConcat` above
(`append(slices.Clip(h.textAttrs), attrs...)` does, so does an exact-size `make` + `copy`;
`append` after `slices.Grow` does not). -/
theorem skel_withAttrs : Gen.C19Skel.withAttrs =
    [[("return", "[]slog.Attr: contents=parent++added; writes=fresh-only; spare=unshared; aliases-argument=no, " ++
        "json.Encoder: shared, slog.Level: =h.<slog.Level>, sync.Mutex: shared, " ++
        "syncutil.Pool[{bytes.Buffer,slog.TextHandler}]: shared")]] := by decide +kernel

/-- `Enabled` is `level >= h.level`, the severity is `ERROR` from `slog.LevelError` (8) on, and no
function of the package writes a field of an existing handler. -/
theorem skel_enabled_severity :
    Gen.C19Skel.enabled = [[("return", "(arg2 >= h.<slog.Level>)")]] ∧
    Gen.C19Skel.severity = "ite((arg2.Level >= 8), \"ERROR\", \"NORMAL\")" ∧
    Gen.C19Skel.fieldWrites = [] := ⟨rfl, rfl, rfl⟩

/-! ## The hypotheses are satisfiable -/

/-- a text handler satisfying TEXT-1 -/
example : TextContract (fun _ _ as => as.map (fun _ => 46) ++ [10]) where
  line := by
    intro l rid as
    refine ⟨as.map (fun _ => 46), rfl, by simp, ?_⟩
    induction as with
    | nil => simp [validUtf8]
    | cons a as ih => simp [validUtf8, ih]

/-- JSON-RT is satisfiable: the encoder model satisfies it -/
example : JsonContract goJsonEncode := goJson_contract

/-- well-formed records exist, with a shared `back` that has spare capacity -/
example : Record.wf [[.user 5 false, .zero]]
    { level := 0, rid := 0, front := [.user 0 false, .user 1 false, .user 2 false, .user 3 false, .user 4 false],
      back := { arr := 0, len := 1, cap := 2 } } := ⟨by decide, by decide⟩

/-- a concrete script — LevelVar at 0 (INFO): derive a child and a grandchild, ask both
`Enabled(4)`, `Set(8)`, ask root, child and grandchild again, derive another child after the
`Set`, `Set(-4)`, ask again — on the root `NewJSONHybridHandler` makes from the variable (the
answers never change: the level is the 0 read at construction), on a root that stores the
variable (every node follows it, also the one derived after the `Set`), and on a root with the
constant level 0 (as the first) -/
example :
    let script : List Op :=
      [.withAttrs 0 [.user 0 false], .withAttrs 1 [.user 1 false], .enabled 1 4, .enabled 2 4,
       .setLevel 8, .enabled 0 4, .enabled 1 4, .enabled 2 4, .enabled 2 8,
       .withAttrs 0 [.user 2 false], .enabled 3 4,
       .setLevel (-4), .enabled 1 0, .enabled 3 (-4), .enabled 3 (-5)]
    let run := fun w => (World.run (fun _ _ _ _ => 1) (fun _ _ _ => [10]) (fun _ m => m) [] w script).map
      Prod.snd
    let frozen : List Out := [.derived, .derived, .en true, .en true,
       .set, .en true, .en true, .en true, .en true,
       .derived, .en true,
       .set, .en true, .en false, .en false]
    run (rootWorld [] .var 0) = some frozen ∧
    run (rootWorld [] (.const 0) 5) = some frozen ∧
    run (rootWorldDyn [] .var 0) = some [.derived, .derived, .en true, .en true,
       .set, .en false, .en false, .en false, .en true,
       .derived, .en false,
       .set, .en true, .en true, .en false] :=
  ⟨rfl, rfl, rfl⟩

open Lts in
/-- reachable states in which two overlapping calls have both returned exist (so
`all_lines_once` is not vacuous) -/
example : ∃ s, Reachable ⟨fun _ => [65, 10], fun _ b => b⟩ s ∧
    (∀ i, i < 2 → (s.th i).pc = .done) ∧ (∀ i, 2 ≤ i → (s.th i).pc = .start) := by
  refine ⟨_, ⟨[.get 0 none, .get 1 none, .adv 0, .adv 1, .adv 0, .adv 1,
    .adv 0, .adv 0, .adv 0, .adv 0, .adv 0, .adv 0, .adv 0,
    .adv 1, .adv 1, .adv 1, .adv 1, .adv 1, .adv 1, .adv 1], rfl⟩, ?_, ?_⟩
  · intro i hi
    have : i = 0 ∨ i = 1 := by omega
    rcases this with rfl | rfl <;> rfl
  · intro i hi
    have h0 : i ≠ 0 := by omega
    have h1 : i ≠ 1 := by omega
    simp [upd, h0, h1, init]

end GolibsVerif.C19
