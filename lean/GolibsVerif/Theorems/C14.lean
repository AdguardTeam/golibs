/-
C14 — property theorems: the text and JSON encodings of Duration, HostPort, Prefix and URL
are lossless (models in `Model/C14.lean`, reference definitions and contracts in
`Spec/C14.lean`, lemmas in `Lemmas/C14*.lean`).  Only property theorems and non-vacuity
examples live here.
-/
import GolibsVerif.Model.C14
import GolibsVerif.Spec.C14
import GolibsVerif.Lemmas.C14Duration
import GolibsVerif.Lemmas.C14HostPort

namespace GolibsVerif.C14

/-! ## Duration -/

/-- For every `int64` duration, `Duration.String` returns (without
panicking) exactly `time.Duration`'s text with a trailing `0s` after the minutes and then a
trailing `0m` after the hours removed. -/
theorem duration_string_spec (d : Int) (hd : inInt64 d) :
    durationString d = .ok (stripRedundant (stdString d)) :=
  durationString_eq d hd

/-- The slicings `str[:len(str)-2]`, `str[:len(str)-4]` never panic. -/
theorem duration_slice_safe (d : Int) (hd : inInt64 d) : ∃ s, durationString d = .ok s :=
  ⟨_, durationString_eq d hd⟩

/-- the `int64` product `rounded * time.Second` in `Duration.String` never wraps -/
theorem duration_no_wrap (d : Int) (hd : inInt64 d) :
    wrap64 (d.tdiv 1000000000 * 1000000000) = d.tdiv 1000000000 * 1000000000 :=
  wrap64_tdiv_mul d hd

/-- `UnmarshalText(MarshalText(d)) = d` for every `int64`
duration and *any* parser satisfying DUR-RT.  The contract is proved for the Lean model of
`time.ParseDuration` in `Theorems/C14Parse.lean` (`dur_rt_model`),
where `duration_roundtrip` is stated without it. -/
theorem duration_roundtrip_of_contract (parseDuration : Bytes → Option Int) (C : DurRT parseDuration)
    (d : Int) (hd : inInt64 d) :
    (durationMarshalText d).map (durationUnmarshalText parseDuration) = .ok (some d) := by
  unfold durationMarshalText durationUnmarshalText
  rw [durationString_eq d hd]
  exact congrArg Except.ok (C.parse_strip d hd)

/-! ## HostPort -/

/-- **U16-RT**, proved on the models of `strconv.FormatUint` / `strconv.ParseUint`:
decimal formatting and parsing of a `uint16` round-trips. -/
theorem u16_roundtrip (p : Nat) (hp : p < 65536) : parseUint16 (formatUint p) = .ok p :=
  parseUint16_formatUint p hp

/-- `net.SplitHostPort(net.JoinHostPort(host, port)) = (host, port)` for every host without
square brackets and every port text without `:`, `[`, `]` (on the Lean models of the two
functions, including the bracketed form and all bounds checks). -/
theorem net_split_join (h p : Bytes) (hl : 91 ∉ h) (hr : 93 ∉ h) (pc : 58 ∉ p) (pl : 91 ∉ p) (pr : 93 ∉ p) :
    netSplitHostPort (netJoinHostPort h p) = .ok (.ok (h, p)) :=
  netSplit_join h p hl hr pc pl pr

/-- For every host without square brackets (any bytes, colons, `%`,
empty) and every `uint16` port, `ParseHostPort(hp.String())` returns `hp`, without panic. -/
theorem hostport_roundtrip (h : Bytes) (p : Nat) (hl : 91 ∉ h) (hr : 93 ∉ h) (hp : p < 65536) :
    parseHostPort (HostPort.string ⟨h, p⟩) = .ok (.ok ⟨h, p⟩) := by
  unfold parseHostPort HostPort.string
  rw [splitHostPort_join h p hl hr hp]
  rfl

/-! ## Prefix -/

/-- On text containing `/`, `Prefix.UnmarshalText` is exactly
`netip.ParsePrefix` (value or error); on non-empty text without `/` it fails exactly when
`netip.ParseAddr` fails and otherwise yields `PrefixFrom(addr, addr.BitLen())`. -/
theorem prefix_unmarshal_spec (S : NetipStd) (b : Bytes) :
    (47 ∈ b → prefixUnmarshalText S b = S.parsePrefix b) ∧
    (47 ∉ b → b ≠ [] → S.parseAddr b = none → prefixUnmarshalText S b = none) ∧
    (47 ∉ b → b ≠ [] → ∀ a, S.parseAddr b = some a →
      prefixUnmarshalText S b = some (prefixFrom a a.bitLen)) := by
  have hs : containsSlash b = true ↔ 47 ∈ b := by
    unfold containsSlash; rw [decide_eq_true_iff]; exact indexByte_nonneg_iff
  unfold prefixUnmarshalText
  refine ⟨fun hm => ?_, fun hm hne ha => ?_, fun hm hne a ha => ?_⟩
  · have hne : b ≠ [] := fun e => by simp [e] at hm
    simp [hs.2 hm, NetipStd.prefixUnmarshalText, hne]
  · simp [mt hs.1 hm, NetipStd.addrUnmarshalText, hne, ha]
  · simp [mt hs.1 hm, NetipStd.addrUnmarshalText, hne, ha]

/-- the prefix built from a bare IPv4 / IPv6 address is the full-length single-address
prefix of that address (zone dropped, as a `netip.Prefix` cannot carry one) -/
theorem prefix_bare_single_address (a : Addr) (hk : a.kind = 4 ∨ a.kind = 6) :
    prefixFrom a a.bitLen = ⟨a.withoutZone, a.bitLen⟩ ∧ (a.bitLen = 32 ∨ a.bitLen = 128) := by
  unfold prefixFrom Addr.bitLen
  rcases hk with h | h <;> simp [h]

/-! ## URL -/

section URL
variable {U : Type}

/-- a URL accepted by `urlutil.Parse` comes from `url.Parse` and has a non-empty text -/
theorem url_parse_accepts (S : UrlStd U) (raw : Bytes) (u : U) (h : urlParse S raw = .ok u) :
    raw ≠ [] ∧ S.parse raw = some u ∧ S.str u ≠ [] := by
  unfold urlParse at h
  by_cases h0 : raw = []
  · simp [h0] at h
  · simp only [h0, if_false] at h
    cases hp : S.parse raw with
    | none => simp [hp] at h
    | some v =>
      simp only [hp] at h
      by_cases he : S.str v = []
      · simp [he] at h
      · simp only [he, if_false, Except.ok.injEq] at h
        subst h
        exact ⟨h0, rfl, he⟩

/-- `UnmarshalText` accepts exactly the non-empty texts that `url.Parse` accepts, with its URL -/
theorem urlUnmarshalText_ok (S : UrlStd U) (b : Bytes) (u : U) :
    urlUnmarshalText S b = .ok u ↔ b ≠ [] ∧ S.parse b = some u := by
  unfold urlUnmarshalText
  by_cases h0 : b = []
  · simp [h0]
  · cases hq : S.parse b <;> simp [h0]

/-- The text round trip holds exactly under URL-ID at `u`: `urlutil` adds nothing to and removes
nothing from what `net/url` does with the text. -/
theorem url_text_roundtrip_iff (S : UrlStd U) (raw : Bytes) (u : U) (hp : urlParse S raw = .ok u) :
    (∃ u', urlUnmarshalText S (urlMarshalText S u) = .ok u' ∧ S.str u' = S.str u) ↔ UrlIdAt S u :=
  have hne := (url_parse_accepts S raw u hp).2.2
  exists_congr fun u' => and_congr_left' ((urlUnmarshalText_ok S _ u').trans (and_iff_right hne))

/-- `url_text_roundtrip` (under URL-ID at `u`): for every URL `u` accepted by
`urlutil.Parse`, `UnmarshalText(MarshalText(u))` succeeds with a URL whose `String()` equals
`u`'s. -/
theorem url_text_roundtrip (S : UrlStd U) (raw : Bytes) (u : U) (hp : urlParse S raw = .ok u)
    (hid : UrlIdAt S u) :
    ∃ u', urlUnmarshalText S (urlMarshalText S u) = .ok u' ∧ S.str u' = S.str u :=
  (url_text_roundtrip_iff S raw u hp).2 hid

/-- `url_json_roundtrip` (under URL-ID at `u` and JSON-RT at `u.String()`): for every URL
accepted by `urlutil.Parse`, `json.Unmarshal(json.Marshal(u))` succeeds — no panic, no error,
not the `null` branch — with a URL whose `String()` equals `u`'s. -/
theorem url_json_roundtrip (S : UrlStd U) (J : JsonStd) (raw : Bytes) (u : U)
    (hp : urlParse S raw = .ok u) (hid : UrlIdAt S u) (hj : JsonRtAt J (S.str u)) :
    ∃ u', urlUnmarshalJSON S J (urlMarshalJSON S J u) = .ok (.ok (some u')) ∧ S.str u' = S.str u := by
  obtain ⟨u', ht, hs⟩ := url_text_roundtrip S raw u hp hid
  obtain ⟨mid, hq⟩ := hj.shape
  refine ⟨u', ?_, hs⟩
  unfold urlMarshalJSON urlUnmarshalJSON
  unfold urlMarshalText at ht ⊢
  have hnull : J.quote (S.str u) ≠ [110, 117, 108, 108] := by rw [hq]; simp
  have hlen : ¬ (((J.quote (S.str u)).length : Int) = 0) := by rw [hq]; simp; omega
  have hfirst : GoM.idx (J.quote (S.str u)) 0 = .ok 34 := by rw [hq]; exact GoM.idx_zero_cons _ _
  have hlast : GoM.idx (J.quote (S.str u)) (((J.quote (S.str u)).length : Int) - 1) = .ok 34 := by
    rw [hq]; exact GoM.idx_last_snoc 34 mid 34
  rw [if_neg hnull]
  simp only [hlen, if_false, hfirst, hlast, bind, Except.bind, hj.rt, ht]
  simp [Except.map, pure, Except.pure]

end URL

/-! ## The behaviour of the pre-fix `UnmarshalJSON` -/

/-- toy `net/url`: every text is a URL and renders as itself -/
def toyUrl : UrlStd Bytes := { parse := some, str := id }

/-- toy `encoding/json`: `&` is written as `\u0026` (as `encoding/json` does), everything else
verbatim; decoding is the inverse -/
def toyQuoteBody : Bytes → Bytes
  | [] => []
  | 38 :: r => [92, 117, 48, 48, 50, 54] ++ toyQuoteBody r
  | b :: r => b :: toyQuoteBody r

def toyUnquoteBody : Bytes → Bytes
  | 92 :: 117 :: 48 :: 48 :: 50 :: 54 :: r => 38 :: toyUnquoteBody r
  | b :: r => b :: toyUnquoteBody r
  | [] => []

def toyJson : JsonStd :=
  { quote := fun s => 34 :: (toyQuoteBody s ++ [34]),
    unquote := fun t => match t with
      | 34 :: r => (if r.getLast? = some 34 then some (toyUnquoteBody r.dropLast) else none)
      | _ => none }

/-- `a&b` is marshalled as `"a\u0026b"`: the pre-fix `UnmarshalJSON` (quotes stripped, no
unescaping) returns the URL `a\u0026b`, not `a&b` — defect #13 of DESIGN.md §9 — while the
repaired one returns `a&b`. -/
theorem url_json_unfixed_corrupts :
    urlUnmarshalJSONUnfixed toyUrl (urlMarshalJSON toyUrl toyJson [97, 38, 98])
      = .ok (.ok (some [97, 92, 117, 48, 48, 50, 54, 98])) ∧
    urlUnmarshalJSON toyUrl toyJson (urlMarshalJSON toyUrl toyJson [97, 38, 98])
      = .ok (.ok (some [97, 38, 98])) := by
  constructor <;> rfl

/-- the pre-fix `UnmarshalJSON` panics on the one-byte input `"` (`b[1:0]`) -/
theorem url_json_unfixed_panics :
    urlUnmarshalJSONUnfixed toyUrl [34] = .error (.sliceOutOfRange 1 0 1) := by rfl

/-! ## Non-vacuity: the hypotheses are satisfiable -/

example : inInt64 3600000000000 := by decide
example : inInt64 (-9223372036854775808) := by decide

-- URL-ID and JSON-RT hold at every text for the toy instances, and `urlParse` accepts
example : ∀ u : Bytes, UrlIdAt toyUrl u := fun u => ⟨u, rfl, rfl⟩
example : urlParse toyUrl [97, 38, 98] = .ok [97, 38, 98] := by rfl
example : JsonRtAt toyJson [97, 38, 98] := ⟨⟨_, rfl⟩, by rfl⟩

example : parseHostPort (HostPort.string ⟨[58, 58, 49], 80⟩) = .ok (.ok ⟨[58, 58, 49], 80⟩) :=
  hostport_roundtrip _ _ (by decide) (by decide) (by decide)

end GolibsVerif.C14
