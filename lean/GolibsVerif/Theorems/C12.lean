/-
C12 — property theorems for `netutil/addrconv.go` and `netutil/sort.go`
(models in `Model/C12.lean`, reference notions in `Spec/C12.lean`).
Only property theorems and non-vacuity examples live here.
-/
import GolibsVerif.Lemmas.C12

set_option linter.unusedSimpArgs false

namespace GolibsVerif.C12

/-- `IPToAddr` for the two families: it succeeds exactly when the normal form of the
requested family (`To4` resp. `To16`) is non-nil; then the result has that family, exactly
the normalised bytes and no zone; otherwise it returns an error.  It never panics. -/
theorem ipToAddr_spec (ip : Option Bytes) (fam : Nat) (hf : fam = famV4 ∨ fam = famV6) :
    match normalised fam ip with
    | some nb => ∃ a, ipToAddr ip fam = .ok (.ok a) ∧ a.bytes = nb ∧ a.zoneOf = [] ∧
        a.is4 = decide (fam = famV4) ∧ a.is6 = decide (fam = famV6)
    | none => ∃ e, ipToAddr ip fam = .ok (.error e) := by
  cases ip with
  | none => exact ⟨.nilIP, rfl⟩
  | some b =>
    rcases hf with rfl | rfl
    · rw [ipToAddr_v4]
      show match to4 b with | some nb => _ | none => _
      cases to4 b with
      | none => exact ⟨_, rfl⟩
      | some b4 => exact ⟨_, rfl, rfl, rfl, rfl, rfl⟩
    · rw [ipToAddr_v6]
      show match to16 b with | some nb => _ | none => _
      cases to16 b with
      | none => exact ⟨_, rfl⟩
      | some b16 => exact ⟨_, rfl, rfl, rfl, rfl, rfl⟩

/-- `IPToAddrNoMapped`: a 4-byte or IPv4-mapped value becomes the IPv4 address with the
`To4` bytes; any other 16-byte value becomes the IPv6 address with the same bytes, which is
then not IPv4-mapped; everything else (nil included) is an error.  Never panics. -/
theorem noMapped_unmaps (ip : Option Bytes) :
    match to4 (orNil ip), to16 (orNil ip) with
    | some b4, _ => ipToAddrNoMapped ip = .ok (.ok (.v4 b4))
    | none, some b16 => ipToAddrNoMapped ip = .ok (.ok (.v6 b16 [])) ∧ (Addr.v6 b16 []).is4In6 = false
    | none, none => ∃ e, ipToAddrNoMapped ip = .ok (.error e) := by
  unfold ipToAddrNoMapped
  cases h4 : to4 (orNil ip) with
  | some b4 =>
    show ipToAddr (some b4) famV4 = _
    rw [ipToAddr_v4, to4_idem h4]
  | none =>
    cases ip with
    | none => exact ⟨.nilIP, rfl⟩
    | some b =>
      simp only [orNil, Option.getD_some] at h4 ⊢
      rw [ipToAddr_v6]
      cases h16 : to16 b with
      | none => exact ⟨_, rfl⟩
      | some b16 =>
        refine ⟨rfl, ?_⟩
        rw [is4In6_v6 [] (to16_some h16).1, to16_of_to4_none h4 h16, h4]
        rfl

/-- the result of `IPToAddrNoMapped` is never an IPv4-mapped IPv6 address -/
theorem noMapped_not_4in6 (ip : Option Bytes) (a : Addr) (h : ipToAddrNoMapped ip = .ok (.ok a)) :
    a.is4In6 = false := by
  have := noMapped_unmaps ip
  split at this
  · rw [this] at h; cases h; rfl
  · rw [this.1] at h; cases h; exact this.2
  · obtain ⟨e, he⟩ := this
    rw [he] at h; cases h

/-- `NetAddrToAddrPort` on a `*net.TCPAddr` / `*net.UDPAddr`: the port is kept (ports are
0..65535); a 4-byte IP gives that IPv4 address, an IPv4-mapped IP gives the IPv4 address of
its last four bytes (an IPv4 `netip.Addr` has no zone), any other 16-byte IP gives the IPv6
address with the same bytes and the same zone; any other length gives the invalid Addr. -/
theorem netAddr_preserves (ip : Bytes) (port : Int) (zone : Bytes) (hp : 0 ≤ port ∧ port < 65536) :
    netAddrToAddrPort (.udp ip port zone) = netAddrToAddrPort (.tcp ip port zone) ∧
    (netAddrToAddrPort (.tcp ip port zone)).port = port.toNat ∧
    (netAddrToAddrPort (.tcp ip port zone)).addr.is4In6 = false ∧
    (netAddrToAddrPort (.tcp ip port zone)).addr =
      match to4 ip with
      | some b4 => .v4 b4
      | none => if ip.length = 16 then .v6 ip zone else .zero := by
  have hport : (port % 65536).toNat = port.toNat := by
    rw [Int.emod_eq_of_lt hp.1 hp.2]
  refine ⟨rfl, ?_⟩
  simp only [netAddrToAddrPort, sockAddrPort, addrFromSlice, hport]
  rcases ip_cases ip with ⟨l4, e, -⟩ | ⟨l16, hm, e, -⟩ | ⟨l16, hm, e, -⟩ | ⟨n4, n16, e, -⟩
  · simp [l4, e, Addr.withZone, Addr.is4In6]
  · simp [show ¬ ip.length = 4 by omega, l16, e, Addr.withZone, Addr.unmap, Addr.is4In6, hm]
  · simp [show ¬ ip.length = 4 by omega, l16, e, Addr.withZone, Addr.unmap, Addr.is4In6, hm]
  · simp [n4, n16, e, Addr.withZone, Addr.is4In6]

/-- the other `net.Addr` kinds: values without an `AddrPort` method, the nil interface and
nil `*TCPAddr`/`*UDPAddr` give the zero `AddrPort`; any other implementation's answer is
passed through with only an IPv4-mapped address unmapped (port kept) -/
theorem netAddr_other_kinds :
    netAddrToAddrPort .nil = ⟨.zero, 0⟩ ∧ netAddrToAddrPort .other = ⟨.zero, 0⟩ ∧
    netAddrToAddrPort .tcpNil = ⟨.zero, 0⟩ ∧ netAddrToAddrPort .udpNil = ⟨.zero, 0⟩ ∧
    ∀ ap : AddrPort, netAddrToAddrPort (.custom ap) = ⟨ap.addr.unmap, ap.port⟩ := by
  refine ⟨rfl, rfl, rfl, rfl, ?_⟩
  intro ap
  cases hm : ap.addr.is4In6 with
  | true => simp [netAddrToAddrPort, hm]
  | false =>
    have : ap.addr.unmap = ap.addr := by
      cases h : ap.addr with
      | zero => rfl
      | v4 b => rfl
      | v6 b z => rw [h] at hm; simp [Addr.unmap, hm]
    simp [netAddrToAddrPort, hm, this]


/-
Full statement of the membership claim as the property has it (DESIGN.md §5):

    ipNetToPrefix (some n) fam = ok p → maskLen n = addrLen p →
      ∀ x of p's family (IPv6: not 4in6, no zone), p.contains x = ipNetContains n x.bytes

This statement is FALSE, for the model and for the real code alike: see
`prefix_membership_mapped_gap` below (an IPv4 / IPv4-mapped network number converted under
`AddrFamilyIPv6` with a 16-byte mask of fewer than 96 ones).  What is proved is the statement
with exactly that case excluded (`hmap`), hence the name `…_partial`; for
`IPNetToPrefixNoMapped` the claim holds without the exclusion (`prefix_membership_noMapped`).
-/

/-- Membership is preserved.  If `IPNetToPrefix` (repaired) returns `p` for subnet `n`, the
mask is as long as the converted address, and — the one extra hypothesis, shown necessary
by `prefix_membership_mapped_gap` — the converted address is not IPv4-mapped or the prefix
has at least 96 bits, then for every zone-less address `x` of `p`'s family (IPv6: not
IPv4-mapped) `p.Contains(x)` equals `n.Contains(x.AsSlice())`. -/
theorem prefix_membership_partial (n : IPNet) (fam : Nat) (p : Prefix)
    (hip : IsByte (orNil n.ip)) (hmask : IsByte (orNil n.mask))
    (h : ipNetToPrefix (some n) fam = .ok (.ok p))
    (hlen : (orNil n.mask).length = p.addr.bytes.length)
    (hmap : p.addr.is4In6 = false ∨ 96 ≤ p.bits)
    (x : Addr) (hxwf : x.WF) (hfam : x.bitLen = p.addr.bitLen)
    (hx46 : x.is4In6 = false) (hxz : x.zoneOf = []) :
    p.contains x = ipNetContains n x.bytes := by
  obtain ⟨a, k, hc, hs, -, hle, rfl⟩ := ipNetToPrefix_ok h
  obtain ⟨-, hmeq⟩ := simpleMaskLength_some _ hmask k hs
  obtain ⟨hv, hz, hwf, -⟩ := ipToAddr_ok hc
  replace hwf := hwf hip
  simp only [hz] at hlen hmap hfam ⊢
  -- both sides run the loop of `IPNet.Contains` over the bytes of `a` under the canonical mask
  rw [contains_cidr hwf hxwf hv hfam hxz hle, ← hlen, ← hmeq, ipNetContains_conv hc hlen hxwf hfam hx46]
  cases h46 : a.is4In6 with
  | false => rfl
  | true =>
    -- except when `a` is IPv4-mapped, where `IPNet.Contains` is false; so is the prefix, whose first 12 bytes
    -- (inside its ≥ 96 bits) are the IPv4-mapped prefix while those of `x` are not
    rw [h46] at hmap
    have h96 : 96 ≤ k := by
      rcases hmap with hm | hm
      · cases hm
      · simp [Prefix.bits] at hm; omega
    refine (Bool.eq_false_iff.2 fun hme => ?_).trans rfl
    rw [hmeq, hlen] at hme
    have ht := maskedEq_cidr_take _ _ k 12 (hwf.length_eq hxwf hfam).symm hwf.isByte hxwf.isByte (by omega) hme
    cases a with
    | v6 b z =>
      cases x with
      | v6 xb zx =>
        rw [Addr.is4In6, show xb.take 12 = b.take 12 from ht.symm] at hx46
        exact absurd (hx46 ▸ h46 : false = true) (by decide)
      | _ => cases hfam
    | _ => cases h46


/-- A nil, empty or non-contiguous mask is rejected, never widened: neither function returns
a prefix, and for the two families `IPNetToPrefix` returns an error (it does not panic). -/
theorem bad_mask_rejected (n : IPNet) (fam : Nat) (hmask : IsByte (orNil n.mask))
    (hbad : n.mask = none ∨ orNil n.mask = [] ∨ ¬ Contiguous (orNil n.mask)) :
    (∀ p, ipNetToPrefix (some n) fam ≠ .ok (.ok p)) ∧
    (∀ p, ipNetToPrefixNoMapped (some n) ≠ .ok (.ok p)) ∧
    ((fam = famV4 ∨ fam = famV6) → ∃ e, ipNetToPrefix (some n) fam = .ok (.error e)) := by
  have key : ∀ (n' : IPNet) (fam' : Nat), n'.mask = n.mask → ∀ p, ipNetToPrefix (some n') fam' ≠ .ok (.ok p) := by
    intro n' fam' hm p h
    obtain ⟨addr, ones, _, hs, hne, _, _⟩ := ipNetToPrefix_ok h
    rw [hm] at hs hne
    rcases hbad with hnone | hnil | hnc
    · apply hne; rw [hnone]; rfl
    · exact hne hnil
    · exact hnc ⟨ones, simpleMaskLength_some _ hmask ones hs⟩
  refine ⟨key n fam rfl, ?_, ?_⟩
  · intro p
    cases h4 : to4 (orNil n.ip) with
    | some ip4 =>
      simp only [ipNetToPrefixNoMapped, h4]
      exact key { ip := some ip4, mask := n.mask } famV4 rfl p
    | none =>
      simp only [ipNetToPrefixNoMapped, h4]
      exact key _ _ rfl p
  · intro hf
    obtain ⟨r, hr⟩ := ipNetToPrefix_total (some n) fam hf
    cases r with
    | error e => exact ⟨e, hr⟩
    | ok p => exact absurd hr (key n fam rfl p)

/-- For `AddrFamilyIPv4` the membership claim holds at full strength (the converted address
is an IPv4 address, so the exclusion of `prefix_membership_partial` is vacuous). -/
theorem prefix_membership_v4 (n : IPNet) (p : Prefix)
    (hip : IsByte (orNil n.ip)) (hmask : IsByte (orNil n.mask))
    (h : ipNetToPrefix (some n) famV4 = .ok (.ok p))
    (hlen : (orNil n.mask).length = p.addr.bytes.length)
    (x : Addr) (hxwf : x.WF) (hfam : x.bitLen = p.addr.bitLen)
    (hx46 : x.is4In6 = false) (hxz : x.zoneOf = []) :
    p.contains x = ipNetContains n x.bytes :=
  prefix_membership_partial n famV4 p hip hmask h hlen (Or.inl (ipNetToPrefix_is4In6 h)) x hxwf hfam hx46 hxz

/-- `IPNetToPrefixNoMapped`: membership is preserved whenever the mask is as long as the
converted address — no further hypothesis, because the converted address is never
IPv4-mapped here. -/
theorem prefix_membership_noMapped (n : IPNet) (p : Prefix)
    (hip : IsByte (orNil n.ip)) (hmask : IsByte (orNil n.mask))
    (h : ipNetToPrefixNoMapped (some n) = .ok (.ok p))
    (hlen : (orNil n.mask).length = p.addr.bytes.length)
    (x : Addr) (hxwf : x.WF) (hfam : x.bitLen = p.addr.bitLen)
    (hx46 : x.is4In6 = false) (hxz : x.zoneOf = []) :
    p.contains x = ipNetContains n x.bytes := by
  cases h4 : to4 (orNil n.ip) with
  | some ip4 =>
    -- the call is `IPNetToPrefix` of the subnet with `To4` of its network number, which
    -- `IPNet.Contains` cannot tell from the subnet itself
    simp only [ipNetToPrefixNoMapped, h4] at h
    have h4' : to4 (orNil (some ip4)) = some ip4 := to4_idem h4
    have := prefix_membership_v4 { ip := some ip4, mask := n.mask } p ((to4_some h4).2 hip) hmask h hlen
      x hxwf hfam hx46 hxz
    rw [this, ipNetContains, ipNetContains, nnm_to4 h4', nnm_to4 h4]
  | none =>
    simp only [ipNetToPrefixNoMapped, h4] at h
    exact prefix_membership_partial n famV6 p hip hmask h hlen
      (Or.inl (by rw [ipNetToPrefix_is4In6 h, h4]; rfl)) x hxwf hfam hx46 hxz

/-- The extra hypothesis of `prefix_membership_partial` cannot be dropped: for the IPv4-mapped
network number `::ffff:1.2.3.4` with the 16-byte mask `/0`, `IPNetToPrefix(…, IPv6)` returns
`::ffff:1.2.3.4/0`, which contains `2001:db8::1`, while `net.IPNet` (which treats the
network number as IPv4 and slices the mask) does not.  The real code behaves the same
(`KNOWN_FINDINGS.json`, `C12-mapped6`). -/
theorem prefix_membership_mapped_gap :
    ∃ (n : IPNet) (p : Prefix) (x : Addr),
      IsByte (orNil n.ip) ∧ IsByte (orNil n.mask) ∧
      ipNetToPrefix (some n) famV6 = .ok (.ok p) ∧
      (orNil n.mask).length = p.addr.bytes.length ∧
      x.WF ∧ x.bitLen = p.addr.bitLen ∧ x.is4In6 = false ∧ x.zoneOf = [] ∧
      p.contains x = true ∧ ipNetContains n x.bytes = false := by
  refine ⟨⟨some [0, 0, 0, 0, 0, 0, 0, 0, 0, 0, 255, 255, 1, 2, 3, 4], some (List.replicate 16 0)⟩,
    ⟨.v6 [0, 0, 0, 0, 0, 0, 0, 0, 0, 0, 255, 255, 1, 2, 3, 4] [], 1⟩,
    .v6 [0x20, 0x01, 0x0d, 0xb8, 0, 0, 0, 0, 0, 0, 0, 0, 0, 0, 0, 1] [], ?_⟩
  unfold Addr.WF IsByte
  decide +kernel

/-- Canonical masks are accepted (the repaired code does not reject more than it must):
if the address converts, the mask is `CIDRMask(k, 8*len)` with `len ≠ 0` and `k` does not
exceed the address's bit length, the result is the prefix with exactly `k` bits. -/
theorem canonical_mask_accepted (n : IPNet) (fam : Nat) (addr : Addr) (k len : Nat)
    (hc : ipToAddr n.ip fam = .ok (.ok addr)) (hm : orNil n.mask = cidrMask k len)
    (hlen : len ≠ 0) (hk : k ≤ 8 * len) (hkb : k ≤ addr.bitLen) :
    ipNetToPrefix (some n) fam = .ok (.ok ⟨addr.withoutZone, k + 1⟩) := by
  have hne : cidrMask k len ≠ [] := fun h => hlen (by rw [← cidrMask_length k len, h]; rfl)
  rw [ipNetToPrefix_of_addr hc, hm, simpleMaskLength_cidrMask k len hk]
  simp only [if_neg hne, if_pos hkb]


/-- `PreferIPv4(a, b) < 0` exactly when `key a < key b`, with `key = (class, address)`:
class 0 = valid IPv4, 1 = valid IPv6, 2 = invalid; the address is its numeric value, then
(IPv6) its zone.  The same for `PreferIPv6` with the classes of the families swapped. -/
theorem prefer_key (a b : Addr) :
    (preferIPv4 a b < 0 ↔ keyLt (key Addr.is4 a) (key Addr.is4 b)) ∧
    (preferIPv6 a b < 0 ↔ keyLt (key Addr.is6 a) (key Addr.is6 b)) :=
  ⟨prefer_key_gen _ famSeparates_is4 a b, prefer_key_gen _ famSeparates_is6 a b⟩

/-- hence both comparators are strict weak orders, which is what `slices.SortFunc` requires -/
theorem prefer_strict_weak :
    StrictWeakOrder (fun a b => preferIPv4 a b < 0) ∧ StrictWeakOrder (fun a b => preferIPv6 a b < 0) :=
  ⟨prefer_strict_weak_gen _ famSeparates_is4, prefer_strict_weak_gen _ famSeparates_is6⟩

/-- The ordering claim, for every function `sort` that meets SORT-1 (in particular
`slices.SortFunc`) and every slice: the result is a permutation of the input in which valid
IPv4 (IPv6) addresses come first in ascending `Addr.Compare` order, then the valid
addresses of the other family in ascending order, then the invalid ones. -/
theorem sortFunc_order (sort : (Addr → Addr → Int) → List Addr → List Addr) (hs : SortContract sort)
    (l : List Addr) :
    ((sort preferIPv4 l).Perm l ∧ StatedOrder Addr.is4 (sort preferIPv4 l)) ∧
    ((sort preferIPv6 l).Perm l ∧ StatedOrder Addr.is6 (sort preferIPv6 l)) :=
  ⟨⟨hs.perm _ l prefer_strict_weak.1, sorted_stated _ _ (hs.sorted preferIPv4 l prefer_strict_weak.1)⟩,
   ⟨hs.perm _ l prefer_strict_weak.2, sorted_stated _ _ (hs.sorted preferIPv6 l prefer_strict_weak.2)⟩⟩

/-- `StatedOrder` read as three consecutive segments: the list is its class-0 part, followed
by its class-1 part, followed by its class-2 part. -/
theorem statedOrder_segments (f : Addr → Bool) (l : List Addr) (h : StatedOrder f l) :
    l = l.filter (fun a => cls f a == 0) ++ l.filter (fun a => cls f a == 1) ++
        l.filter (fun a => cls f a == 2) := by
  induction l with
  | nil => rfl
  | cons a t ih =>
    rw [StatedOrder, List.pairwise_cons] at h
    -- nothing after `a` is of a lower class, so the segments of lower classes are empty
    have hempty : ∀ c, c < cls f a → t.filter (fun b => cls f b == c) = [] := fun c hc =>
      List.filter_eq_nil_iff.2 fun b hb => by
        rcases h.1 b hb with h1 | ⟨h1, _⟩ <;> simp <;> omega
    have iht := ih h.2
    rcases cls_lt_three f a with h0 | h0 | h0
    · simp only [List.filter_cons, h0, Nat.reduceBEq, if_true, Bool.false_eq_true, if_false, List.cons_append]
      rw [← iht]
    · simp only [List.filter_cons, h0, Nat.reduceBEq, if_true, Bool.false_eq_true, if_false, hempty 0 (by omega),
        List.nil_append, List.cons_append] at iht ⊢
      rw [← iht]
    · simp only [List.filter_cons, h0, Nat.reduceBEq, if_true, Bool.false_eq_true, if_false, hempty 0 (by omega),
        hempty 1 (by omega), List.nil_append] at iht ⊢
      rw [← iht]

/-- insertion sort on lists (`sortBy` of `Model/C12.lean`) meets SORT-1, so the hypothesis of
`sortFunc_order` is satisfiable -/
theorem sortBy_contract : SortContract sortBy := by
  refine ⟨?_, ?_⟩
  · intro cmp l _
    induction l with
    | nil => exact List.Perm.refl _
    | cons a t ih =>
      simp only [sortBy, List.foldr_cons] at ih ⊢
      exact (insertBy_perm cmp a _).trans (List.Perm.cons a ih)
  · intro cmp l hw
    induction l with
    | nil => simp [sortBy, Sorted]
    | cons a t ih =>
      simp only [sortBy, List.foldr_cons] at ih ⊢
      exact insertBy_sorted cmp hw a _ ih


/-- Defect #11 on the model of the unchanged code: the non-contiguous mask `ff:00:ff:00` and
the nil mask are both accepted and become `/0` (run on the real tree by `corpus/C12.txt`). -/
theorem unfixed_accepts_bad_mask :
    ipNetToPrefixUnfixed (some ⟨some [1, 2, 3, 4], some [255, 0, 255, 0]⟩) famV4 =
      .ok (.ok ⟨.v4 [1, 2, 3, 4], 1⟩) ∧
    ipNetToPrefixUnfixed (some ⟨some [1, 2, 3, 4], none⟩) famV4 = .ok (.ok ⟨.v4 [1, 2, 3, 4], 1⟩) ∧
    ¬ Contiguous [255, 0, 255, 0] := by
  refine ⟨rfl, rfl, ?_⟩
  rintro ⟨ones, hle, h⟩
  simp only [List.length_cons, List.length_nil] at h hle
  have hs := simpleMaskLength_cidrMask ones 4 (by omega)
  rw [← h] at hs
  have hn : simpleMaskLength [255, 0, 255, 0] = none := by decide
  rw [hn] at hs
  simp at hs

-- the repaired model rejects both
example : ipNetToPrefix (some ⟨some [1, 2, 3, 4], some [255, 0, 255, 0]⟩) famV4 = .ok (.error .badMask) := rfl
example : ipNetToPrefix (some ⟨some [1, 2, 3, 4], none⟩) famV4 = .ok (.error .badMask) := rfl

-- the hypotheses of `prefix_membership_partial` are satisfiable: 1.2.3.0/24, x = 1.2.3.77 and 1.2.4.0
example : ipNetToPrefix (some ⟨some [1, 2, 3, 0], some [255, 255, 255, 0]⟩) famV4 =
    .ok (.ok ⟨.v4 [1, 2, 3, 0], 25⟩) := rfl
example : (Prefix.mk (.v4 [1, 2, 3, 0]) 25).contains (.v4 [1, 2, 3, 77]) = true ∧
    ipNetContains ⟨some [1, 2, 3, 0], some [255, 255, 255, 0]⟩ [1, 2, 3, 77] = true ∧
    (Prefix.mk (.v4 [1, 2, 3, 0]) 25).contains (.v4 [1, 2, 4, 0]) = false ∧
    ipNetContains ⟨some [1, 2, 3, 0], some [255, 255, 255, 0]⟩ [1, 2, 4, 0] = false := by decide +kernel

example : ipToAddr (some [0, 0, 0, 0, 0, 0, 0, 0, 0, 0, 255, 255, 1, 2, 3, 4]) famV4 = .ok (.ok (.v4 [1, 2, 3, 4])) := rfl
example : ipToAddr (some [1, 2, 3, 4]) famV6 =
    .ok (.ok (.v6 [0, 0, 0, 0, 0, 0, 0, 0, 0, 0, 255, 255, 1, 2, 3, 4] [])) := rfl
example : ipToAddr (some [1, 2, 3, 4, 5]) famV6 = .ok (.error .badIP) := rfl

example : sortBy preferIPv4 [.zero, .v6 [0, 0, 0, 0, 0, 0, 0, 0, 0, 0, 0, 0, 0, 0, 0, 1] [], .v4 [9, 9, 9, 9],
      .v4 [1, 2, 3, 4]] =
    [.v4 [1, 2, 3, 4], .v4 [9, 9, 9, 9], .v6 [0, 0, 0, 0, 0, 0, 0, 0, 0, 0, 0, 0, 0, 0, 0, 1] [], .zero] := by decide +kernel
example : sortBy preferIPv6 [.zero, .v4 [1, 2, 3, 4], .v6 [0, 0, 0, 0, 0, 0, 0, 0, 0, 0, 0, 0, 0, 0, 0, 1] [98],
      .v6 [0, 0, 0, 0, 0, 0, 0, 0, 0, 0, 0, 0, 0, 0, 0, 1] []] =
    [.v6 [0, 0, 0, 0, 0, 0, 0, 0, 0, 0, 0, 0, 0, 0, 0, 1] [], .v6 [0, 0, 0, 0, 0, 0, 0, 0, 0, 0, 0, 0, 0, 0, 0, 1] [98],
     .v4 [1, 2, 3, 4], .zero] := by decide +kernel

end GolibsVerif.C12
