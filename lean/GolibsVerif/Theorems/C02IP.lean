/-
C02, IP half — the allocation-free IP validators of `netutil/ip.go` accept exactly what the
`net/netip` parsers accept, for EVERY byte string, and never panic.

Proved here (models: `Model/NetIP.lean` for golibs, `Go/Netip.lean` for go1.24 `net/netip`):
  * `isIPv4Label`            = "decimal octet 0..255 without leading zeros" (`octetOK`)
  * `isValidIPv4String s`    ⇔ `netip.parseIPv4Fields s` succeeds ⇔ `v4Spec s`
                               (exactly four `.`-separated `octetOK` pieces)
  * `isValidIPv6String s`    ⇔ `netip.parseIPv6 s` succeeds, for zone-free `s`
                               (simulation of the two scanners, `Lemmas/C02IPv6.lean: sim`)
  * `IsValidIPString s`      ⇔ `netip.ParseAddr s` succeeds (dispatch on the first of
                               `.`/`:`/`%`, the `maxSignificant` cut-off, zones)
  * `IsValidIPPortString s`  ⇔ `netip.ParseAddrPort s` succeeds
  * none of the modelled functions returns a Go panic on any input.
The zone-freeness hypothesis of `isValidIPv6String_iff` is necessary
(`"1::%a"`: netip accepts, the zone-unaware golibs helper does not) and is discharged by the
caller `IsValidIPString`, which cuts the zone off first.
-/
import GolibsVerif.Lemmas.C02IPPort

namespace GolibsVerif.C02
open GolibsVerif.Netutil GolibsVerif.Str GolibsVerif.Netip GolibsVerif

/-- closed form: `isIPv4Label` decides "non-empty, digits only, no leading zero unless a
single digit, value ≤ 255" -/
theorem isIPv4Label_closed (l : Bytes) :
    isIPv4Label l =
      .ok (!l.isEmpty && l.all isDigit && (l.length == 1 || l.head? != some 48) &&
        decide (l.foldl (fun a c => a * 10 + (c - 48)) 0 ≤ 255)) :=
  isIPv4Label_eq l

theorem isIPv4Label_total (l : Bytes) : ∃ b, isIPv4Label l = .ok b :=
  ⟨_, isIPv4Label_eq l⟩

/-- an accepted label has at most three bytes (digits, no leading zero, length ≥ 4 ⇒ value
≥ 1000) -/
theorem isIPv4Label_len (l : Bytes) (h : isIPv4Label l = .ok true) : 1 ≤ l.length ∧ l.length ≤ 3 := by
  rw [isIPv4Label_eq] at h
  injection h with h
  refine ⟨?_, octetOK_len l h⟩
  cases l with
  | nil => simp [octetOK] at h
  | cons => simp

/-- golibs side against the reference splitting: exactly four `.`-separated octets -/
theorem isValidIPv4String_spec (s : Bytes) :
    isValidIPv4String s = .ok (match splitOn 46 s with
      | [a, b, c, d] => octetOK a && octetOK b && octetOK c && octetOK d
      | _ => false) :=
  (isValidIPv4String_eq_spec s).trans (congrArg Except.ok (v4Spec_eq_match s))

/-- netip side against the same specification -/
theorem parseIPv4Fields_spec (s : Bytes) :
    (parseIPv4Fields s).isSome = (match splitOn 46 s with
      | [a, b, c, d] => octetOK a && octetOK b && octetOK c && octetOK d
      | _ => false) :=
  (parseIPv4Fields_eq_spec s).trans (v4Spec_eq_match s)

/-- `isValidIPv4String` accepts exactly what `netip.parseIPv4Fields` accepts (all inputs),
and never panics -/
theorem isValidIPv4String_iff (s : Bytes) :
    isValidIPv4String s = .ok ((parseIPv4Fields s).isSome) :=
  isValidIPv4String_eq s

/-- `isValidIPv6String` accepts exactly what `netip.parseIPv6` accepts, on every zone-free
input, and does not panic -/
theorem isValidIPv6String_iff (s : Bytes) (h : 37 ∉ s) :
    isValidIPv6String s = .ok ((parseIPv6 s).isSome) := by
  rw [isValidIPv6String_eq_core, parseIPv6_nozone s h]

/-- with a zone: netip splits at the first `%`, requires a non-empty zone and parses the part
before it exactly as golibs `isValidIPv6String` does -/
theorem parseIPv6_zone_iff (b zone : Bytes) (h : 37 ∉ b) :
    .ok ((parseIPv6 (b ++ 37 :: zone)).isSome) =
      (isValidIPv6String b).map (fun ok => !zone.isEmpty && ok) := by
  rw [parseIPv6_zone b zone h, isValidIPv6String_eq_core]
  rfl

/-- `IsValidIPString s` is `true` iff `netip.ParseAddr s` succeeds; no panic -/
theorem isValidIPString_iff (s : Bytes) : isValidIPString s = .ok ((parseAddr s).isSome) :=
  isValidIPString_eq s

/-- `isUint16` agrees with `strconv.ParseUint(port, 10, 16)` on non-empty input -/
theorem isUint16_iff (port : Bytes) (h : port ≠ []) :
    isUint16 port = (parseUintDec port 65535).isSome :=
  isUint16_eq port h

/-- `IsValidIPPortString s` is `true` iff `netip.ParseAddrPort s` succeeds; no panic -/
theorem isValidIPPortString_iff (s : Bytes) :
    isValidIPPortString s = .ok ((parseAddrPort s).isSome) :=
  isValidIPPortString_eq s

theorem isValidIPv4String_total (s : Bytes) : ∃ b, isValidIPv4String s = .ok b :=
  ⟨_, isValidIPv4String_eq s⟩

theorem trimValidIPv6Field_total (s : Bytes) (n : Nat) (e : Bool) :
    ∃ r, trimValidIPv6Field s n e = .ok r := by
  rcases field_cases s with hbad | ⟨d, r, rfl, h⟩
  · exact ⟨_, trim_bad s n e hbad⟩
  · exact ⟨_, trim_field h n e⟩

/-- `countIPv6SepRunes` indexes `s[0]`: it is total on non-empty input (its only caller
passes a non-empty string) -/
theorem countIPv6SepRunes_total (s : Bytes) (hs : s ≠ []) (e : Bool) :
    ∃ r, countIPv6SepRunes s e = .ok r := by
  match s, hs with
  | c :: rest, _ => exact ⟨_, countSep_cons c rest e⟩

theorem v6FieldsLoop_total (f : Nat) : ∀ (s : Bytes) (n : Nat) (e : Bool),
    ∃ b, v6FieldsLoop f s n e = .ok b := by
  induction f with
  | zero => intro s n e; exact ⟨_, by simp [v6FieldsLoop, pure, Except.pure]; rfl⟩
  | succ f ih =>
    intro s n e
    by_cases hs : s = []
    · subst hs; exact ⟨_, v6FieldsLoop_nil _ n e⟩
    · rcases field_cases s with hbad | ⟨d, r, rfl, h⟩
      · exact ⟨_, v6FieldsLoop_bad f n e s hs hbad⟩
      · -- every branch of the one-step equation is a value or the loop with less fuel
        rw [v6FieldsLoop_sep f n e h]
        cases sepOf r with
        | eos | dot | bad => exact ⟨_, rfl⟩
        | one t => exact ih t (n + 1) e
        | two t => cases e with
          | true => exact ⟨false, rfl⟩
          | false => exact ih t (n + 1) true

/-- `isValidIPv6String` never panics, zone or not -/
theorem isValidIPv6String_total (s : Bytes) : ∃ b, isValidIPv6String s = .ok b :=
  ⟨_, isValidIPv6String_eq_core s⟩

theorem isValidIPString_total (s : Bytes) : ∃ b, isValidIPString s = .ok b :=
  ⟨_, isValidIPString_iff s⟩

theorem splitAddrPort_total (s : Bytes) : ∃ r, splitAddrPort s = .ok r := by
  rcases splitAddrPort_cases s with ⟨_, h⟩ | ⟨_, _, _, _, h⟩ <;> exact ⟨_, h⟩

theorem isValidIPPortString_total (s : Bytes) : ∃ b, isValidIPPortString s = .ok b :=
  ⟨_, isValidIPPortString_iff s⟩

/-! ### Non-vacuity: both sides of each boundary -/

example : isIPv4Label (ascii "255") = .ok true := by rw [ascii_ofList]; decide +kernel
example : isIPv4Label (ascii "256") = .ok false := by rw [ascii_ofList]; decide +kernel
example : isIPv4Label (ascii "01") = .ok false := by rw [ascii_ofList]; decide +kernel
example : isValidIPv4String (ascii "1.2.3.4") = .ok true ∧ (parseIPv4Fields (ascii "1.2.3.4")).isSome = true := by rw [ascii_ofList]; decide +kernel
example : isValidIPv4String (ascii "1.2.3.04") = .ok false ∧ (parseIPv4Fields (ascii "1.2.3.04")).isSome = false := by rw [ascii_ofList]; decide +kernel
example : isValidIPv4String (ascii "1.2.3") = .ok false ∧ isValidIPv4String (ascii "1.2.3.4.5") = .ok false := by rw [ascii_ofList, ascii_ofList]; decide +kernel
example : 37 ∉ ascii "1::2" ∧ isValidIPv6String (ascii "1::2") = .ok true := by rw [ascii_ofList]; decide +kernel
example : 37 ∉ ascii "1:2:3:4:5:6:7:8" ∧ (parseIPv6 (ascii "1:2:3:4:5:6:7:8")).isSome = true := by rw [ascii_ofList]; decide +kernel
example : 37 ∉ ascii "::ffff:1.2.3.4" ∧ isValidIPv6String (ascii "::ffff:1.2.3.4") = .ok true := by rw [ascii_ofList]; decide +kernel
/-- seven fields then an embedded IPv4 (which the pre-fix `trimValidIPv6Field` let through) is
rejected by both -/
example : isValidIPv6String (ascii "1:2:3:4:5:6:7:1.2.3.4") = .ok false ∧
    (parseIPv6 (ascii "1:2:3:4:5:6:7:1.2.3.4")).isSome = false := by rw [ascii_ofList]; decide +kernel
example : isValidIPv6String (ascii "1::2::3") = .ok false := by rw [ascii_ofList]; decide +kernel
/-- zone-freeness is necessary in `isValidIPv6String_iff` -/
example : isValidIPv6String (ascii "1::%a") = .ok false ∧ (parseIPv6 (ascii "1::%a")).isSome = true := by rw [ascii_ofList]; decide +kernel
example : isValidIPString (ascii "fe80::1%eth0") = .ok true := by rw [ascii_ofList]; decide +kernel
example : isValidIPString (ascii "fe80::1%") = .ok false := by rw [ascii_ofList]; decide +kernel
example : isValidIPString (ascii "12345.1.1.1") = .ok false := by rw [ascii_ofList]; decide +kernel
example : isValidIPPortString (ascii "[::1]:80") = .ok true ∧ (parseAddrPort (ascii "[::1]:80")).isSome = true := by rw [ascii_ofList]; decide +kernel
example : isValidIPPortString (ascii "1.2.3.4:65535") = .ok true := by rw [ascii_ofList]; decide +kernel
example : isValidIPPortString (ascii "1.2.3.4:65536") = .ok false := by rw [ascii_ofList]; decide +kernel
example : isValidIPPortString (ascii "[1.2.3.4]:80") = .ok false ∧ (parseAddrPort (ascii "[1.2.3.4]:80")).isSome = false := by rw [ascii_ofList]; decide +kernel
example : isValidIPPortString (ascii "::1:80") = .ok false := by rw [ascii_ofList]; decide +kernel

end GolibsVerif.C02
