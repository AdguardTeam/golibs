/-
C02 — allocation-free validators accept exactly what their reference parsers accept.

Proved here for every input (and every behaviour of `idna.ToASCII`):
  * `IsValidHostnameLabel(s)` ⇔ `ValidateHostnameLabel(s) == nil`
  * `IsValidHostname(s)`      ⇔ `ValidateHostname(s) == nil`
  and neither panics.
The IP halves (`IsValidIPString` ⇔ `netip.ParseAddr`, `IsValidIPPortString` ⇔
`netip.ParseAddrPort`) are proved in `Theorems/C02IP.lean`.
-/
import GolibsVerif.Lemmas.C02Host
import GolibsVerif.Theorems.C03

namespace GolibsVerif.C02
open GolibsVerif.Netutil GolibsVerif.Str GolibsVerif

/-- `IsValidHostnameLabel(l)` is `true` iff `ValidateHostnameLabel(l)` returns nil; it
never panics. -/
theorem isValidHostnameLabel_iff (l : Bytes) :
    (∃ b, isValidHostnameLabel l = .ok b) ∧
    (isValidHostnameLabel l = .ok true ↔ validateHostnameLabel l = .ok none) :=
  of_eq_map (ivhl_map l) (C03.vhl_verdict l).total

/-- `IsValidHostname(s)` is `true` iff `ValidateHostname(s)` returns nil, for every `s` and
every `idna.ToASCII`; it never panics. -/
theorem isValidHostname_iff (toASCII : Bytes → Option Bytes) (s : Bytes) :
    (∃ b, isValidHostname toASCII s = .ok b) ∧
    (isValidHostname toASCII s = .ok true ↔ validateHostname toASCII s = .ok none) :=
  of_eq_map (isValidHostname_map toASCII s) (C03.validators_total toASCII s).1

/-! ### Non-vacuity -/
example : isValidHostname some (ascii "a-1.example.org") = .ok true := by rw [ascii_ofList]; decide +kernel
example : isValidHostname some (ascii "a_1.example.org") = .ok false := by rw [ascii_ofList]; decide +kernel
example : isValidHostnameLabel (ascii "-a") = .ok false := by rw [ascii_ofList]; decide +kernel

end GolibsVerif.C02
