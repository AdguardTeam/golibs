/-
C11 — property theorems: `container.RingBuffer`, `container.SortedSliceSet` and
`container.MapSet` refine their abstract ring / set models (models in `Model/C11.lean`,
abstract models in `Spec/C11.lean`, helper lemmas in `Lemmas/C11Ring.lean`,
`Lemmas/C11Sets.lean`); the `heap_*` theorems say of the storage-level model
`Model/C11Heap.lean` that `Clone` shares no storage (lemmas in `Lemmas/C11Heap.lean`).  Only
property theorems and non-vacuity examples live here.

Everything is stated for an arbitrary element type `T` (ring: any type with a zero value;
sorted set: any `GoOrdered` type, i.e. a decidable strict linear order on which `==` agrees
with `cmp.Compare`; map set: any type with decidable equality), arbitrary capacities
(including 0 and 1), arbitrary operation sequences and arbitrary (stateful) callbacks.
-/
import GolibsVerif.Lemmas.C11Ring
import GolibsVerif.Lemmas.C11Sets
import GolibsVerif.Lemmas.C11Heap

namespace GolibsVerif.C11

section Ring
variable {σ T : Type}

/-- For every capacity `n` and every sequence of `Push / Clear / Current / Len
/ Range / ReverseRange` calls (with arbitrary stateful, early-terminating callbacks) on
`NewRingBuffer(n)`, no call panics and every call returns exactly what the abstract ring
returns — the abstract ring being "the list `l` of values pushed since creation or the last
`Clear`", observed through `lastN n l`: `Range` passes `lastN n l` oldest first to the
callback until it answers false, `ReverseRange` the same list newest first, `Len` is
`min (length l) n`, `Current` is the oldest retained value when `n` values are retained and
the zero value otherwise. -/
theorem ring_refines (zero : T) (n : Nat) (ops : List (ROp σ T)) :
    (Ring.run zero (some (Ring.new zero n)) ops).2 = (specRun zero n [] ops).map .ok :=
  (run_refines (inv_new zero n) ops).1

/-- After any sequence of calls the buffer is non-nil and the two halves
`splitCur` yields (what `Range` walks, in order) are exactly the last `n` values pushed since
creation or the last `Clear`. -/
theorem ring_view (zero : T) (n : Nat) (ops : List (ROp σ T)) :
    ∃ rb before after, (Ring.run zero (some (Ring.new zero n)) ops).1 = some rb ∧
      rb.splitCur = .ok (before, after) ∧
      before ++ after = lastN n (pushesSinceClear ops) := by
  obtain ⟨rb, hrb, hinv⟩ := (run_refines (inv_new zero n) ops).2
  obtain ⟨before, after, hs, hcat⟩ := inv_splitCur hinv
  refine ⟨rb, before, after, hrb, hs, ?_⟩
  rw [hcat, spec_state_eq]

/-- What a callback gets to see is the prefix of the walked list up to
and including the first element on which it answers `false`; nothing after it. -/
theorem range_early_stop (p : T → Bool) (xs acc : List T) :
    callUntil (recorder p) acc xs = acc ++ takeThrough p xs := by
  induction xs generalizing acc with
  | nil => simp [callUntil, takeThrough]
  | cons e rest ih =>
    simp only [callUntil, recorder, takeThrough]
    by_cases hp : p e = true
    · simp only [hp, if_true]
      rw [ih (acc ++ [e])]; simp
    · simp [hp]

/-- the harness's callbacks: stopping at the `k`-th call shows the first `k` elements
(all of them for `k = 0` or `k` beyond the length) -/
theorem range_stopAt (k : Nat) (xs : List T) (c : Nat) (acc : List T) (hk : k = 0 ∨ c < k) :
    callUntil (stopAt k) (c, acc) xs =
      (c + min xs.length (if k = 0 then xs.length else k - c),
       acc ++ xs.take (if k = 0 then xs.length else k - c)) := by
  rcases hk with rfl | hk
  · rw [callUntil_stopAt_zero, if_pos rfl, Nat.min_self, List.take_length]
  · obtain ⟨d, rfl⟩ := Nat.exists_eq_add_of_lt hk
    rw [Nat.add_assoc, if_neg (show c + (d + 1) ≠ 0 from Nat.succ_ne_zero (c + d)), Nat.add_sub_cancel_left, callUntil_stopAt_succ]

/-- `Clear` puts the buffer into the very state `NewRingBuffer` creates. -/
theorem clear_eq_new (zero : T) (rb : Ring T) : rb.clear zero = Ring.new zero rb.buf.length := rfl

/-- A buffer of capacity `n` that went through any history and
was then cleared answers every subsequent sequence of calls exactly like a new buffer of
capacity `n`. -/
theorem clear_indistinguishable (zero : T) (n : Nat) (history : List (ROp σ T)) (ops : List (ROp σ T)) :
    (Ring.run zero (Ring.run zero (some (Ring.new zero n)) (history ++ [.clear])).1 ops).2 =
    (Ring.run zero (some (Ring.new zero n)) ops).2 := by
  obtain ⟨rb, hrb, hinv⟩ := (run_refines (inv_new zero n) (history ++ [ROp.clear])).2
  rw [hrb]
  have hl : (history ++ [ROp.clear]).foldl (fun l (op : ROp σ T) => (specStep zero n l op).1) [] = [] := by
    simp [List.foldl_append, specStep]
  rw [hl] at hinv
  rw [(run_refines hinv ops).1, (run_refines (inv_new zero n) ops).1]

/-- a nil `*RingBuffer`: `Current` is documented to return the zero value -/
theorem ring_nil_current (zero : T) :
    Ring.step (σ := σ) zero none .current = (none, .ok (.val zero)) := rfl

end Ring

section Sorted
variable {σ T : Type} [GoOrdered T]

/-- general form of `sorted_refines`, from any strictly ascending state -/
theorem sorted_run (s : SSS T) (m : T → Bool) (hs : StrictAsc s.elems)
    (hm : ∀ v, v ∈ s.elems ↔ m v = true) (ops : List (SetOp T)) :
    ∃ s', s.run ops = .ok s' ∧ StrictAsc s'.elems ∧
      ∀ v, v ∈ s'.elems ↔ memAfter m ops v = true := by
  induction ops generalizing s m with
  | nil => exact ⟨s, rfl, hs, hm⟩
  | cons op rest ih =>
    obtain ⟨l⟩ := s
    cases op with
    | add w =>
      obtain ⟨l', e, hs', hm'⟩ := add_strictAsc hs w
      simp only [SSS.run, e, bind, Except.bind]
      exact ih ⟨l'⟩ _ hs' (fun v => by rw [hm', memStep_add, hm])
    | delete w =>
      obtain ⟨l', e, hs', hm'⟩ := delete_strictAsc hs w
      simp only [SSS.run, e, bind, Except.bind]
      exact ih ⟨l'⟩ _ hs' (fun v => by rw [hm', memStep_delete, hm])
    | clear =>
      exact ih (SSS.clear ⟨l⟩) _ List.Pairwise.nil (fun v => by simp [SSS.clear, memStep])

/-- For every argument list of `NewSortedSliceSet` and every sequence of
`Add / Delete / Clear`, no call panics, the underlying slice is strictly ascending, and its
members are exactly the values that were given or added and not deleted (or cleared)
since. -/
theorem sorted_refines (init : List T) (ops : List (SetOp T)) :
    ∃ s, (SSS.new init).run ops = .ok s ∧ StrictAsc s.elems ∧
      ∀ v, v ∈ s.elems ↔ memAfter (fun x => decide (x ∈ init)) ops v = true :=
  sorted_run (SSS.new init) _ (new_spec init).1 (by intro v; simp [(new_spec init).2 v]) ops

/-- On a strictly ascending state (every reachable state, by
`sorted_refines`) the queries are those of the set of members: `Has` is membership, `Len` the
number of members (the list has no duplicates), `Values` the strictly ascending enumeration,
`Range` passes exactly that enumeration to the callback until it answers false. -/
theorem sorted_queries (s : SSS T) (hs : StrictAsc s.elems) :
    (∀ v, s.has v = decide (v ∈ s.elems)) ∧ s.len = s.elems.length ∧ s.elems.Nodup ∧
    s.values = s.elems ∧ ∀ (f : Callback σ T) (st : σ), s.range f st = callUntil f st s.elems := by
  obtain ⟨l⟩ := s
  refine ⟨fun v => ?_, rfl, strictAsc_nodup hs, rfl, fun f st => forRange_fst f st l⟩
  rw [Bool.eq_iff_iff, has_iff hs, decide_eq_true_iff]

/-- `Values` is *the* strictly ascending enumeration of the member
set: any strictly ascending list with the same members is equal to it. -/
theorem sorted_values_unique (s : SSS T) (hs : StrictAsc s.elems) (l : List T) (hl : StrictAsc l)
    (h : ∀ v, v ∈ l ↔ v ∈ s.elems) : l = s.values :=
  strictAsc_ext hl hs h

/-- `Equal` on two non-nil sets holds iff they have the same members. -/
theorem sorted_equal_iff (a b : SSS T) (ha : StrictAsc a.elems) (hb : StrictAsc b.elems) :
    SSS.equalP (some a) (some b) = true ↔ ∀ v, a.has v = b.has v := by
  obtain ⟨la⟩ := a
  obtain ⟨lb⟩ := b
  simp only [SSS.equalP, equalElems_iff]
  constructor
  · intro h v; rw [h]
  · intro h
    refine strictAsc_ext ha hb fun v => ?_
    rw [← has_iff ha, ← has_iff hb, h v]

/-- `Clone` of a reachable set is a set with the same value (so it `Equal`s
its origin and answers every later script like the origin would). -/
theorem sorted_clone (s : SSS T) (hs : StrictAsc s.elems) : s.clone = s := by
  obtain ⟨l⟩ := s
  exact new_of_strictAsc l hs

end Sorted

section MapSet
variable {σ T : Type} [DecidableEq T]

theorem mapset_run (s : MS T) (m : T → Bool) (hs : s.keys.Nodup)
    (hm : ∀ v, v ∈ s.keys ↔ m v = true) (ops : List (SetOp T)) :
    (s.run ops).keys.Nodup ∧ ∀ v, v ∈ (s.run ops).keys ↔ memAfter m ops v = true := by
  induction ops generalizing s m with
  | nil => exact ⟨hs, hm⟩
  | cons op rest ih =>
    cases op with
    | add w =>
      exact ih (s.add w) (memStep m (.add w)) (ms_nodup_add hs)
        (fun v => by rw [ms_mem_add, memStep_add, hm])
    | delete w =>
      exact ih (s.delete w) (memStep m (.delete w)) (ms_nodup_delete hs)
        (fun v => by rw [ms_mem_delete hs, memStep_delete, hm])
    | clear =>
      exact ih s.clear (memStep m .clear) (by simp [MS.clear]) (by intro v; simp [MS.clear, memStep])

/-- For every argument list of `NewMapSet` and every sequence of `Add /
Delete / Clear` the key list has no duplicates (so `Len` is the number of members and
`Values` lists each member once) and `Has` is "given or added and not deleted since". -/
theorem mapset_refines (init : List T) (ops : List (SetOp T)) :
    ((MS.new init).run ops).keys.Nodup ∧
    (∀ v, ((MS.new init).run ops).has v = memAfter (fun x => decide (x ∈ init)) ops v) ∧
    ((MS.new init).run ops).len = ((MS.new init).run ops).values.length := by
  have hnew := ms_new_spec init ⟨[]⟩ (by simp)
  have := mapset_run (MS.new init) (fun x => decide (x ∈ init)) hnew.1
    (by intro v; simp [MS.new, hnew.2 v]) ops
  refine ⟨this.1, fun v => ?_, rfl⟩
  rw [MS.has, Bool.eq_iff_iff, decide_eq_true_iff]
  exact this.2 v

/-- `Equal` on two non-nil map sets holds iff they have the same members. -/
theorem mapset_equal_iff (a b : MS T) (ha : a.keys.Nodup) (hb : b.keys.Nodup) :
    MS.equalP (some a) (some b) = true ↔ ∀ v, a.has v = b.has v := by
  simp only [MS.equalP, equalMaps_iff ha hb, MS.has]
  constructor
  · intro h v; simp [h v]
  · intro h v; simpa using h v

omit [DecidableEq T] in
/-- `Range` on a map set passes the key list (each member once) until the callback answers
false -/
theorem mapset_range (s : MS T) (f : Callback σ T) (st : σ) :
    s.range f st = callUntil f st s.values := forRange_fst f st s.keys

end MapSet

/-- `Clone` copies the value: whatever script is run on the clone yields
what it yields on the origin. -/
theorem clone_faithful {T : Type} [GoOrdered T] (s : SSS T) (hs : StrictAsc s.elems)
    (ops : List (SetOp T)) : s.clone.run ops = s.run ops := by
  rw [sorted_clone s hs]

/-- In the storage-level model (`Model/C11Heap.lean`: objects are
slice headers into a heap of backing arrays, `Add`/`Delete`/`Clear` work in place) every
script of `New… / nil / Add / Delete / Clear / Clone` calls over any number of registers
leaves each register holding exactly the value it holds in the value model, where registers
are independent mathematical values.  Hence no call on one object — in particular on a
clone or on its origin — is ever visible through another. -/
theorem heap_clone_independent {T : Type} [GoOrdered T] (zero : T) (ops : List (Heap.Op T)) (k : Nat) :
    Heap.valueOf (Heap.run zero Heap.init ops) k = Heap.vrun (fun _ => none) ops k :=
  (Heap.run_refines zero Heap.wf_init ops).2 k

/-- The same, one call at a time: after any history, a call
changes the observable value of no register but the one it is applied (or assigned) to. -/
theorem heap_other_objects_unchanged {T : Type} [GoOrdered T] (zero : T) (history : List (Heap.Op T))
    (op : Heap.Op T) (k : Nat) (hk : k ≠ op.target) :
    Heap.valueOf (Heap.run zero Heap.init (history ++ [op])) k =
      Heap.valueOf (Heap.run zero Heap.init history) k := by
  have hwf := (Heap.run_refines zero Heap.wf_init history).1
  have := (Heap.step_refines zero hwf op).2 k
  simp only [Heap.run, List.foldl_append, List.foldl_cons, List.foldl_nil] at this ⊢
  rw [this, Heap.vstep_other _ op k hk]

theorem mapset_clone_faithful {T : Type} [DecidableEq T] (s : MS T) (ops : List (SetOp T)) :
    s.clone.run ops = s.run ops := rfl

/-- The documented behaviour of nil `*SortedSliceSet` / `*MapSet`
receivers: `Clear` and (for `MapSet`) `Delete` have no effect, `Clone` is nil, `Has` is false,
`Len` is 0, `Values` is nil, `Range` calls nothing, `Equal` holds exactly between two nils. -/
theorem nil_receivers {σ T : Type} [GoOrdered T] (v : T) (f : Callback σ T) (st : σ)
    (s : SSS T) (m : MS T) :
    SSS.clearP (none : Option (SSS T)) = none ∧ SSS.cloneP (none : Option (SSS T)) = none ∧
    SSS.hasP none v = false ∧ SSS.lenP (none : Option (SSS T)) = 0 ∧
    SSS.valuesP (none : Option (SSS T)) = none ∧ SSS.rangeP none f st = st ∧
    SSS.equalP (none : Option (SSS T)) none = true ∧ SSS.equalP none (some s) = false ∧
    SSS.equalP (some s) none = false ∧
    MS.clearP (none : Option (MS T)) = none ∧ MS.deleteP none v = none ∧
    MS.cloneP (none : Option (MS T)) = none ∧
    MS.hasP none v = false ∧ MS.lenP (none : Option (MS T)) = 0 ∧
    MS.valuesP (none : Option (MS T)) = none ∧ MS.rangeP none f st = st ∧
    MS.equalP (none : Option (MS T)) none = true ∧ MS.equalP none (some m) = false ∧
    MS.equalP (some m) none = false := by
  refine ⟨rfl, rfl, rfl, rfl, rfl, rfl, rfl, rfl, rfl, rfl, rfl, rfl, rfl, rfl, rfl, rfl, rfl, rfl, rfl⟩

/-- (for `decide` in the examples below) -/
local instance {ε α} [DecidableEq ε] [DecidableEq α] : DecidableEq (Except ε α) := fun a b =>
  match a, b with
  | .ok x, .ok y => if h : x = y then isTrue (by rw [h]) else isFalse (fun h' => h (by cases h'; rfl))
  | .error x, .error y => if h : x = y then isTrue (by rw [h]) else isFalse (fun h' => h (by cases h'; rfl))
  | .ok _, .error _ => isFalse (fun h => by cases h)
  | .error _, .ok _ => isFalse (fun h => by cases h)

/-- counting/recording callback used in the examples -/
def exCb : Callback (List Int) Int := recorder (fun e => e != 5)

-- capacity 3, pushes 1..5: Range sees 3,4 and stops at 5; ReverseRange stops at once at 5;
-- Len 3; Current is the oldest retained value 3
example : (Ring.run (0 : Int) (some (Ring.new 0 3))
    [.push 1, .push 2, .push 3, .push 4, .push 5, .range exCb [], .reverseRange exCb [], .len, .current]).2
    = [.ok .unit, .ok .unit, .ok .unit, .ok .unit, .ok .unit, .ok (.st [3, 4, 5]), .ok (.st [5]),
       .ok (.len 3), .ok (.val 3)] := by decide

-- the defect that was fixed: with the old `Clear` (storage kept), `Push(7); Clear(); Current()`
-- answers 7 where a new buffer answers 0
example : ((Ring.new (0 : Int) 2).push 7).map (fun rb => (rb.clearUnfixed.current 0, (Ring.new (0 : Int) 2).current 0))
    = .ok (.ok 7, .ok 0) := by decide

example : ((Ring.new (0 : Int) 2).push 7).map (fun rb => (rb.clear 0).current 0) = .ok (.ok 0) := by decide

example : (Ring.run (0 : Int) (some (Ring.new 0 0)) [.push 1, .current, .len, .range exCb []]).2
    = [.ok .unit, .ok (.val 0), .ok (.len 0), .ok (.st [])] := by decide

example : (Ring.run (0 : Int) none [.push 1, .current, .len (σ := List Int)]).2
    = [.error .nilDeref, .ok (.val 0), .error .nilDeref] := by decide

example : ((SSS.new [5, 1, 3, 1, 5] : SSS Int).run [.add 2, .delete 5, .add 3]).map (·.elems) = .ok [1, 2, 3] := by
  decide

/-- Go's `float64` as far as `NewSortedSliceSet` is concerned: `none` is NaN; `==` is false
on NaN while `cmp.Compare(NaN, NaN) == 0`. -/
def floatEq : Option Int → Option Int → Bool
  | some a, some b => a == b
  | _, _ => false

def floatCmpEq : Option Int → Option Int → Bool
  | some a, some b => a == b
  | none, none => true
  | _, _ => false

-- the heap model can tell sharing from copying: if "clone" merely copied the slice header
-- (register 1 := register 0's header), an in-place `Add` on the origin would show through it
example :
    let s0 := Heap.run (0 : Int) Heap.init [.new 0 [1, 1, 5]]          -- array [1,5,0], len 2
    let shared : Heap.St Int := ⟨s0.arrays, Heap.setReg s0.regs 1 (s0.regs 0)⟩
    (Heap.valueOf shared 1, Heap.valueOf (Heap.step 0 shared (.add 0 3)) 1,
     Heap.valueOf (Heap.run 0 s0 [.clone 0 1, .add 0 3]) 1)
      = (some ⟨[1, 5]⟩, some ⟨[1, 3]⟩, some ⟨[1, 5]⟩) := by decide

-- the second defect that was fixed: `slices.Compact` (`==`) keeps both NaNs of the sorted
-- argument list `[NaN, NaN, 1]`; `CompactFunc` with `cmp.Compare(a, b) == 0` does not
example : compactBy floatEq [none, none, some 1] = [none, none, some 1] := by decide
example : compactBy floatCmpEq [none, none, some 1] = [none, some 1] := by decide

end GolibsVerif.C11
