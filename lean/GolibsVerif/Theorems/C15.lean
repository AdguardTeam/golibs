/-
C15 — property theorems for `LimitReader` / `TruncatedWriter` (models in `Model/C15.lean`).
-/
import GolibsVerif.Model.C15

namespace GolibsVerif.C15

def delivered (os : List ReadOut) : Bytes := os.flatMap (·.data)

/-- every call of the history obeys the `io.Reader` contract whatever length it is asked for -/
def WfCalls (calls : List (Nat × (Nat → Resp))) : Prop :=
  ∀ c ∈ calls, ∀ l, (c.2 l).wf l

theorem delivered_cons (o : ReadOut) (os : List ReadOut) :
    delivered (o :: os) = o.data ++ delivered os := by
  simp [delivered]

theorem delivered_append (xs ys : List ReadOut) :
    delivered (xs ++ ys) = delivered xs ++ delivered ys := by
  simp [delivered]

/-- The three ways a `Read` goes: the budget is used up; the wrapped reader reports a negative
count; or its answer is passed on and counted. -/
theorem read_cases (lr : LR) (plen : Nat) (r : Nat → Resp) :
    let l := min plen lr.n
    (lr.n = 0 ∧ lr.read plen r = (lr, { requested := none, n := 0, data := [], err := .limit lr.limit })) ∨
    (lr.n ≠ 0 ∧ (r l).n < 0 ∧
      lr.read plen r = (lr, { requested := some l, n := 0, data := [], err := .badLen (r l).n })) ∨
    (lr.n ≠ 0 ∧ 0 ≤ (r l).n ∧ lr.read plen r =
      ({ lr with n := lr.n - (r l).n.toNat },
       { requested := some l, n := (r l).n, data := (r l).data, err := underErr (r l).err })) := by
  unfold LR.read
  by_cases h0 : lr.n = 0
  · exact Or.inl ⟨h0, if_pos h0⟩
  · by_cases hneg : (r (min plen lr.n)).n < 0
    · exact Or.inr (Or.inl ⟨h0, hneg, by simp only [if_neg h0, if_pos hneg]⟩)
    · exact Or.inr (Or.inr ⟨h0, Int.not_lt.mp hneg, by simp only [if_neg h0, if_neg hneg]⟩)

/-- what is requested from the wrapped reader is the buffer cut to the budget, whatever the
wrapped reader does -/
theorem read_requested {lr : LR} {plen : Nat} {r : Nat → Resp} {l : Nat}
    (hreq : (lr.read plen r).2.requested = some l) : l = min plen lr.n ∧ lr.n ≠ 0 := by
  rcases read_cases lr plen r with ⟨_, h⟩ | ⟨h0, _, h⟩ | ⟨h0, _, h⟩ <;> rw [h] at hreq <;> cases hreq
  · exact ⟨rfl, h0⟩
  · exact ⟨rfl, h0⟩

/-- `lr` became `lr'` while `d` bytes were delivered: the limit stays, what is left went down by `d`. -/
def Budget (lr lr' : LR) (d : Nat) : Prop := lr'.limit = lr.limit ∧ lr'.n + d = lr.n

theorem Budget.refl (lr : LR) : Budget lr lr 0 := ⟨rfl, rfl⟩

theorem Budget.trans {a b c : LR} {d e : Nat} (h₁ : Budget a b d) (h₂ : Budget b c e) :
    Budget a c (d + e) := ⟨h₂.1.trans h₁.1, by have := h₁.2; have := h₂.2; omega⟩

/-- never more is delivered than the budget allowed -/
theorem Budget.le {a b : LR} {d : Nat} (h : Budget a b d) : d ≤ a.n :=
  Nat.le.intro ((Nat.add_comm ..).trans h.2)

/-- a request that fits what is left fits, with what was delivered, what there was -/
theorem Budget.request {a b : LR} {d l : Nat} (h : Budget a b d) (hl : l ≤ b.n) : d + l ≤ a.n :=
  h.2 ▸ (Nat.add_comm ..) ▸ Nat.add_le_add_right hl d

/-- what an `LR.read` over a well-behaved reader returns is itself well-behaved and never negative -/
theorem read_out_wf (lr : LR) (l : Nat) (s : Nat → Resp) (hw : ∀ l, (s l).wf l) :
    (lr.read l s).2.n = (lr.read l s).2.data.length ∧ (lr.read l s).2.data.length ≤ l := by
  rcases read_cases lr l s with ⟨_, h⟩ | ⟨_, _, h⟩ | ⟨_, hpos, h⟩ <;> rw [h]
  · exact ⟨rfl, Nat.zero_le _⟩
  · exact ⟨rfl, Nat.zero_le _⟩
  · rcases hw (min l lr.n) with hlt | ⟨hn, hle⟩
    · omega
    · exact ⟨hn, Nat.le_trans hle (Nat.min_le_left ..)⟩

theorem read_budget (lr : LR) (plen : Nat) (r : Nat → Resp) (hw : ∀ l, (r l).wf l) :
    Budget lr (lr.read plen r).1 (lr.read plen r).2.data.length := by
  rcases read_cases lr plen r with ⟨_, h⟩ | ⟨_, _, h⟩ | ⟨_, hpos, h⟩ <;> rw [h]
  · exact Budget.refl lr
  · exact Budget.refl lr
  · rcases hw (min plen lr.n) with hlt | ⟨hn, hle⟩
    · omega
    · refine ⟨rfl, ?_⟩
      simp only [hn, Int.toNat_natCast]
      omega

/-- The error and count of the wrapped reader pass through unchanged whenever it was called
and reported a non-negative count; the delivered bytes are the bytes it stored. -/
theorem errors_pass_through (lr : LR) (plen : Nat) (r : Nat → Resp) (l : Nat)
    (hreq : (lr.read plen r).2.requested = some l) (hn : 0 ≤ (r l).n) :
    (lr.read plen r).2.err = underErr (r l).err ∧ (lr.read plen r).2.n = (r l).n ∧
    (lr.read plen r).2.data = (r l).data := by
  obtain ⟨rfl, -⟩ := read_requested hreq
  rcases read_cases lr plen r with ⟨_, h⟩ | ⟨_, hneg, h⟩ | ⟨_, _, h⟩ <;> rw [h] at hreq ⊢
  · cases hreq
  · omega
  · exact ⟨rfl, rfl, rfl⟩

/-- A reader whose budget is used up answers `(0, *LimitError{limit})` without touching the
wrapped reader, and its state does not change. -/
theorem read_exhausted (lr : LR) (h : lr.n = 0) (plen : Nat) (r : Nat → Resp) :
    lr.read plen r = (lr, { requested := none, n := 0, data := [], err := .limit lr.limit }) := by
  simp [LR.read, h]

theorem run_budget (lr : LR) (calls : List (Nat × (Nat → Resp))) (hw : WfCalls calls) :
    Budget lr (lr.run calls).1 (delivered (lr.run calls).2).length := by
  induction calls generalizing lr with
  | nil => exact Budget.refl lr
  | cons c rest ih =>
    obtain ⟨hc, hrest⟩ := List.forall_mem_cons.1 hw
    simp only [LR.run, delivered_cons, List.length_append]
    exact (read_budget lr c.1 c.2 hc).trans (ih _ hrest)

/-- A `LimitReader(r, n)` never delivers more than `n` bytes. -/
theorem delivered_le_n (n : Nat) (calls : List (Nat × (Nat → Resp))) (hw : WfCalls calls) :
    (delivered ((limitReader n).run calls).2).length ≤ n :=
  (run_budget (limitReader n) calls hw).le

/-- After any history, whatever the next `Read` requests from the wrapped
reader fits in what is left of the limit — in total never more than `n` is outstanding. -/
theorem requested_le_n (n : Nat) (pre : List (Nat × (Nat → Resp))) (hw : WfCalls pre)
    (plen : Nat) (r : Nat → Resp) (l : Nat)
    (hreq : (((limitReader n).run pre).1.read plen r).2.requested = some l) :
    (delivered ((limitReader n).run pre).2).length + l ≤ n :=
  (run_budget (limitReader n) pre hw).request ((read_requested hreq).1 ▸ Nat.min_le_right ..)

/-- One `Read` delivers either nothing or exactly the bytes the wrapped reader returned to the
request it was handed (nothing is dropped, duplicated or reordered within a call). -/
theorem delivered_prefix (lr : LR) (plen : Nat) (r : Nat → Resp) :
    (lr.read plen r).2.data = [] ∨
    ∃ l, (lr.read plen r).2.requested = some l ∧ (lr.read plen r).2.data = (r l).data := by
  rcases read_cases lr plen r with ⟨_, h⟩ | ⟨_, _, h⟩ | ⟨_, _, h⟩ <;> rw [h]
  · exact Or.inl rfl
  · exact Or.inl rfl
  · exact Or.inr ⟨_, rfl, rfl⟩

theorem run_exhausted (lr : LR) (h : lr.n = 0) (calls : List (Nat × (Nat → Resp))) :
    (lr.run calls).1 = lr ∧
    ∀ o ∈ (lr.run calls).2, o = { requested := none, n := 0, data := [], err := .limit lr.limit } := by
  induction calls with
  | nil => simp [LR.run]
  | cons c rest ih =>
    obtain ⟨plen, r⟩ := c
    simp only [LR.run, read_exhausted lr h]
    refine ⟨ih.1, ?_⟩
    intro o ho
    rcases List.mem_cons.1 ho with rfl | ho
    · rfl
    · exact ih.2 o ho

/-- Once `n` bytes have been delivered, every further `Read` — whatever the
buffer sizes and whatever the wrapped reader would do — returns 0 bytes and `*LimitError{n}`
and never calls the wrapped reader. -/
theorem after_limit (n : Nat) (pre post : List (Nat × (Nat → Resp))) (hw : WfCalls pre)
    (hfull : (delivered ((limitReader n).run pre).2).length = n) :
    ∀ o ∈ (((limitReader n).run pre).1.run post).2,
      o = { requested := none, n := 0, data := [], err := .limit n } := by
  obtain ⟨hl, hb⟩ := run_budget (limitReader n) pre hw
  have hb : _ + _ = n := hb
  have h0 : ((limitReader n).run pre).1.n = 0 := by omega
  have := (run_exhausted _ h0 post).2
  rwa [show _ = n from hl] at this

/-! ### Limited readers stacked on a limited reader -/

/-- The two ways a `Read` on the outer reader goes: the outer budget is used up and the inner reader
is not called; or the inner reader is read with the buffer cut to the outer budget and its answer is
passed on and counted. -/
theorem stack_read_cases (st : Stack) (plen : Nat) (s : Nat → Resp) :
    (st.outer.n = 0 ∧ st.read plen s =
      (st, { out := { requested := none, n := 0, data := [], err := .limit st.outer.limit },
             inner := none })) ∨
    (st.outer.n ≠ 0 ∧ st.read plen s =
      ({ outer := { st.outer with n := st.outer.n - (st.inner.read (min plen st.outer.n) s).2.n.toNat },
         inner := (st.inner.read (min plen st.outer.n) s).1 },
       { out := { requested := some (min plen st.outer.n),
                  n := (st.inner.read (min plen st.outer.n) s).2.n,
                  data := (st.inner.read (min plen st.outer.n) s).2.data,
                  err := underErr (st.inner.read (min plen st.outer.n) s).2.err.code },
         inner := some (st.inner.read (min plen st.outer.n) s).2 })) := by
  unfold Stack.read
  rcases read_cases st.outer plen (st.inner.asReader s) with ⟨h0, h⟩ | ⟨_, hneg, _⟩ | ⟨h0, _, h⟩
  · exact Or.inl ⟨h0, by rw [h]⟩
  · -- an `LR.read` never reports a negative count
    rcases read_cases st.inner (min plen st.outer.n) s with ⟨_, h⟩ | ⟨_, _, h⟩ | ⟨_, hpos, h⟩ <;>
      simp only [LR.asReader, ReadOut.toResp, h] at hneg <;> omega
  · exact Or.inr ⟨h0, by rw [h]; rfl⟩

/-- the bytes of an inner `Read` that may not have happened -/
def optData (o : Option ReadOut) : Bytes := (o.map (·.data)).getD []

/-- One `Read` on the outer reader: both budgets go down by exactly what was delivered at their level,
and the outer delivers exactly the bytes the inner one returned. -/
theorem stack_step (st : Stack) (plen : Nat) (s : Nat → Resp) (hw : ∀ l, (s l).wf l) :
    Budget st.outer (st.read plen s).1.outer (st.read plen s).2.out.data.length ∧
    Budget st.inner (st.read plen s).1.inner (optData (st.read plen s).2.inner).length ∧
    (st.read plen s).2.out.data = optData (st.read plen s).2.inner := by
  rcases stack_read_cases st plen s with ⟨_, h⟩ | ⟨_, h⟩ <;> rw [h]
  · exact ⟨Budget.refl _, Budget.refl _, rfl⟩
  · obtain ⟨hn, hle⟩ := read_out_wf st.inner (min plen st.outer.n) s hw
    refine ⟨⟨rfl, ?_⟩, read_budget st.inner _ s hw, rfl⟩
    simp only [hn, Int.toNat_natCast]
    omega

/-- One `Read` on the outer reader in ANY state `st` of the stack: what the inner reader
requests from the source fits in what the two readers have left (`st.inner.n`, `st.outer.n`)
and in the caller's buffer — whatever the source does.  `stack_requested_le` is this step taken
after a history from fresh readers, with what is left expressed by what has been delivered. -/
theorem stack_request_le (st : Stack) (plen : Nat) (s : Nat → Resp) (io : ReadOut) (l : Nat)
    (hi : (st.read plen s).2.inner = some io) (hreq : io.requested = some l) :
    l ≤ st.inner.n ∧ l ≤ st.outer.n ∧ l ≤ plen := by
  rcases stack_read_cases st plen s with ⟨_, h⟩ | ⟨_, h⟩ <;> rw [h] at hi <;> cases hi
  obtain ⟨rfl, -⟩ := read_requested hreq
  omega

theorem delivered_innerOuts_cons (o : StackOut) (os : List StackOut) :
    delivered (innerOuts (o :: os)) = optData o.inner ++ delivered (innerOuts os) := by
  cases h : o.inner <;> simp [innerOuts, h, optData, delivered]

/-- Whole histories on the outer reader: both budget invariants hold — the inner one although
it is only driven through the outer one — and byte for byte the callers got exactly what the
inner reader returned. -/
theorem stack_run_budget (st : Stack) (calls : List (Nat × (Nat → Resp))) (hw : WfCalls calls) :
    Budget st.outer (st.run calls).1.outer (delivered (outerOuts (st.run calls).2)).length ∧
    Budget st.inner (st.run calls).1.inner (delivered (innerOuts (st.run calls).2)).length ∧
    delivered (outerOuts (st.run calls).2) = delivered (innerOuts (st.run calls).2) := by
  induction calls generalizing st with
  | nil => exact ⟨Budget.refl _, Budget.refl _, rfl⟩
  | cons c rest ih =>
    obtain ⟨hc, hrest⟩ := List.forall_mem_cons.1 hw
    obtain ⟨s1, s2, s3⟩ := stack_step st c.1 c.2 hc
    obtain ⟨i1, i2, i3⟩ := ih (st.read c.1 c.2).1 hrest
    simp only [Stack.run, outerOuts, List.map_cons, delivered_cons, delivered_innerOuts_cons,
      List.length_append] at i3 ⊢
    exact ⟨s1.trans i1, s2.trans i2, by rw [s3, i3]⟩

/-- In `LimitReader(LimitReader(src, n), m)` the inner reader's
budget invariant holds after every history of reads on the outer one: what is left of `n`
plus what the source has delivered is `n`; so the source never delivers more than `n`. -/
theorem stack_inner_budget (n m : Nat) (calls : List (Nat × (Nat → Resp))) (hw : WfCalls calls) :
    let r := ({ outer := limitReader m, inner := limitReader n } : Stack).run calls
    r.1.inner.limit = n ∧ r.1.inner.n + (delivered (innerOuts r.2)).length = n ∧
    (delivered (innerOuts r.2)).length ≤ n := by
  have h := (stack_run_budget { outer := limitReader m, inner := limitReader n } calls hw).2.1
  exact ⟨h.1, h.2, h.le⟩

/-- `stack_request_le` in terms of the two limits: after any history on
`LimitReader(LimitReader(src, n), m)`, whatever the next `Read` on the outer reader
makes the inner one request from the source fits in what is left of BOTH limits: delivered so
far plus the request is at most `n` and at most `m` (and the request fits the buffer). -/
theorem stack_requested_le (n m : Nat) (pre : List (Nat × (Nat → Resp))) (hw : WfCalls pre)
    (plen : Nat) (s : Nat → Resp) (io : ReadOut) (l : Nat)
    (hi : ((({ outer := limitReader m, inner := limitReader n } : Stack).run pre).1.read plen s).2.inner
      = some io)
    (hreq : io.requested = some l) :
    let r := ({ outer := limitReader m, inner := limitReader n } : Stack).run pre
    (delivered (innerOuts r.2)).length + l ≤ n ∧ (delivered (innerOuts r.2)).length + l ≤ m ∧
    l ≤ plen := by
  obtain ⟨ho, hi', he⟩ := stack_run_budget { outer := limitReader m, inner := limitReader n } pre hw
  have hl := stack_request_le _ plen s io l hi hreq
  exact ⟨hi'.request hl.1, (he ▸ ho).request hl.2.1, hl.2.2⟩

/-- `LimitReader(LimitReader(src, n), m)` never delivers more
than `min n m` bytes, and what it delivers is byte for byte what the source handed to the
inner reader. -/
theorem stack_delivered_le_min (n m : Nat) (calls : List (Nat × (Nat → Resp)))
    (hw : WfCalls calls) :
    let r := ({ outer := limitReader m, inner := limitReader n } : Stack).run calls
    (delivered (outerOuts r.2)).length ≤ min n m ∧
    delivered (outerOuts r.2) = delivered (innerOuts r.2) := by
  obtain ⟨ho, hi, he⟩ := stack_run_budget { outer := limitReader m, inner := limitReader n } calls hw
  exact ⟨Nat.le_min.2 ⟨(he ▸ hi).le, ho.le⟩, he⟩

/-- every history of every session obeys the `io.Reader` contract -/
def WfSessions (ss : List (Option Nat × List (Nat × (Nat → Resp)))) : Prop :=
  ∀ x ∈ ss, WfCalls x.2

/-- Any number of readers made one after the other over the same inner reader (and reads
from it directly in between): the inner budget invariant holds at the end, every session
through a `LimitReader(inner, m)` is counted in it, and the callers together got exactly
the bytes the inner reader returned. -/
theorem sessions_budget (inner : LR) (ss : List (Option Nat × List (Nat × (Nat → Resp))))
    (hw : WfSessions ss) :
    Budget inner (sessions inner ss).1 (delivered (sessions inner ss).2.2).length ∧
    delivered (sessions inner ss).2.1 = delivered (sessions inner ss).2.2 := by
  induction ss generalizing inner with
  | nil => exact ⟨Budget.refl _, rfl⟩
  | cons x rest ih =>
    obtain ⟨om, calls⟩ := x
    obtain ⟨hc, hrest⟩ := List.forall_mem_cons.1 hw
    cases om with
    | none =>
      obtain ⟨i1, i2⟩ := ih (inner.run calls).1 hrest
      simp only [sessions, delivered_append, List.length_append]
      exact ⟨(run_budget inner calls hc).trans i1, by rw [i2]⟩
    | some m =>
      obtain ⟨-, b2, b3⟩ := stack_run_budget { outer := limitReader m, inner := inner } calls hc
      obtain ⟨i1, i2⟩ := ih (Stack.run { outer := limitReader m, inner := inner } calls).1.inner hrest
      simp only [sessions, delivered_append, List.length_append]
      exact ⟨b2.trans i1, by rw [i2, b3]⟩

/-- However many `LimitReader(total, m)` are made one after
the other over the same `total = LimitReader(src, n)`, whatever their limits, buffer sizes and
the source's behaviour, together they deliver at most `n` bytes — and the source delivers at
most `n`. -/
theorem sessions_delivered_le_n (n : Nat) (ss : List (Option Nat × List (Nat × (Nat → Resp))))
    (hw : WfSessions ss) :
    (delivered (sessions (limitReader n) ss).2.1).length ≤ n ∧
    (delivered (sessions (limitReader n) ss).2.2).length ≤ n := by
  obtain ⟨h2, h3⟩ := sessions_budget (limitReader n) ss hw
  exact ⟨h3 ▸ h2.le, h2.le⟩

/-- The harness's `C15.copy` stage 3: three `ReadAll(LimitReader(total, part))` and then
`ReadAll(total)` — whatever sequence of reads `ReadAll` makes. -/
theorem copy_nested_le_n (n part : Nat) (c1 c2 c3 c4 : List (Nat × (Nat → Resp)))
    (h1 : WfCalls c1) (h2 : WfCalls c2) (h3 : WfCalls c3) (h4 : WfCalls c4) :
    let r := sessions (limitReader n) [(some part, c1), (some part, c2), (some part, c3), (none, c4)]
    (delivered r.2.1).length ≤ n ∧ (delivered r.2.2).length ≤ n := by
  exact sessions_delivered_le_n n _ (by simp [WfSessions, h1, h2, h3, h4])

/-! ### TruncatedWriter -/

/-- One `Write`: what is left of the limit goes down by the length of `b` (and stays 0), and
the wrapped writer gets the part of `b` that still fits. -/
theorem write_spec (w : TW) (b : Bytes) (e : Nat) :
    (w.write b e).1.limit = w.limit ∧
    (w.write b e).1.limit - (w.write b e).1.offset = w.limit - w.offset - b.length ∧
    (w.offset ≤ w.limit → (w.write b e).1.offset ≤ (w.write b e).1.limit) ∧
    (w.write b e).2.forwarded.getD [] = b.take (w.limit - w.offset) ∧
    (w.write b e).2.n = b.length := by
  by_cases hr : w.limit - w.offset = 0
  · have hw : w.write b e = (w, { forwarded := none, n := b.length, err := 0 }) := if_pos hr
    rw [hw, hr]
    exact ⟨rfl, (Nat.zero_sub _).symm, id, rfl, rfl⟩
  · have hw : w.write b e = ({ w with offset := w.offset + min b.length (w.limit - w.offset) },
        { forwarded := some (b.take (min b.length (w.limit - w.offset))), n := b.length, err := e }) :=
      if_neg hr
    rw [hw]
    refine ⟨rfl, ?_, fun h => ?_, ?_, rfl⟩
    · rw [Nat.sub_add_eq]
      generalize w.limit - w.offset = k
      omega
    · exact Nat.le_trans (Nat.add_le_add_left (Nat.min_le_right ..) _) (Nat.le_of_eq (Nat.add_sub_cancel' h))
    · exact (congrArg b.take (Nat.min_comm ..)).trans List.take_eq_take_min.symm

theorem tw_run_spec (w : TW) (h : w.offset ≤ w.limit) (ws : List (Bytes × Nat)) :
    (w.run ws).1.limit = w.limit ∧ (w.run ws).1.offset ≤ w.limit ∧
    forwardedAll (w.run ws).2 = (ws.flatMap (·.1)).take (w.limit - w.offset) ∧
    (w.run ws).2.map (·.n) = ws.map (·.1.length) := by
  induction ws generalizing w with
  | nil => exact ⟨rfl, h, by simp [TW.run, forwardedAll], rfl⟩
  | cons c rest ih =>
    obtain ⟨w1, w2, w3, w4, w5⟩ := write_spec w c.1 c.2
    obtain ⟨i1, i2, i3, i4⟩ := ih (w.write c.1 c.2).1 (w3 h)
    simp only [TW.run, forwardedAll, List.flatMap_cons, List.map_cons] at i3 ⊢
    refine ⟨i1.trans w1, w1 ▸ i2, ?_, by rw [i4, w5]⟩
    rw [w4, i3, w2, List.take_append]

/-- The wrapped writer receives exactly the first `min(total, n)` bytes of
the concatenated writes, in order, whatever errors it returns. -/
theorem trunc_forwards (n : Nat) (ws : List (Bytes × Nat)) :
    forwardedAll ((newTruncatedWriter n).run ws).2 = (ws.flatMap (·.1)).take n :=
  (tw_run_spec (newTruncatedWriter n) (Nat.zero_le _) ws).2.2.1

/-- Every `Write(b)` reports `len(b)`. -/
theorem trunc_reports_len (n : Nat) (ws : List (Bytes × Nat)) :
    ((newTruncatedWriter n).run ws).2.map (·.n) = ws.map (·.1.length) :=
  (tw_run_spec (newTruncatedWriter n) (Nat.zero_le _) ws).2.2.2

/-- `offset ≤ limit` in every reachable state, so the unsigned `limit - offset` never wraps. -/
theorem trunc_offset_le_limit (n : Nat) (ws : List (Bytes × Nat)) :
    ((newTruncatedWriter n).run ws).1.offset ≤ n := by
  have := tw_run_spec (newTruncatedWriter n) (Nat.zero_le _) ws
  simpa [newTruncatedWriter] using this.2.1

/-! ### Non-vacuity: concrete histories meeting the hypotheses -/

def exResp (k : Nat) (e : Nat) : Nat → Resp := fun l =>
  { n := (min k l : Nat), data := List.replicate (min k l) 7, err := e }

theorem exResp_wf (k e l : Nat) : (exResp k e l).wf l := by
  right; simp [exResp]; omega

example : WfCalls [(4, exResp 3 0), (4, exResp 9 1)] := by
  simp [WfCalls, exResp_wf]

-- limit 5: first read delivers 3, second is cut to 2 and reaches the limit; third is refused
example : ((limitReader 5).run [(4, exResp 3 0), (4, exResp 9 1), (4, exResp 9 0)]).2.map
    (fun o => (o.requested, o.n, o.err)) =
    [(some 4, 3, .nil), (some 2, 2, .under 1), (none, 0, .limit 5)] := by decide

-- LimitReader(LimitReader(src, 5), 3): the outer limit cuts the request to 3, the second read
-- is refused by the outer reader and the inner one is not called
example : (({ outer := limitReader 3, inner := limitReader 5 } : Stack).run
    [(4, exResp 9 0), (4, exResp 9 0)]).2.map
    (fun o => (o.out.requested, o.out.n, o.out.err, o.inner.map (·.requested))) =
    [(some 3, 3, .nil, some (some 3)), (none, 0, .limit 3, none)] := by decide

-- LimitReader(LimitReader(src, 2), 3): the inner limit cuts the request to 2; on the next read
-- the inner reader is called and answers with its own limit error, which passes through
example : (({ outer := limitReader 3, inner := limitReader 2 } : Stack).run
    [(4, exResp 9 0), (4, exResp 9 0)]).2.map
    (fun o => (o.out.requested, o.out.n, o.out.err, o.inner.map (·.requested))) =
    [(some 3, 2, .nil, some (some 2)), (some 1, 0, .under (RErr.limit 2).code, some none)] := by
  decide

-- three LimitReader(total, 3) over total = LimitReader(src, 5), then total itself: 3 + 2 + 0 + 0
example : (sessions (limitReader 5)
    [(some 3, [(4, exResp 9 0), (4, exResp 9 0)]), (some 3, [(4, exResp 9 0), (4, exResp 9 0)]),
     (some 3, [(4, exResp 9 0)]), (none, [(4, exResp 9 0)])]).2.1.map (·.n) =
    [3, 0, 2, 0, 0, 0] := by decide

example : WfSessions [(some 3, [(4, exResp 9 0), (4, exResp 9 0)]), (none, [(4, exResp 9 0)])] := by
  simp [WfSessions, WfCalls, exResp_wf]

example : forwardedAll ((newTruncatedWriter 3).run [([1, 2], 0), ([3, 4], 5), ([6], 0)]).2 = [1, 2, 3] := by
  decide

end GolibsVerif.C15
