/-
C03 — the validators with the parameter `toASCII` instantiated by the model
`Idna.toASCII enc dec` of `golang.org/x/net/idna.ToASCII` (`Go/Idna.lean`; the op `std.idna`
of this property's harness ties that model to the real function on every run).

For an all-ASCII name none of whose labels starts with the lower-case ACE prefix `xn--`
(`strings.HasPrefix(label, "xn--")` is what `idna.ToASCII` tests; `XN--…` is an ordinary label),
`idna.ToASCII` is the identity (`Idna.idna1_model_strong`), so the three validators decide the
documented grammar on the name itself — no idna hypothesis, and nothing is assumed about the
punycode functions `enc` / `dec`.
-/
import GolibsVerif.Theorems.C03
import GolibsVerif.Theorems.Idna

namespace GolibsVerif.C03
open GolibsVerif.Netutil GolibsVerif.Str GolibsVerif.Gen.Consts GolibsVerif

/-- The model of `idna.ToASCII` returns normally on every input — no out-of-range index or
slice in the label iterator, loops within their fuel — and computes the label-wise
description `Idna.spec` (`Spec/Idna.lean`). -/
theorem idna_model_spec (enc dec : Bytes → Option Bytes) (s : Bytes) :
    Idna.process enc dec s = .ok (Idna.spec enc dec s) := Idna.process_eq_spec enc dec s

/-- the grammar of a whole name, on the name itself -/
def PlainNameOK (P : Bytes → Prop) (s : Bytes) : Prop :=
  1 ≤ s.length ∧ s.length ≤ 253 ∧ LabelsOK P (splitOn 46 s)

theorem nameOK_plain_idna (P : Bytes → Prop) (enc dec : Bytes → Option Bytes) (s : Bytes)
    (hascii : ∀ b ∈ s, b < 128) (hxn : ∀ l ∈ splitOn 46 s, ¬ Idna.acePrefix <+: l) :
    NameOK P (Idna.toASCII enc dec) s ↔ PlainNameOK P s := by
  unfold NameOK PlainNameOK
  rw [Idna.idna1_model_strong enc dec s hascii hxn]
  constructor
  · rintro ⟨t, ht, h⟩; cases ht; exact h
  · intro h; exact ⟨s, rfl, h⟩

/-- `ValidateHostname` / `ValidateDomainName` / `ValidateSRVDomainName` accept an all-ASCII
name without A-labels iff the name itself is in the documented grammar. -/
theorem validators_plain_idna (enc dec : Bytes → Option Bytes) (s : Bytes)
    (hascii : ∀ b ∈ s, b < 128) (hxn : ∀ l ∈ splitOn 46 s, ¬ Idna.acePrefix <+: l) :
    (validateHostname (Idna.toASCII enc dec) s = .ok none ↔ PlainNameOK HostLabel s) ∧
    (validateDomainName (Idna.toASCII enc dec) s = .ok none ↔ PlainNameOK DomainLabel s) ∧
    (validateSRVDomainName (Idna.toASCII enc dec) s = .ok none ↔
      PlainNameOK (fun l => HostLabel l ∨ SRVLabel l) s) :=
  ⟨(validateHostname_iff _ s).trans (nameOK_plain_idna _ enc dec s hascii hxn),
   (validateDomainName_iff _ s).trans (nameOK_plain_idna _ enc dec s hascii hxn),
   (validateSRVDomainName_iff _ s).trans (nameOK_plain_idna _ enc dec s hascii hxn)⟩

/-- A name that starts with a dot is rejected by `ValidateDomainName`, whatever the punycode
functions do (`Idna.hDot_model`: the empty first label survives `idna.ToASCII`). -/
theorem leading_dot_rejected_idna (enc dec : Bytes → Option Bytes) (s : Bytes)
    (hd : s.head? = some 46) :
    validateDomainName (Idna.toASCII enc dec) s ≠ .ok none := fun h =>
  NameOK.no_leading_dot (by simp [DomainLabel]) (Idna.hDot_model enc dec)
    ((validateDomainName_iff _ s).1 h) hd

/-- an upper-case `XN--` label is an ordinary label for `idna.ToASCII`, and a valid hostname
label -/
example : validateHostname (Idna.toASCII (fun _ => none) (fun _ => none)) (ascii "XN--a.example") = .ok none :=
  (accepted_iff _).1 (by rw [ascii_ofList]; decide +kernel)

end GolibsVerif.C03
