/-
C03 — property theorems: `ValidateHostname`, `ValidateDomainName`, `ValidateSRVDomainName`
implement the documented grammar (`Spec/C03.lean`) for every string and every behaviour of
`idna.ToASCII`; inclusion chain; every rejection is an `*AddrError` carrying the original
input; no validator panics.
-/
import GolibsVerif.Lemmas.C03
import GolibsVerif.Lemmas.Strings

namespace GolibsVerif.C03
open GolibsVerif.Netutil GolibsVerif.Str GolibsVerif.Gen.Consts GolibsVerif

/-- The constants regenerated from `/repo/netutil` are the documented RFC limits; an edit
of any of them breaks this obligation. -/
theorem consts_documented :
    MaxDomainLabelLen = 63 ∧ MaxDomainNameLen = 253 ∧ MaxServiceLabelLen = 16 := ⟨rfl, rfl, rfl⟩

/-- generic characterisation of the three name validators: no panic, nil exactly on the grammar,
and every rejection is `makeAddrError` around some inner error, with the original input -/
theorem validateName_spec (kind : Kind) {f P} (hf : LabelValidator f P)
    (toASCII : Bytes → Option Bytes) (s : Bytes) :
    Verdict (validateName kind f toASCII s) (NameOK P toASCII s)
      (fun e => ∃ inner, e = .addr kind s (some inner)) := by
  unfold validateName NameOK
  cases ht : toASCII s with
  | none => exact .reject _ rfl (fun ⟨t, h, _⟩ => nomatch h) ⟨_, rfl⟩
  | some n =>
    simp only [bind, Except.bind, pure, Except.pure, maxName_eq]
    by_cases h0 : n = []
    · subst h0
      exact .reject _ rfl (by rintro ⟨t, h, h1, _⟩; cases h; simp at h1) ⟨_, rfl⟩
    · simp only [h0, if_false]
      by_cases hlen : n.length > 253
      · simp only [hlen, if_true]
        exact .reject _ rfl (by rintro ⟨t, h, _, h2, _⟩; cases h; omega) ⟨_, rfl⟩
      · simp only [hlen, if_false]
        rcases validateLabels_verdict hf (splitOn 46 n) (splitOn_ne_nil 46 n) with ⟨hr, hl⟩ | ⟨e, hr, hl, _⟩ <;>
          rw [hr]
        · exact .accept rfl ⟨n, rfl, List.length_pos_iff.2 h0, by omega, hl⟩
        · exact .reject _ rfl (by rintro ⟨t, h, _, _, hl'⟩; cases h; exact hl hl') ⟨_, rfl⟩

/-- `ValidateHostname(s) = nil` ⇔ `idna.ToASCII(s)` succeeds with 1..253 bytes whose labels are
hostname labels and whose last label has a non-digit. -/
theorem validateHostname_iff (toASCII : Bytes → Option Bytes) (s : Bytes) :
    validateHostname toASCII s = .ok none ↔ HostnameOK toASCII s :=
  (validateName_spec .name hostValidator toASCII s).none_iff

/-- `ValidateDomainName` relaxes non-final labels to any 1..63 bytes. -/
theorem validateDomainName_iff (toASCII : Bytes → Option Bytes) (s : Bytes) :
    validateDomainName toASCII s = .ok none ↔ DomainNameOK toASCII s :=
  (validateName_spec .domainName domainValidator toASCII s).none_iff

/-- `ValidateSRVDomainName` additionally admits non-final `'_'`+hostname-label of ≤ 16 bytes. -/
theorem validateSRVDomainName_iff (toASCII : Bytes → Option Bytes) (s : Bytes) :
    validateSRVDomainName toASCII s = .ok none ↔ SRVNameOK toASCII s :=
  (validateName_spec .srvName srvValidator toASCII s).none_iff

/-- No validator panics, on any input and for any `idna.ToASCII` (C01 for these functions;
in particular `replaceKind`'s `default: panic` branch is unreachable). -/
theorem validators_total (toASCII : Bytes → Option Bytes) (s : Bytes) :
    (∃ r, validateHostname toASCII s = .ok r) ∧ (∃ r, validateDomainName toASCII s = .ok r) ∧
    (∃ r, validateSRVDomainName toASCII s = .ok r) :=
  ⟨(validateName_spec .name hostValidator toASCII s).total,
   (validateName_spec .domainName domainValidator toASCII s).total,
   (validateName_spec .srvName srvValidator toASCII s).total⟩

theorem label_validators_total (l : Bytes) :
    (∃ r, validateHostnameLabel l = .ok r) ∧ (∃ r, validateTLDLabel l = .ok r) ∧
    (∃ r, validateServiceNameLabel l = .ok r) :=
  ⟨(vhl_verdict l).total, (vtld_verdict l).total, (vsrv_verdict l).total⟩

/-- Every rejection is an `*AddrError` whose `Addr` is the original input (not the
`ToASCII` form) and whose kind is the validator's own. -/
theorem reject_is_addrError (toASCII : Bytes → Option Bytes) (s : Bytes) (e : Err) :
    (validateHostname toASCII s = .ok (some e) → ∃ inner, e = .addr .name s (some inner)) ∧
    (validateDomainName toASCII s = .ok (some e) → ∃ inner, e = .addr .domainName s (some inner)) ∧
    (validateSRVDomainName toASCII s = .ok (some e) → ∃ inner, e = .addr .srvName s (some inner)) :=
  ⟨(validateName_spec .name hostValidator toASCII s).shape e,
   (validateName_spec .domainName domainValidator toASCII s).shape e,
   (validateName_spec .srvName srvValidator toASCII s).shape e⟩

theorem labelsOK_mono {P Q : Bytes → Prop} (h : ∀ l, P l → Q l) :
    ∀ ls, LabelsOK P ls → LabelsOK Q ls
  | [], hl => hl
  | [_], hl => hl
  | l :: l' :: rest, hl => ⟨h l hl.1, labelsOK_mono h (l' :: rest) hl.2⟩

/-- every hostname-valid name is SRV-valid -/
theorem host_sub_srv (toASCII : Bytes → Option Bytes) (s : Bytes)
    (h : validateHostname toASCII s = .ok none) : validateSRVDomainName toASCII s = .ok none := by
  rw [validateSRVDomainName_iff]
  obtain ⟨t, h1, h2, h3, h4⟩ := (validateHostname_iff toASCII s).1 h
  exact ⟨t, h1, h2, h3, labelsOK_mono (fun l hl => Or.inl hl) _ h4⟩

/-- every SRV-valid name is domain-name-valid -/
theorem srv_sub_domain (toASCII : Bytes → Option Bytes) (s : Bytes)
    (h : validateSRVDomainName toASCII s = .ok none) : validateDomainName toASCII s = .ok none := by
  rw [validateDomainName_iff]
  obtain ⟨t, h1, h2, h3, h4⟩ := (validateSRVDomainName_iff toASCII s).1 h
  refine ⟨t, h1, h2, h3, labelsOK_mono (fun l hl => ?_) _ h4⟩
  rcases hl with hl | ⟨hle, r, rfl, hr⟩
  · exact ⟨hl.len_pos, hl.len_le⟩
  · exact ⟨by simp, by omega⟩

/-- The `strings.Cut` loop of the Go code visits exactly the `'.'`-split pieces the model
folds over. -/
theorem cut_loop_is_split (s : Bytes) :
    splitOn 46 s = match cut 46 s with
      | (before, after, true) => before :: splitOn 46 after
      | (before, _, false) => [before] := splitOn_cut 46 s

/-! ### Non-vacuity -/

def idAscii : Bytes → Option Bytes := some

/-- accepted, as a Boolean (the error type has no decidable equality) -/
def accepted : GoM (Option Err) → Bool
  | .ok none => true
  | _ => false

theorem accepted_iff (r : GoM (Option Err)) : accepted r = true ↔ r = .ok none := by
  unfold accepted; split <;> simp_all

example : HostnameOK idAscii (ascii "a-1.example.org") :=
  (validateHostname_iff _ _).1 ((accepted_iff _).1 (by rw [ascii_ofList]; decide +kernel))
example : accepted (validateHostname idAscii (ascii "_svc.example.org")) = false := by rw [ascii_ofList]; decide +kernel
example : accepted (validateSRVDomainName idAscii (ascii "_svc.example.org")) = true := by rw [ascii_ofList]; decide +kernel
example : accepted (validateDomainName idAscii (ascii "a b.example.org")) = true := by rw [ascii_ofList]; decide +kernel
example : accepted (validateSRVDomainName idAscii (ascii "a b.example.org")) = false := by rw [ascii_ofList]; decide +kernel
example : accepted (validateHostname idAscii (ascii "example.123")) = false := by rw [ascii_ofList]; decide +kernel

end GolibsVerif.C03
