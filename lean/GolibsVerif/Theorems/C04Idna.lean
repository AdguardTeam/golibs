/-
C04 — `decode_encode` without an `idna.ToASCII` hypothesis: the parameter `toASCII` of the
model of `IPFromReversedAddr` is instantiated with the model `Idna.toASCII enc dec` of
`golang.org/x/net/idna.ToASCII` (`Go/Idna.lean`, tied to the real function by the op
`std.idna`), whose contract IDNA-1 is the theorem `Idna.idna1_model`.  What stays a parameter
is only the pair of punycode functions `enc` / `dec`, about which nothing is assumed (on the
names concerned they are never called).
-/
import GolibsVerif.Theorems.C04
import GolibsVerif.Theorems.Idna

namespace GolibsVerif.C04
open GolibsVerif.Netutil GolibsVerif.Str GolibsVerif.Netip GolibsVerif.Gen.Consts GolibsVerif

/-- The model of `idna.ToASCII` satisfies IDNA-1 in the form `decode_encode` assumes it. -/
theorem idna1_holds (enc dec : Bytes → Option Bytes) :
    ∀ s, (∀ b ∈ s, b < 128) → NoXnLabel s → Idna.toASCII enc dec s = some s :=
  fun s h1 h2 => Idna.idna1_model enc dec s h1 h2

/-- `decode_encode` for the modelled `idna.ToASCII`, with no remaining idna hypothesis: every
ASCII case variant `v` of the canonical PTR name of a well-formed address `a` (IPv4, or
zone-less IPv6 that is not IPv4-mapped), with or without one trailing dot, decodes to `a` —
whatever the punycode functions do. -/
theorem decode_encode_idna (enc dec : Bytes → Option Bytes)
    (a : Addr) (hwf : WF a) (hm : ∀ b z, a = .v6 b z → z = [] ∧ ¬ is4in6 b)
    (v : Bytes) (hv : asciiLower v = canonPTR a) (dot : Bytes) (hd : dot = [] ∨ dot = [46]) :
    ipFromReversedAddr (Idna.toASCII enc dec) (v ++ dot) = .ok (.ok a) :=
  decode_encode (Idna.toASCII enc dec) (idna1_holds enc dec) a hwf hm v hv dot hd

/-- instance: a mixed-case name with a trailing dot, through the modelled `idna.ToASCII` with
punycode functions that fail on everything -/
example : ipFromReversedAddr (Idna.toASCII (fun _ => none) (fun _ => none))
    (ascii "4.3.2.1.In-Addr.ARPA.") = .ok (.ok (.v4 [1, 2, 3, 4])) := by
  rw [mixedCase_variant.1]
  exact decode_encode_idna _ _ (.v4 [1, 2, 3, 4]) ⟨rfl, by decide⟩
    (fun _ _ he => by cases he) _ mixedCase_variant.2 [46] (Or.inr rfl)

end GolibsVerif.C04
