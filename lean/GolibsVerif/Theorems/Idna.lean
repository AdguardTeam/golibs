/-
Theorems about the model `Idna.process` / `Idna.toASCII` (`Go/Idna.lean`) of
`golang.org/x/net/idna.ToASCII` (raw `Punycode` profile), for EVERY behaviour of the two
punycode functions `enc` (= `encode("xn--", ·)`) and `dec` (= `decode`):

* `process_eq_spec` — the statement-by-statement model (label iterator in both of its modes,
  two loops, error accumulation) computes exactly the label-wise description `Spec/Idna.lean`;
  in particular (`process_total`) it never panics (`l.slice[l.i]`, `l.orig[a:b]`,
  `l.orig[i]` stay in range) and its loops end within their fuel;
* `idna1_model` — the contract IDNA-1 of `C04.decode_encode` / `C05.prefix_complete`:
  an all-ASCII name none of whose labels starts with `xn--` (in any letter case) is returned
  unchanged, without error;  `idna1_model_strong` — the same for the weaker hypothesis the
  code really needs: no label starts with the LOWER-CASE `xn--` (`strings.HasPrefix` is
  case-sensitive, so `XN--…`, `Xn--…` labels are ordinary ASCII labels for `idna.ToASCII`);
* `hDot_model` — the contract `hDot` of `C05.prefix_sound` / `extract_*`: a leading dot is kept
  (`hDot_process`: also in the string Go returns together with an error);
  `hTrailingDot_model`: a trailing dot is kept as well.

What is NOT true of the real function (theorems `ace_label_not_fixed`, `ace_prefix_alone`,
`leading_dot_introduced`, all confirmed on the real code by the tie `std.idna`):
an ASCII label that does start with `xn--` need not be a fixed point even when there is no
error — `xn--abc-` becomes `abc`, the bare prefix `xn--` becomes the empty label — and
therefore the converse of `hDot` fails: `xn--.b` is mapped to `.b`.
-/
import GolibsVerif.Lemmas.Idna

namespace GolibsVerif.Idna
open GolibsVerif GolibsVerif.Str

theorem result_eq (l : LabelIter) : l.result = [46].intercalate (cur l) := by
  unfold LabelIter.result cur
  cases l.slice with
  | some sl => rfl
  | none => exact (join_splitOn 46 l.orig).symm

/-- `Punycode.process(s, true)`, modelled statement by statement, returns normally and returns
what the label-wise description says — for every string and all punycode functions. -/
theorem process_eq_spec (enc dec : Bytes → Option Bytes) (s : Bytes) :
    process enc dec s = .ok (spec enc dec s) := by
  cases s with
  | nil => simp [process, fuelFor, forLabels, LabelIter.done, LabelIter.reset, LabelIter.result, spec,
      labels1, splitOn, step1_nil, step2_nil, bind, Except.bind, pure, Except.pure]
  | cons b rest =>
    generalize hs : b :: rest = s
    have hpos : s ≠ [] := by rw [← hs]; simp
    have hfuel : (splitOn 46 s).length < fuelFor s := by
      have := length_splitOn_le 46 s
      unfold fuelFor; omega
    obtain ⟨l1, h1, hcur1, ho1⟩ :=
      forLabels_spec s (body1 dec) (step1 dec) (step1_nil dec) (body_spec _ _ (body1_act dec) s)
        (fuelFor s) _ false [] _
        (At.start (l := ⟨s, none, 0, 0, 0⟩) rfl hpos rfl rfl (splitOn_ne_nil 46 s)) hfuel
    have hc0 : cur (⟨s, none, 0, 0, 0⟩ : LabelIter) = splitOn 46 s := rfl
    rw [hc0] at h1 hcur1
    simp only [List.nil_append, Bool.false_or] at h1 hcur1
    have hcr : cur l1.reset = (splitOn 46 s).map fun x => (step1 dec x).1 := hcur1
    obtain ⟨l2, h2, hcur2, _⟩ :=
      forLabels_spec s (body2 enc) (step2 enc) (step2_nil enc) (body_spec _ _ (body2_act enc) s)
        (fuelFor s) l1.reset ((splitOn 46 s).any fun x => (step1 dec x).2) [] _
        (At.start ho1 hpos rfl rfl (by rw [hcr]; simpa using splitOn_ne_nil 46 s))
        (by rw [hcr]; simpa using hfuel)
    rw [hcr] at h2 hcur2
    simp only [List.nil_append] at h2 hcur2
    simp only [process, h1, h2, bind, Except.bind, pure, Except.pure, result_eq, hcur2]
    rfl

/-- No Go panic and no non-termination in `idna.ToASCII` (as modelled). -/
theorem process_total (enc dec : Bytes → Option Bytes) (s : Bytes) :
    ∃ r, process enc dec s = .ok r := ⟨_, process_eq_spec enc dec s⟩

/-- `idna.ToASCII` as the validators consume it. -/
theorem toASCII_eq_spec (enc dec : Bytes → Option Bytes) (s : Bytes) :
    toASCII enc dec s = if (spec enc dec s).2 then none else some (spec enc dec s).1 := by
  unfold toASCII
  rw [process_eq_spec]
  rcases spec enc dec s with ⟨t, _ | _⟩ <;> rfl

/-- IDNA-1 with the hypothesis the code needs: an all-ASCII name none of whose labels starts
with the lower-case ACE prefix `xn--` is returned unchanged, and without error. -/
theorem idna1_model_strong (enc dec : Bytes → Option Bytes) (s : Bytes)
    (hascii : ∀ b ∈ s, b < 128) (hxn : ∀ l ∈ splitOn 46 s, ¬ acePrefix <+: l) :
    toASCII enc dec s = some s := by
  have h1 : ∀ l ∈ splitOn 46 s, step1 dec l = (l, false) := by
    intro l hl
    have : hasPrefix l acePrefix = false := by
      cases hp : hasPrefix l acePrefix with
      | false => rfl
      | true => exact absurd (List.isPrefixOf_iff_prefix.1 hp) (hxn l hl)
    simp [step1, this]
  have h2 : ∀ l ∈ splitOn 46 s, step2 enc l = (l, false) := by
    intro l hl
    have : isAscii l = true := by
      simp only [isAscii, List.all_eq_true, decide_eq_true_eq]
      exact fun b hb => hascii b (mem_of_mem_splitOn 46 s l hl b hb)
    simp [step2, this]
  obtain ⟨hl1, he1⟩ := map_any_of_fixed (step1 dec) (splitOn 46 s) h1
  obtain ⟨hl2, he2⟩ := map_any_of_fixed (step2 enc) (splitOn 46 s) h2
  rw [toASCII_eq_spec]
  simp [spec, labels1, hl1, hl2, he1, he2, join_splitOn]

theorem prefix_asciiLower (l : Bytes) (h : acePrefix <+: l) : acePrefix <+: asciiLower l := by
  obtain ⟨t, rfl⟩ := h
  exact ⟨asciiLower t, by simp [asciiLower, acePrefix, lowerByte]⟩

/-- IDNA-1, as `C04.decode_encode` and `C05.prefix_complete` assume it (`hT`; the second
hypothesis is `C04.NoXnLabel s` / `C05.NoXnLabel s` unfolded): an all-ASCII name without a label
that starts with `xn--` in any letter case is a fixed point of `idna.ToASCII`. -/
theorem idna1_model (enc dec : Bytes → Option Bytes) (s : Bytes)
    (hascii : ∀ b ∈ s, b < 128)
    (hxn : ∀ l ∈ splitOn 46 s, ¬ ([120, 110, 45, 45] <+: asciiLower l)) :
    toASCII enc dec s = some s :=
  idna1_model_strong enc dec s hascii (fun l hl hp => hxn l hl (prefix_asciiLower l hp))

/-- the empty first label is neither decoded nor encoded, and `strings.Join` puts the
separator back -/
theorem spec_head_dot (enc dec : Bytes → Option Bytes) (s : Bytes) (hd : s.head? = some 46) :
    (spec enc dec s).1.head? = some 46 := by
  cases s with
  | nil => simp at hd
  | cons b rest =>
    simp at hd; subst hd
    cases hsp : splitOn 46 rest with
    | nil => exact absurd hsp (splitOn_ne_nil 46 rest)
    | cons p ps =>
      have hsplit : splitOn 46 (46 :: rest) = [] :: p :: ps := by simp [splitOn, hsp]
      simp [spec, labels1, hsplit, step1_nil, step2_nil, List.intercalate_cons_cons]

/-- `hDot`, as `C05.prefix_sound`, `C05.extract_*` assume it: when `idna.ToASCII` succeeds on
a name that starts with a dot, the result starts with a dot. -/
theorem hDot_model (enc dec : Bytes → Option Bytes) (s t : Bytes)
    (h : toASCII enc dec s = some t) (hd : s.head? = some 46) : t.head? = some 46 := by
  rw [toASCII_eq_spec] at h
  split at h
  · cases h
  · injection h with h
    rw [← h]; exact spec_head_dot enc dec s hd

/-- The same for the string Go returns together with an error: also the partially processed
name keeps the leading dot. -/
theorem hDot_process (enc dec : Bytes → Option Bytes) (s : Bytes) (hd : s.head? = some 46) :
    ∃ t e, process enc dec s = .ok (t, e) ∧ t.head? = some 46 :=
  ⟨_, _, process_eq_spec enc dec s, spec_head_dot enc dec s hd⟩

/-- A trailing dot (the root label) is kept as well: the last, empty label is skipped by the
iterator and `strings.Join` restores its separator. -/
theorem hTrailingDot_model (enc dec : Bytes → Option Bytes) (s t : Bytes)
    (h : toASCII enc dec s = some t) (hd : s.getLast? = some 46) : t.getLast? = some 46 := by
  rw [toASCII_eq_spec] at h
  obtain ⟨s', rfl⟩ := List.getLast?_eq_some_iff.1 hd
  split at h
  · cases h
  · injection h with h
    subst h
    have hne : (splitOn 46 s').map (fun x => (step2 enc (step1 dec x).1).1) ≠ [] := by
      simp [splitOn_ne_nil]
    have := intercalate_snoc_nil 46 _ hne
    simp only [spec, labels1, splitOn_snoc_sep, List.map_append, List.map_map, List.map_cons,
      List.map_nil, step1_nil, step2_nil, Function.comp_def] at this ⊢
    rw [this]
    simp

/-! ### what is not true of `idna.ToASCII` -/

/-- IDNA-1 cannot be extended to ASCII labels that start with `xn--`: a label whose punycode
part ends with a hyphen decodes to its ASCII part (`decode("abc-") = "abc"` in
`punycode.go`), and `idna.ToASCII("xn--abc-") = "abc"` with a nil error. -/
theorem ace_label_not_fixed (enc dec : Bytes → Option Bytes)
    (hdec : dec (ascii "abc-") = some (ascii "abc")) :
    toASCII enc dec (ascii "xn--abc-") = some (ascii "abc") := by
  rw [toASCII_eq_spec]
  have h1 : splitOn 46 (ascii "xn--abc-") = [ascii "xn--abc-"] := by rw [ascii_ofList]; decide +kernel
  have hs1 : step1 dec (ascii "xn--abc-") = (ascii "abc", false) := by
    have hp : hasPrefix (ascii "xn--abc-") acePrefix = true := by rw [ascii_ofList]; decide +kernel
    have hd : (ascii "xn--abc-").drop 4 = ascii "abc-" := by rw [ascii_ofList]; decide +kernel
    simp only [step1, hp, hd, hdec, if_true]
  have hs2 : step2 enc (ascii "abc") = (ascii "abc", false) := by
    have : isAscii (ascii "abc") = true := by rw [ascii_ofList]; decide +kernel
    simp only [step2, this, if_true]
  simp [spec, labels1, h1, hs1, hs2]

theorem step1_ace_alone (dec : Bytes → Option Bytes) (hdec : dec [] = some []) :
    step1 dec (ascii "xn--") = ([], false) := by
  have hp : hasPrefix (ascii "xn--") acePrefix = true := by rw [ascii_ofList]; decide +kernel
  have hd : (ascii "xn--").drop 4 = [] := by rw [ascii_ofList]; decide +kernel
  simp only [step1, hp, hd, hdec, if_true]

/-- `decode("") = ("", nil)`: the bare prefix is mapped to the empty label. -/
theorem ace_prefix_alone (enc dec : Bytes → Option Bytes) (hdec : dec [] = some []) :
    toASCII enc dec (ascii "xn--") = some [] := by
  rw [toASCII_eq_spec]
  have h1 : splitOn 46 (ascii "xn--") = [ascii "xn--"] := by rw [ascii_ofList]; decide +kernel
  simp [spec, labels1, h1, step1_ace_alone dec hdec, step2_nil]

/-- The converse of `hDot` is false: `idna.ToASCII("xn--.b") = ".b"` — a name that does not
start with a dot is mapped, without error, to one that does. -/
theorem leading_dot_introduced (enc dec : Bytes → Option Bytes) (hdec : dec [] = some []) :
    toASCII enc dec (ascii "xn--.b") = some (ascii ".b") := by
  rw [toASCII_eq_spec]
  have h1 : splitOn 46 (ascii "xn--.b") = [ascii "xn--", ascii "b"] := by rw [ascii_ofList]; decide +kernel
  have hb1 : step1 dec (ascii "b") = (ascii "b", false) := by
    have hp : hasPrefix (ascii "b") acePrefix = false := by rw [ascii_ofList]; decide +kernel
    simp [step1, hp]
  have hb2 : step2 enc (ascii "b") = (ascii "b", false) := by
    have : isAscii (ascii "b") = true := by rw [ascii_ofList]; decide +kernel
    simp only [step2, this, if_true]
  simp [spec, labels1, h1, step1_ace_alone dec hdec, step2_nil, hb1, hb2, List.intercalate_cons_cons]
  decide

/-! ### Non-vacuity -/

/-- an upper-case prefix is not an ACE prefix: instance of `idna1_model_strong` that
`idna1_model` does not cover -/
example (enc dec : Bytes → Option Bytes) :
    toASCII enc dec (ascii "XN--abc-.Xn--a") = some (ascii "XN--abc-.Xn--a") :=
  idna1_model_strong enc dec _ (by rw [ascii_ofList]; decide +kernel) (by rw [ascii_ofList]; decide +kernel)

example (enc dec : Bytes → Option Bytes) :
    toASCII enc dec (ascii "4.3.2.1.In-Addr.ARPA.") = some (ascii "4.3.2.1.In-Addr.ARPA.") :=
  idna1_model enc dec _ (by rw [ascii_ofList]; decide +kernel) (by rw [ascii_ofList]; decide +kernel)

/-- a non-ASCII label is encoded, the other labels and the dots stay -/
example : toASCII (fun _ => some (ascii "xn--tda")) (fun _ => none) (ascii ".a." ++ [0xc3, 0xbc] ++ ascii ".") =
    some (ascii ".a.xn--tda.") := by rw [ascii_ofList, ascii_ofList, ascii_ofList]; decide +kernel

/-- a failing `decode` is an error (and Go returns the name with the label kept) -/
example : process (fun _ => none) (fun _ => none) (ascii "a.xn---") = .ok (ascii "a.xn---", true) := by
  rw [ascii_ofList]; decide +kernel

end GolibsVerif.Idna
