/-
C20 — property theorems: part 1, `httputil.Wrap` keeps the order of the middlewares; part 2,
`LogMiddleware` keeps concurrent requests apart (models in `Model/C20.lean`, invariant in
`Lemmas/C20Inv.lean`).

All theorems of part 2 quantify over every execution `Exec inp s tr` of the transition
system: any number of requests, any interleaving of their steps, any choice of the object
a pool `Get` returns among those MEM-1 allows, any handler behaviour (`HOp` sequences,
including none or several `WriteHeader` calls and a panic), any GC of idle pool objects.
-/
import GolibsVerif.Lemmas.C20Inv

namespace GolibsVerif.C20

/-! ## The normal forms the models were written against are those of the source -/

theorem skel_httputil_wrap : Gen.C20Skel.httputilWrap = Expected.httputilWrap := rfl
theorem skel_logmw_wrap : Gen.C20Skel.logmwWrap = Expected.logmwWrap := rfl
theorem skel_new_log_middleware : Gen.C20Skel.newLogMiddleware = Expected.newLogMiddleware := rfl
theorem skel_copy_request_to : Gen.C20Skel.copyRequestTo = Expected.copyRequestTo := rfl

theorem skel_code_recorder :
    Gen.C20Skel.crwReset = Expected.crwReset ∧
    Gen.C20Skel.crwSetImplicitSuccess = Expected.crwSetImplicitSuccess ∧
    Gen.C20Skel.crwWriteHeader = Expected.crwWriteHeader ∧
    Gen.C20Skel.crwWrite = Expected.crwWrite ∧
    Gen.C20Skel.crwHeader = Expected.crwHeader := ⟨rfl, rfl, rfl, rfl, rfl⟩

theorem skel_pool :
    Gen.C20Skel.newPool = Expected.newPool ∧ Gen.C20Skel.newSlicePool = Expected.newSlicePool ∧
    Gen.C20Skel.poolGet = Expected.poolGet ∧ Gen.C20Skel.poolPut = Expected.poolPut :=
  ⟨rfl, rfl, rfl, rfl⟩

/-- The order in which the transition system performs the events of the closure returned
by `LogMiddleware.Wrap` (`pcOrder`) is Go's execution order of the regenerated normal form:
the events in sequence — every pool `Get` immediately before the first use of its object,
the attribute slice filled before the logger is derived from it — then the deferred calls
last-in-first-out: the `finished` record (which reads the recorder's code) runs before
`rwPool.Put`, which runs before `reqPool.Put`, which runs before `attrPool.Put`; and the
program counters along it never go back. -/
theorem skel_defer_order :
    normalPath (closureBody Gen.C20Skel.logmwWrap) = pcOrder.map (·.1) ∧
    (pcOrder.map (·.2.rank)).Pairwise (· ≤ ·) := by decide +kernel

/-- If the wrapped handler panics, exactly the deferred calls of the normal end run, in
the same order (the transition `serve → logFinished → putRw → putReq → putAttr` of
`stepHandler … .panic`), and nothing has been returned to a pool before the handler runs. -/
theorem skel_panic_path :
    exitAt serveLine (closureBody Gen.C20Skel.logmwWrap) =
      ((pcOrder.filter (fun p => p.2.rank ≥ PC.logFinished.rank)).map (·.1)) ∧
    (normalPath ((closureBody Gen.C20Skel.logmwWrap).takeWhile (· ≠ serveLine))).all
      (fun l => !l.startsWith "put ") = true := by
  decide +kernel

/-! ## Part 1 — `httputil.Wrap` -/

/-- an index that is a natural number in range passes Go's bounds check -/
theorem idxMw_natCast {α : Type} {ms : List α} {k : Nat} (h : k < ms.length) :
    idxMw ms (k : Int) = .ok ms[k] := by
  simp [idxMw, List.getElem?_eq_getElem h, Int.not_lt.2 (Int.natCast_nonneg k)]

private theorem wrapLoop_take {ρ ε : Type} (ms : List (Middleware ρ ε)) :
    ∀ k, k ≤ ms.length → ∀ w : Handler ρ ε,
      wrapLoop ms ((k : Int) - 1) w = .ok ((ms.take k).foldr (fun m acc => m acc) w)
  | 0, _, w => by unfold wrapLoop; rfl
  | k + 1, hk, w => by
    rw [show ((k + 1 : Nat) : Int) - 1 = k by omega]
    unfold wrapLoop
    rw [dif_pos (Int.natCast_nonneg k), idxMw_natCast hk]
    show wrapLoop ms ((k : Int) - 1) (ms[k] w) = _
    rw [wrapLoop_take ms k (Nat.le_of_lt hk), List.take_succ_eq_append_getElem hk, List.foldr_append]
    rfl

/-- `Wrap` never panics and returns the right fold: `m₁ (m₂ (… (mₙ h)))`. -/
theorem wrap_eq_foldr {ρ ε : Type} (h : Handler ρ ε) (ms : List (Middleware ρ ε)) :
    wrap h ms = .ok (ms.foldr (fun m acc => m acc) h) := by
  unfold wrap
  rw [wrapLoop_take ms ms.length (Nat.le_refl _) h, List.take_length]

/-- The middleware specified first is the outermost one: it is the first to receive the
request, whatever the middlewares do. -/
theorem wrap_first_outermost {ρ ε : Type} (h : Handler ρ ε) (m : Middleware ρ ε)
    (ms : List (Middleware ρ ε)) :
    ∃ inner, wrap h ms = .ok inner ∧ wrap h (m :: ms) = .ok (m inner) := by
  refine ⟨_, wrap_eq_foldr h ms, ?_⟩
  rw [wrap_eq_foldr]; rfl

/-- pass-through middlewares around any handler `w`: they receive the request in order, then
`w` serves it, then they return in the opposite order -/
private theorem foldr_pass {ρ : Type} (ms : List MwSpec) (hp : ∀ m ∈ ms, m.blocks = false)
    (w : Handler ρ (Ev ρ)) (r : ρ) :
    (ms.map (MwSpec.mw (ρ := ρ))).foldr (fun m acc => m acc) w r =
      ms.map (fun m => Ev.enter m.id r) ++ w r ++ ms.reverse.map (fun m => Ev.exit m.id r) := by
  induction ms with
  | nil => simp
  | cons m rest ih =>
    have hm : m.blocks = false := hp m (List.mem_cons_self ..)
    have hr := ih (fun x hx => hp x (List.mem_cons_of_mem _ hx))
    simp only [List.map_cons, List.foldr_cons, List.reverse_cons, List.map_append, List.map_nil]
    simp only [MwSpec.mw, hm, Bool.false_eq_true, if_false]
    rw [hr]
    simp

/-- For every list of pass-through middlewares, a request to
`Wrap(h, m₁…mₙ)` is received by `m₁, …, mₙ` in that order, then by `h`; the calls return in
the opposite order. -/
theorem wrap_order {ρ : Type} (ms : List MwSpec) (hp : ∀ m ∈ ms, m.blocks = false) :
    ∃ w, wrap baseHandler (ms.map (MwSpec.mw (ρ := ρ))) = .ok w ∧
      ∀ r, w r = ms.map (fun m => Ev.enter m.id r) ++ [Ev.handler r] ++
                 ms.reverse.map (fun m => Ev.exit m.id r) :=
  ⟨_, wrap_eq_foldr _ _, fun r => foldr_pass ms hp baseHandler r⟩

/-- who received the request, in order (`none` = the innermost handler) -/
def receivers {ρ : Type} : List (Ev ρ) → List (Option Nat)
  | [] => []
  | .enter id _ :: rest => some id :: receivers rest
  | .handler _ :: rest => none :: receivers rest
  | .exit _ _ :: rest => receivers rest

private theorem receivers_append {ρ : Type} (xs ys : List (Ev ρ)) :
    receivers (xs ++ ys) = receivers xs ++ receivers ys := by
  induction xs with
  | nil => rfl
  | cons x rest ih => cases x <;> simp [receivers, ih]

/-- the literal form of the property: `trace (wrap h [m₁…mₙ]) = m₁, …, mₙ, h` -/
theorem wrap_order_receivers {ρ : Type} (ms : List MwSpec) (hp : ∀ m ∈ ms, m.blocks = false) :
    ∃ w, wrap baseHandler (ms.map (MwSpec.mw (ρ := ρ))) = .ok w ∧
      ∀ r, receivers (w r) = ms.map (fun m => some m.id) ++ [none] := by
  obtain ⟨w, hw, htr⟩ := wrap_order (ρ := ρ) ms hp
  refine ⟨w, hw, fun r => ?_⟩
  rw [htr r, receivers_append, receivers_append]
  have h1 : ∀ l : List MwSpec, receivers (l.map (fun m => Ev.enter m.id r)) = l.map (fun m => some m.id) := by
    intro l; induction l <;> simp_all [receivers]
  have h2 : ∀ l : List MwSpec, receivers (l.map (fun m => Ev.exit m.id r)) = [] := by
    intro l; induction l <;> simp_all [receivers]
  rw [h1, h2]; simp [receivers]

/-- A middleware that answers itself stops the request there: the ones before it receive
it in order, the ones after it and the handler never do. -/
theorem wrap_block {ρ : Type} (pre post : List MwSpec) (b : MwSpec)
    (hp : ∀ m ∈ pre, m.blocks = false) (hb : b.blocks = true) :
    ∃ w, wrap baseHandler ((pre ++ b :: post).map (MwSpec.mw (ρ := ρ))) = .ok w ∧
      ∀ r, w r = pre.map (fun m => Ev.enter m.id r) ++ [Ev.enter b.id r, Ev.exit b.id r] ++
                 pre.reverse.map (fun m => Ev.exit m.id r) := by
  refine ⟨_, wrap_eq_foldr _ _, fun r => ?_⟩
  rw [List.map_append, List.foldr_append, foldr_pass pre hp]
  simp [MwSpec.mw, hb]

/-- `Wrap(h)` with no middlewares is `h` itself: it never panics and serves
every request exactly as `h` does. -/
theorem wrap_nil {ρ ε : Type} (h : Handler ρ ε) :
    wrap h [] = .ok h ∧ ∃ w, wrap h [] = .ok w ∧ ∀ r, w r = h r :=
  ⟨wrap_eq_foldr h [], h, wrap_eq_foldr h [], fun _ => rfl⟩

/-- `Wrap(Wrap(h, ms₂...), ms₁...)` is `Wrap(h, ms₁..., ms₂...)`: neither
call panics, and the two handlers are the same function of the request — for every handler
and all lists of middlewares, whatever the middlewares do (pass the request on, answer
themselves, call the next handler several times). -/
theorem wrap_wrap {ρ ε : Type} (h : Handler ρ ε) (ms₁ ms₂ : List (Middleware ρ ε)) :
    ∃ w₂ w, wrap h ms₂ = .ok w₂ ∧ wrap w₂ ms₁ = .ok w ∧ wrap h (ms₁ ++ ms₂) = .ok w ∧
      (wrap h ms₂ >>= fun w₂ => wrap w₂ ms₁) = wrap h (ms₁ ++ ms₂) := by
  refine ⟨_, _, wrap_eq_foldr h ms₂, wrap_eq_foldr _ ms₁, ?_, ?_⟩
  · rw [wrap_eq_foldr, List.foldr_append]
  · rw [wrap_eq_foldr h ms₂, wrap_eq_foldr h (ms₁ ++ ms₂), List.foldr_append]
    show wrap _ ms₁ = _
    rw [wrap_eq_foldr]

/-- `wrap_wrap` for the recording middlewares of the order experiment, blocking ones
included: the same events in the same order — so the same middlewares receive the request in
the same order and the handler is reached in the one exactly when it is reached in the
other. -/
theorem wrap_wrap_trace {ρ : Type} (ms₁ ms₂ : List MwSpec) :
    ∃ w₂ w₁₂ w, wrap baseHandler (ms₂.map (MwSpec.mw (ρ := ρ))) = .ok w₂ ∧
      wrap w₂ (ms₁.map (MwSpec.mw (ρ := ρ))) = .ok w₁₂ ∧
      wrap baseHandler ((ms₁ ++ ms₂).map (MwSpec.mw (ρ := ρ))) = .ok w ∧
      ∀ r, w₁₂ r = w r ∧ receivers (w₁₂ r) = receivers (w r) := by
  obtain ⟨w₂, w, h2, h1, h12, _⟩ :=
    wrap_wrap (baseHandler (ρ := ρ)) (ms₁.map MwSpec.mw) (ms₂.map MwSpec.mw)
  refine ⟨w₂, w, w, h2, h1, ?_, fun r => ⟨rfl, rfl⟩⟩
  rw [List.map_append]; exact h12

/-! ### Non-vacuity of `wrap_wrap`: a concrete split, with and without a blocking middleware -/

example : ∃ w₂ w, wrap (baseHandler (ρ := Nat)) ([⟨3, false⟩].map MwSpec.mw) = .ok w₂ ∧
    wrap w₂ ([⟨1, false⟩, ⟨2, false⟩].map MwSpec.mw) = .ok w ∧
    w 7 = [.enter 1 7, .enter 2 7, .enter 3 7, .handler 7, .exit 3 7, .exit 2 7, .exit 1 7] :=
  ⟨_, _, wrap_eq_foldr _ _, wrap_eq_foldr _ _, by decide⟩

-- the blocking middleware is in the inner `Wrap`: the outer ones still see the request,
-- the handler does not
example : ∃ w₂ w, wrap (baseHandler (ρ := Nat)) ([⟨2, true⟩, ⟨3, false⟩].map MwSpec.mw) = .ok w₂ ∧
    wrap w₂ ([⟨1, false⟩].map MwSpec.mw) = .ok w ∧
    w 7 = [.enter 1 7, .enter 2 7, .exit 2 7, .exit 1 7] ∧ receivers (w 7) = [some 1, some 2] :=
  ⟨_, _, wrap_eq_foldr _ _, wrap_eq_foldr _ _, by decide, by decide⟩

/-! ## Part 2 — `LogMiddleware` under concurrency -/

section
variable {inp : Rid → ReqData} {s s' : St} {tr : List Obs} {a : Act}

/-- Every observation of every execution is the right one given what was observed before
it (`ObsOk` spells out: own request, own attributes, own client, own code). -/
theorem trace_ok (h : Exec inp s tr) (pre post : List Obs) (o : Obs) (ht : tr = pre ++ o :: post) :
    ObsOk inp pre o := by
  induction h generalizing post with
  | init => simp at ht
  | step hex hs ih =>
    rcases List.eq_nil_or_concat post with rfl | ⟨post', x, rfl⟩
    · obtain ⟨rfl, h1⟩ := List.append_inj' ht rfl
      cases h1
      exact step_obs_ok (exec_inv hex) hs
    · have ht' : _ = (pre ++ o :: post') ++ [x] := ht.trans (by simp)
      exact ih post' (List.append_inj_left' ht' rfl)

/-- In every reachable state no pooled object is held by two
requests, and no held object is idle in its pool (so `Get` cannot hand it out again) —
for each of the three pools. -/
theorem pool_exclusive (h : Exec inp s tr) :
    (∀ i j o, ownedA s.th i = some o → ownedA s.th j = some o → i = j) ∧
    (∀ i j o, ownedQ s.th i = some o → ownedQ s.th j = some o → i = j) ∧
    (∀ i j o, ownedW s.th i = some o → ownedW s.th j = some o → i = j) ∧
    (∀ i o, ownedA s.th i = some o → o ∉ s.pA.free) ∧
    (∀ i o, ownedQ s.th i = some o → o ∉ s.pQ.free) ∧
    (∀ i o, ownedW s.th i = some o → o ∉ s.pW.free) := by
  obtain ⟨hA, hQ, hW⟩ := (exec_inv h).pools
  exact ⟨hA.excl, hQ.excl, hW.excl, hA.own_nfree, hQ.own_nfree, hW.own_nfree⟩

/-- Whenever the wrapped handler of request `i` looks at the request
it was given, it finds request `i`'s own data (all of it: `rest` stands for URL, headers,
body and context values) and a context logger carrying `i`'s four attributes. -/
theorem sees_own_request (h : Exec inp s tr) {i : Rid} {d : Option ReqData} {la : List Attr}
    (hs : step inp s a = some (s', .seen i d la)) :
    d = some (inp i) ∧ la = attrsOf (inp i) :=
  step_obs_ok (exec_inv h) hs

/-- Every record emitted for request `i` — "started", anything
the handler logs through the context logger, "finished" — carries host, method, raddr and
request_uri of request `i`, even though the logger reads them from a pooled slice. -/
theorem logger_has_own_attrs (h : Exec inp s tr) {i : Rid} {la : List Attr} {o : Obs}
    (hs : step inp s a = some (s', o))
    (ho : o = .started i la ∨ o = .hlog i la ∨ ∃ c, o = .finished i la c) :
    la = [("host", (inp i).host), ("method", (inp i).method), ("raddr", (inp i).raddr),
          ("request_uri", (inp i).uri)] := by
  have hok := step_obs_ok (exec_inv h) hs
  rcases ho with rfl | rfl | ⟨c, rfl⟩
  · exact hok
  · exact hok
  · exact hok.1

/-- The "finished" record of request `i` reports the code of the last
`WriteHeader` call made by *that* invocation of the handler, 200 if it made none (and, as
`cmp.Or` has it, if it set 0); if the handler panicked, `SetImplicitSuccess` was skipped and
the code is the one set so far (0 if none).  The code is read while request `i` still
holds its response-writer wrapper (`finished_before_put`). -/
theorem finished_code (h : Exec inp s tr) {i : Rid} {la : List Attr} {c : Nat}
    (hs : step inp s a = some (s', .finished i la c)) :
    c = (if hasPanicked i tr then (lastHeader i tr).getD 0
         else if (lastHeader i tr).getD 0 = 0 then 200 else (lastHeader i tr).getD 0) := by
  have hok := (step_obs_ok (exec_inv h) hs).2
  simpa [finCode, cmpOr] using hok

/-- the reading used in the property text: a handler that returns normally and set a
non-zero code `c` last gets `c`; one that set nothing gets 200 -/
theorem finished_code_set (h : Exec inp s tr) {i : Rid} {la : List Attr} {c : Nat}
    (hs : step inp s a = some (s', .finished i la c)) (hp : hasPanicked i tr = false) :
    (∀ c', lastHeader i tr = some c' → c' ≠ 0 → c = c') ∧ (lastHeader i tr = none → c = 200) := by
  have hc := finished_code h hs
  rw [hp] at hc
  constructor
  · intro c' hl hne; simp [hl, hne] at hc; exact hc
  · intro hl; simp [hl] at hc; exact hc

/-- the "finished" record is emitted, and the code read, while the request still holds its
response-writer wrapper, its request copy and its attribute slice (defer order): the step
that emits it is taken from a state in which all three are owned, and the code is the one
stored in the owned wrapper -/
theorem finished_before_put {i : Rid} {la : List Attr} {c : Nat}
    (hst : step inp s a = some (s', .finished i la c)) :
    ownedW s.th i = some (s.th i).w ∧ ownedQ s.th i = some (s.th i).q ∧
    ownedA s.th i = some (s.th i).a ∧ c = (s.mW (s.th i).w).code := by
  cases a with
  | tick j =>
    simp only [step, stepTick] at hst
    cases hpc : (s.th j).pc <;> simp only [hpc] at hst
    case logFinished =>
      cases hst
      simp [ownedW, ownedQ, ownedA, hpc, holdsW, holdsQ, holdsA]
    case fillAttr => split at hst <;> cases hst
    all_goals cases hst
  | arrive j =>
    simp only [step] at hst
    split at hst <;> cases hst
  | get j ob =>
    simp only [step, stepGet] at hst
    split at hst <;> simp at hst
  | handler j op =>
    simp only [step, stepHandler] at hst
    split at hst
    · cases op <;> cases hst
    · cases hst
  | gc p ob =>
    simp only [step, stepGc] at hst
    cases p <;> simp at hst

/-- One step: whatever the handler of request `i` writes —
a header code or a body chunk — goes through a wrapper that points at client `i`. -/
theorem write_goes_to_own_client (h : Exec inp s tr) {i : Rid} {cl : Option Rid} {o : Obs}
    (hs : step inp s a = some (s', o)) (ho : (∃ c, o = .wroteHeader i cl c) ∨ ∃ b, o = .wrote i cl b) :
    cl = some i := by
  have hok := step_obs_ok (exec_inv h) hs
  rcases ho with ⟨c, rfl⟩ | ⟨b, rfl⟩ <;> exact hok

/-- every observation of an execution is the right one given some prefix of the trace -/
theorem obs_ok_of_mem (h : Exec inp s tr) {o : Obs} (hm : o ∈ tr) : ∃ pre, ObsOk inp pre o := by
  obtain ⟨pre, post, rfl⟩ := List.append_of_mem hm
  exact ⟨pre, trace_ok h pre post o rfl⟩

/-- the middleware itself never panics at run time: the pooled slices always have
`logMwAttrNum` elements, so `attrs[logMwAttrNum-1]` is in range -/
theorem no_runtime_panic (h : Exec inp s tr) {i : Rid} : Obs.goPanic i ∉ tr :=
  fun hm => (obs_ok_of_mem h hm).elim fun _ hf => hf

end

/-! ### The same facts about whole traces -/

section
variable {inp : Rid → ReqData} {s : St} {tr : List Obs}

/-- a trace whose writes all went to the writer's own client: what a client received is what
its request's handler wrote -/
theorem received_eq_written (j : Rid) :
    ∀ l : List Obs, (∀ o ∈ l, ∃ pre, ObsOk inp pre o) → received j l = written j l
  | [], _ => rfl
  | o :: rest, H => by
    have ih := received_eq_written j rest fun o ho => H o (List.mem_cons_of_mem _ ho)
    obtain ⟨pre, hok⟩ := H o (List.mem_cons_self ..)
    cases o with
    | wroteHeader i cl c => cases (hok : cl = some i); simp only [received, written, Option.some.injEq, ih]
    | wrote i cl b => cases (hok : cl = some i); simp only [received, written, Option.some.injEq, ih]
    | _ => simpa [received, written] using ih

/-- In every execution, what client `j` receives (header
codes and body chunks, in order) is exactly what the handler invocation of request `j`
wrote: nothing is lost to another client and nothing of another request arrives. -/
theorem client_gets_own_writes (h : Exec inp s tr) (j : Rid) : received j tr = written j tr :=
  received_eq_written j tr fun _ => obs_ok_of_mem h

/-- On traces: the code in a "finished" record is determined by the
`WriteHeader` calls of the same request that precede it in the trace. -/
theorem finished_code_trace (h : Exec inp s tr) (pre post : List Obs) (i : Rid) (la : List Attr) (c : Nat)
    (ht : tr = pre ++ Obs.finished i la c :: post) :
    la = attrsOf (inp i) ∧ c = finCode (lastHeader i pre) (hasPanicked i pre) :=
  trace_ok h pre post _ ht

/-- the executable `run` only produces executions -/
theorem run_exec {s0 : St} {tr0 : List Obs} (h0 : Exec inp s0 tr0) :
    ∀ (acts : List Act) (s1 : St) (os : List Obs), run inp s0 acts = some (s1, os) → Exec inp s1 (tr0 ++ os) := by
  intro acts
  induction acts generalizing s0 tr0 with
  | nil =>
    intro s1 os hr
    simp only [run, Option.some.injEq, Prod.mk.injEq] at hr
    obtain ⟨rfl, rfl⟩ := hr
    simpa using h0
  | cons a rest ih =>
    intro s1 os hr
    simp only [run] at hr
    split at hr
    · simp at hr
    · next s' o hst =>
      simp only [Option.map_eq_some_iff] at hr
      obtain ⟨⟨s'', os'⟩, hrun, heq⟩ := hr
      simp only [Prod.mk.injEq] at heq
      obtain ⟨rfl, rfl⟩ := heq
      have := ih (Exec.step h0 hst) s'' os' hrun
      simpa using this

end

/-! ## The hypotheses are satisfiable -/

def exInp : Rid → ReqData := fun i =>
  if i = 0 then ⟨[97], [71], [1], [47], [10]⟩ else ⟨[98], [80], [2], [47, 120], [20]⟩

/-- Request 0 runs to the end and returns its objects; request 1 then reuses all three of
them (objects `0`), sets 404 and writes; request 2 overlaps with 1, gets fresh objects
and sets nothing. -/
def exSchedule : List Act := [
  .arrive 0, .get 0 0, .tick 0, .tick 0, .get 0 0, .tick 0, .get 0 0, .tick 0, .tick 0,
  .handler 0 .observe, .handler 0 (.writeHeader 201), .handler 0 .ret,
  .tick 0, .tick 0, .tick 0, .tick 0, .tick 0,
  .arrive 1, .get 1 0, .tick 1, .tick 1, .get 1 0, .tick 1, .get 1 0, .tick 1, .tick 1,
  .arrive 2, .get 2 1, .tick 2, .tick 2, .get 2 1, .tick 2, .get 2 1, .tick 2, .tick 2,
  .handler 1 .observe, .handler 2 .observe, .handler 1 (.writeHeader 404), .handler 2 (.write [1]),
  .handler 1 (.write [7]), .handler 2 .ret, .handler 1 .ret,
  .tick 2, .tick 1, .tick 2, .tick 1, .tick 1, .tick 2, .tick 2, .tick 1, .tick 2, .tick 1]

example : ((run exInp init exSchedule).map (·.2)).map (fun os => os.filter (· ≠ .silent)) = some [
    .started 0 (attrsOf (exInp 0)), .seen 0 (some (exInp 0)) (attrsOf (exInp 0)),
    .wroteHeader 0 (some 0) 201, .finished 0 (attrsOf (exInp 0)) 201,
    .started 1 (attrsOf (exInp 1)), .started 2 (attrsOf (exInp 2)),
    .seen 1 (some (exInp 1)) (attrsOf (exInp 1)), .seen 2 (some (exInp 2)) (attrsOf (exInp 2)),
    .wroteHeader 1 (some 1) 404, .wrote 2 (some 2) [1], .wrote 1 (some 1) [7],
    .finished 2 (attrsOf (exInp 2)) 200, .finished 1 (attrsOf (exInp 1)) 404] := by
  decide +kernel

example : ∀ m ∈ [MwSpec.mk 3 false, ⟨1, false⟩, ⟨2, false⟩], m.blocks = false := by decide

end GolibsVerif.C20
