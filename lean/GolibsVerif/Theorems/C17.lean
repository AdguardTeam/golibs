/-
C17 — property theorems for `syncutil.OnceConstructor` and `syncutil.ChanSemaphore`
(transition systems in `Model/C17.lean`, inductive invariant in `Lemmas/C17.lean`).
Every theorem quantifies over all reachable states, i.e. over every interleaving of any
number of invocations with any key assignment and any values returned by the constructor.
-/
import GolibsVerif.Lemmas.C17Monitor
import GolibsVerif.Gen.SyncC17

namespace GolibsVerif.C17

variable {K V : Type} [DecidableEq K]

/-! ## The code is still the code the model was written after

The left-hand sides are regenerated from the Go source on every check. -/

theorem skel_newOnceConstructor : Gen.SyncC17.newOnceConstructor = Expected.newOnceConstructor := rfl
theorem skel_onceGet : Gen.SyncC17.onceGet = Expected.onceGet := rfl
theorem skel_newChanSemaphore : Gen.SyncC17.newChanSemaphore = Expected.newChanSemaphore := rfl
theorem skel_semaAcquire : Gen.SyncC17.semaAcquire = Expected.semaAcquire := rfl
theorem skel_semaRelease : Gen.SyncC17.semaRelease = Expected.semaRelease := rfl

/-! ## OnceConstructor -/

/-- In every reachable state: the constructor has been invoked at most once per key; the token
of every `done` channel has been received (`ok = true`) at most once; every value returned by
`Get(k)` is the `cached` variable of the one loader stored for `k`, and it has been assigned
(it is not the zero value); no invocation has panicked (no send on / close of a closed channel). -/
theorem once_inv {s : OState K V} (h : Reachable s) :
    (∀ k, s.ctorCalls k ≤ 1) ∧
    (∀ l, s.taken l ≤ 1) ∧
    (∀ t k r, s.pc t = .done k r → ∃ l v, s.stored k = some l ∧ s.cached l = some v ∧ r = some v) ∧
    (∀ t k, s.pc t ≠ .panicked k) := by
  have inv := reachable_inv h
  refine ⟨?_, ?_, ?_, inv.noPanic⟩
  · intro k
    cases hst : s.stored k with
    | none => have := inv.unstored k hst; omega
    | some l =>
      -- in each phase of the stored loader the constructor has run at most once
      cases inv.phase hst with
      | full _ _ _ hcc | closed _ _ _ hcc => omega
      | held w _ _ _ hw _ hok =>
        rcases PC.holds_cases hw with hp | hp | hp <;> simp only [hp, HeldOk] at hok <;> omega
  · intro l
    by_cases hs : ∃ k, s.stored k = some l
    · obtain ⟨k, hk⟩ := hs
      have := inv.token k l hk; omega
    · have := inv.takenStored l (fun k hk => hs ⟨k, hk⟩); omega
  · intro t k r hp
    obtain ⟨l, hst, hc, hr⟩ := inv.atDone t k r hp
    have hsome := (inv.closed k l hst hc).2
    cases hv : s.cached l with
    | none => simp [hv] at hsome
    | some v => exact ⟨l, v, hst, hv, by rw [hr, hv]⟩

/-- Every caller receives the single result: two invocations of `Get(k)` that have returned
have returned the same value. -/
theorem once_same_result {s : OState K V} (h : Reachable s) {t₁ t₂ : Nat} {k : K} {r₁ r₂ : Option V}
    (h₁ : s.pc t₁ = .done k r₁) (h₂ : s.pc t₂ = .done k r₂) : r₁ = r₂ := by
  obtain ⟨_, _, hd, _⟩ := once_inv h
  obtain ⟨l₁, v₁, hs₁, hc₁, rfl⟩ := hd t₁ k r₁ h₁
  obtain ⟨l₂, v₂, hs₂, hc₂, rfl⟩ := hd t₂ k r₂ h₂
  rw [hs₁] at hs₂
  cases hs₂
  rw [hc₁] at hc₂
  exact hc₂

/-- If some `Get(k)` has returned, the constructor has been invoked exactly once for `k`. -/
theorem once_exactly_once {s : OState K V} (h : Reachable s) {t : Nat} {k : K} {r : Option V}
    (hd : s.pc t = .done k r) : s.ctorCalls k = 1 := by
  have inv := reachable_inv h
  obtain ⟨l, hst, hc, _⟩ := inv.atDone t k r hd
  exact (inv.closed k l hst hc).1

/-- `cached` is read (`return cached`) only after the `done` channel has been closed, and it is
written only by the unique holder of the token while the channel is still open: with MEM-1
(close happens-before a receive that observes it) the accesses to `cached` do not race. -/
theorem once_read_after_close {s : OState K V} (h : Reachable s) {t : Nat} {k : K} {l : Nat} :
    (s.pc t = .readCached k l → (s.chan l).closed = true ∧ (s.cached l).isSome = true) ∧
    (s.pc t = .inCtor k l → (s.chan l).closed = false ∧
      ∀ t', (s.pc t').holds = some (k, l) → t' = t) := by
  have inv := reachable_inv h
  constructor
  · intro hp
    have hc := inv.atRead t k l hp
    have hst := inv.usesStored t k l (by simp [hp, PC.uses])
    exact ⟨hc, (inv.closed k l hst hc).2⟩
  · intro hp
    have hh : (s.pc t).holds = some (k, l) := by simp [hp, PC.holds]
    exact ⟨(inv.holds t k l hh).2, fun t' ht' => inv.holdsUnique t' t k l ht' hh⟩

/-! ### No cross-key blocking -/

/-- No transition of an invocation working on key `k` is disabled by the state of another key:
whether `t` can step is a function of its own program counter and of the `k`-part of the state
alone.  (`s₂` is arbitrary: everything that belongs to other keys — map entries, channels,
cached values, constructions in progress, other invocations — may differ in any way.) -/
theorem once_no_cross_block [Inhabited K] [Inhabited V] {s₁ s₂ : OState K V} (h₁ : Reachable s₁)
    {t : Nat} {k : K} (hk : (s₁.pc t).key = some k) (hpc : s₁.pc t = s₂.pc t)
    (hag : AgreeOn k s₁ s₂) : Enabled s₁ t ↔ Enabled s₂ t := by
  have inv := reachable_inv h₁
  rw [enabled_iff_canStep, enabled_iff_canStep]
  unfold canStep
  rw [← hpc]
  cases hp : s₁.pc t with
  | send k' =>
    have : s₁.chan t = s₂.chan t := hag.2 t hk
    simp only [this]
  | recv k' l =>
    have hst := inv.usesStored t k' l (by simp [hp, PC.uses])
    have hkl := (inv.storedWf k' l hst).1
    have : k' = k := by simpa [hp, PC.key] using hk
    subst this
    have : s₁.chan l = s₂.chan l := hag.2 l hkl
    simp only [this]
  | _ => simp

/-- The only way an invocation of `Get(k)` that has not returned can be blocked is the receive
on the `done` channel of `k`'s own loader while another invocation *of the same key* holds the
token (it is between the successful receive and `close(done)`, i.e. constructing `k`), and
that holder is itself able to step.  A slow construction of `k' ≠ k` therefore never blocks
`Get(k)`. -/
theorem once_blocked_only_by_own_key [Inhabited K] [Inhabited V] {s : OState K V} (h : Reachable s)
    {t : Nat} {k : K} (hk : (s.pc t).key = some k) (hnd : ∀ r, s.pc t ≠ .done k r)
    (hbl : ¬ Enabled s t) :
    ∃ l h', s.pc t = .recv k l ∧ (s.pc h').holds = some (k, l) ∧ (s.pc h').key = some k ∧
      Enabled s h' := by
  have inv := reachable_inv h
  rw [enabled_iff_canStep] at hbl
  unfold canStep at hbl
  cases hp : s.pc t with
  | send k' =>
    have := (inv.atSend t k' hp).1
    simp [hp, this] at hbl
  | recv k' l =>
    have : k' = k := by simpa [hp, PC.key] using hk
    subst this
    simp only [hp, not_or, Nat.not_lt, Nat.le_zero_eq, Bool.not_eq_true] at hbl
    have hst := inv.usesStored t k' l (by simp [hp, PC.uses])
    obtain ⟨w, hw⟩ := inv.holder k' l hst hbl.1 hbl.2
    refine ⟨l, w, rfl, hw, ?_, ?_⟩
    · cases hpw : s.pc w <;> simp_all [PC.holds, PC.key]
    · rw [enabled_iff_canStep]; unfold canStep
      cases hpw : s.pc w <;> simp_all [PC.holds]
  | done k' r =>
    have : k' = k := by simpa [hp, PC.key] using hk
    subst this
    exact absurd hp (hnd r)
  | panicked k' => exact absurd hp (inv.noPanic t k')
  | _ => simp [hp] at hbl

/-! ### The acceptor for observed `Get` histories -/

/-- Soundness of a rejection: every observable trace of the transition system (any number of
invocations, any interleaving, any constructor results) is accepted by the monitor.  So a
history recorded from the real code that `acceptsOnce` rejects is a behaviour the model cannot
exhibit. -/
theorem once_trace_accepted [DecidableEq V] {es : List (Ev K V)} {s : OState K V}
    (ht : Trace (OState.init : OState K V) es s) : acceptsOnce es = true := by
  obtain ⟨m, hm, _⟩ := trace_sim ht
  simp [acceptsOnce, hm]

/-- What an accepted history satisfies (the property read on the observed events): the
constructor started at most once per key, and all values returned for one key are equal and
are a value the constructor produced. -/
theorem once_accepted_sat [DecidableEq V] {es : List (Ev K V)} (h : acceptsOnce es = true) :
    (∀ k, es.countP (Ev.isStart k) ≤ 1) ∧
    (∀ t₁ t₂ k r₁ r₂, Ev.ret t₁ k r₁ ∈ es → Ev.ret t₂ k r₂ ∈ es → r₁ = r₂ ∧ r₁.isSome = true) := by
  unfold acceptsOnce at h
  rw [Option.isSome_iff_exists] at h
  obtain ⟨m, hm⟩ := h
  constructor
  · intro k
    have := mrun_starts hm k
    have h0 : ((MState.init : MState K V).ph k).started = 0 := rfl
    have h1 : (m.ph k).started ≤ 1 := by cases m.ph k <;> simp [MPh.started]
    omega
  · intro t₁ t₂ k r₁ r₂ h₁ h₂
    obtain ⟨v₁, rfl, hb₁⟩ := mrun_rets hm h₁
    obtain ⟨v₂, rfl, hb₂⟩ := mrun_rets hm h₂
    rw [hb₁] at hb₂
    cases hb₂
    simp

/-! ### Non-vacuity (OnceConstructor) -/

/-- two invocations of `Get(7)`; the second arrives while the first is inside the constructor -/
example : acceptsOnce (K := Nat) (V := Nat)
    [.call 0 7, .ctorStart 7, .call 1 7, .ctorEnd 7 42, .ret 1 7 (some 42), .ret 0 7 (some 42)] = true := by
  decide

/-- a second construction of the same key is rejected -/
example : acceptsOnce (K := Nat) (V := Nat)
    [.call 0 7, .call 1 7, .ctorStart 7, .ctorStart 7] = false := by decide

/-- a `done` state is reachable: the hypotheses of `once_exactly_once` are satisfiable -/
example : ∃ s : OState Nat Nat, Reachable s ∧ s.pc 0 = .done 7 (some 42) := by
  refine ⟨_, runSteps_reachable .init
    [(0, .call 7), (0, .tau), (0, .tau), (0, .tau), (0, .tau), (0, .tau), (0, .tau), (0, .ctorRet 42),
     (0, .tau), (0, .tau)] rfl, ?_⟩
  rfl

/-- a blocked state is reachable: invocation 1 waits on the channel while 0 is in the constructor
(the hypotheses of `once_blocked_only_by_own_key` are satisfiable) -/
example : ∃ s : OState Nat Nat, Reachable s ∧ s.pc 1 = .recv 7 0 ∧ s.pc 0 = .inCtor 7 0 ∧
    next s 1 .tau = none := by
  refine ⟨_, runSteps_reachable .init
    [(0, .call 7), (1, .call 7), (0, .tau), (0, .tau), (0, .tau), (0, .tau), (0, .tau), (0, .tau),
     (1, .tau)] rfl, ?_, ?_, ?_⟩ <;> rfl

/-! ## ChanSemaphore -/

/-- The counters of a semaphore in one invariant: occupancy against capacity and against the
ghost counters, and, under disciplined use, no `Release` on an empty channel. -/
theorem sema_inv {cap : Nat} {disc : Bool} {s : SState} (h : SReach cap disc s) :
    (s.cap = cap ∧ s.c ≤ cap ∧ s.c + s.rel = s.acq + s.relNoop ∧ s.relNoop ≤ s.rel) ∧
    (disc = true → s.relNoop = 0) := by
  induction h with
  | init => simp [SState.init]
  | step _ hd hn ih =>
    obtain ⟨⟨h1, h2, h3, h4⟩, h5⟩ := ih
    cases SStep.of_snext hn with
    | releaseNoop _ hc =>
      -- a disciplined `Release` has an unmatched `Acquire` before it, so the channel is not empty
      refine ⟨by simp only; omega, fun hdisc => ?_⟩
      have := hd hdisc rfl
      have := h5 hdisc
      omega
    | _ => exact ⟨by simp only; omega, h5⟩

/-- In every reachable state of a semaphore made by `NewChanSemaphore(cap)` — disciplined use or
not — the channel occupancy is at most `cap`, and it equals the number of successful `Acquire`s
minus the number of `Release`s that actually removed an element. -/
theorem sema_bound {cap : Nat} {disc : Bool} {s : SState} (h : SReach cap disc s) :
    s.cap = cap ∧ s.c ≤ cap ∧ s.c + s.rel = s.acq + s.relNoop ∧ s.relNoop ≤ s.rel :=
  (sema_inv h).1

/-- Under disciplined use (every `Release` call pairs with an earlier successful `Acquire`) no
`Release` ever takes the `default` branch, and the number of successful `Acquire`s outstanding
(`acq - rel`) is exactly the channel occupancy, hence never more than `cap`. -/
theorem sema_bound_outstanding {cap : Nat} {s : SState} (h : SReach cap true s) :
    s.relNoop = 0 ∧ s.rel ≤ s.acq ∧ s.acq - s.rel = s.c ∧ s.acq - s.rel ≤ cap := by
  obtain ⟨⟨h1, h2, h3, h4⟩, h5⟩ := sema_inv h
  have := h5 rfl
  omega

/-- `Acquire` returns an error only through the `<-ctx.Done()` case: at the very step at which it
returns the error, the context is done.  (Holds in every state, reachable or not.) -/
theorem acquire_err_only_if_done {s s' : SState} {t : Nat} (hn : snext s (.acqErr t) = some s') :
    ∃ ctx, s.pc t = .acquiring ctx ∧ s.done ctx = true := by
  cases SStep.of_snext hn with
  | acqErr hpc hd => exact ⟨_, hpc, hd⟩

/-- "…returns the context's error once the context is done while no slot is free": when the
context is done and the buffer is full, returning nil is *not* enabled and returning the error
*is* enabled — the error is the only way `Acquire` can return by itself. -/
theorem acquire_done_full_errs {s : SState} {t ctx : Nat} (hpc : s.pc t = .acquiring ctx)
    (hd : s.done ctx = true) (hfull : s.c = s.cap) :
    snext s (.acqOk t) = none ∧ (snext s (.acqErr t)).isSome = true := by
  simp [snext, hpc, hd, hfull]

/-- A parked `Acquire` returns on the cancellation of ITS OWN context, whoever else is parked: from
any state in which `t` waits with context `ctx` on a full semaphore, "cancel `ctx`" followed by "`t`
returns the error" is a run of the system, it leaves `t` idle, and it moves no other thread and
no other context — no hypothesis about the other waiters (their number, their contexts, the order
in which they arrived) is needed.  (Under the seeded change C17-P the waiters queue behind a
mutex and only the head of the queue can return.) -/
theorem acquire_own_cancel_returns {s : SState} {t ctx : Nat} (hpc : s.pc t = .acquiring ctx) :
    ∃ s₁ s₂, snext s (.cancel ctx) = some s₁ ∧ snext s₁ (.acqErr t) = some s₂ ∧ s₂.pc t = .idle ∧
      (∀ t', t' ≠ t → s₂.pc t' = s.pc t') ∧ (∀ c', c' ≠ ctx → s₂.done c' = s.done c') ∧ s₂.c = s.c := by
  refine ⟨{ s with done := upd s.done ctx true },
    { s with done := upd s.done ctx true, pc := upd s.pc t .idle }, ?_, ?_, ?_, ?_, ?_, ?_⟩
  · simp [snext]
  · simp [snext, hpc, upd]
  · simp [upd]
  · intro t' ht'; simp [upd, ht']
  · intro c' hc'; simp [upd, hc']
  · rfl

example : ∃ s : SState, s.pc 1 = .acquiring 3 ∧ s.pc 0 = .acquiring 2 ∧ s.c = s.cap :=
  ⟨{ SState.init 0 with pc := fun t => if t = 0 then .acquiring 2 else if t = 1 then .acquiring 3 else .idle },
    by simp, by simp, by simp [SState.init]⟩

/-- When the context is done *and* a slot is free both `select` cases are ready and Go picks
one pseudo-randomly: the model allows both outcomes, so nothing more than
`acquire_err_only_if_done` can be promised in that situation. -/
theorem acquire_done_free_either {s : SState} {t ctx : Nat} (hpc : s.pc t = .acquiring ctx)
    (hd : s.done ctx = true) (hfree : s.c < s.cap) :
    (snext s (.acqOk t)).isSome = true ∧ (snext s (.acqErr t)).isSome = true := by
  simp [snext, hpc, hd, hfree]

/-- `Acquire` is blocked (neither case of its `select` is ready) exactly when the buffer is full
and the context is not done. -/
theorem acquire_blocked_iff {s : SState} {t ctx : Nat} (hpc : s.pc t = .acquiring ctx) :
    (snext s (.acqOk t) = none ∧ snext s (.acqErr t) = none) ↔ (¬ s.c < s.cap ∧ s.done ctx = false) := by
  simp [snext, hpc]

/-- a context that is done stays done -/
theorem done_monotone {s s' : SState} {l : SLabel} (hn : snext s l = some s') {ctx : Nat}
    (hd : s.done ctx = true) : s'.done ctx = true := by
  cases SStep.of_snext hn with
  | cancel c => simp only [upd_apply]; split <;> simp [hd]
  | _ => exact hd

/-- `Release` never blocks: a goroutine that is not inside `Acquire` always has the `release`
step enabled, whatever the state (nothing held, full, empty, capacity 0).  When the buffer is
empty the `default` branch runs and the call is a no-op: occupancy, program counters and
contexts are unchanged. -/
theorem release_enabled {s : SState} {t : Nat} (hpc : s.pc t = .idle) :
    ∃ s', snext s (.release t) = some s' ∧ s'.c = s.c - 1 ∧ s'.cap = s.cap ∧ s'.pc = s.pc ∧
      s'.done = s.done := by
  by_cases h : 0 < s.c
  · exact ⟨{ s with c := s.c - 1, rel := s.rel + 1 }, by simp only [snext, hpc, h, if_true],
      rfl, rfl, rfl, rfl⟩
  · refine ⟨{ s with rel := s.rel + 1, relNoop := s.relNoop + 1 },
      by simp only [snext, hpc, h, if_false], ?_, rfl, rfl, rfl⟩
    show s.c = s.c - 1
    omega

/-! ### Acceptors -/

/-- The semaphore acceptor accepts exactly the label sequences that are runs of the transition
system from the initial state. -/
theorem sema_accepts_iff_trace (cap : Nat) (ls : List SLabel) :
    acceptsSema cap ls = true ↔ ∃ s, STrace (SState.init cap) ls s := by
  unfold acceptsSema
  rw [Option.isSome_iff_exists]
  exact exists_congr fun s => srun_iff_trace _ ls s

/-- Every state reached by a history the disciplined acceptor accepts is a disciplined-reachable
state, so `sema_bound_outstanding` applies to every accepted observed history. -/
theorem semaD_accepted_reach {cap : Nat} {s s' : SState} (h : SReach cap true s) (ls : List SLabel)
    (hr : srunD s ls = some s') : SReach cap true s' := by
  induction ls generalizing s with
  | nil => simp only [srunD, Option.some.injEq] at hr; subst hr; exact h
  | cons l ls ih =>
    simp only [srunD] at hr
    split at hr
    · simp at hr
    · rename_i hdisc
      split at hr
      · rename_i s₁ hs₁
        refine ih (SReach.step h ?_ hs₁) hr
        intro _ hl
        by_cases hlt : s.rel < s.acq
        · exact hlt
        · exact absurd ⟨hl, hlt⟩ hdisc
      · simp at hr

/-! ### Non-vacuity -/

/-- the bound is tight: a full semaphore is reachable (capacity 2, two acquires) -/
example : ∃ s, SReach 2 true s ∧ s.c = 2 :=
  ⟨_, .step (l := .acqOk 1) (.step (l := .acquire 1 0) (.step (l := .acqOk 0)
      (.step (l := .acquire 0 0) .init (by simp [SLabel.isRelease]) rfl) (by simp [SLabel.isRelease]) rfl)
      (by simp [SLabel.isRelease]) rfl) (by simp [SLabel.isRelease]) rfl, rfl⟩

/-- an undisciplined `Release` on an empty semaphore is accepted as a no-op -/
example : acceptsSema 1 [.release 0, .acquire 0 0, .acqOk 0] = true := by decide

/-- a second holder on a semaphore of capacity 1 is rejected by the acceptor -/
example : acceptsSema 1 [.acquire 0 0, .acqOk 0, .acquire 1 0, .acqOk 1] = false := by decide

/-- capacity 0: a parked `Acquire` completes only by hand-off from a concurrent `Release` -/
example : acceptsSema 0 [.acquire 0 0, .handoff 1 0] = true ∧
    acceptsSema 0 [.acquire 0 0, .acqOk 0] = false := by decide

end GolibsVerif.C17
