/-
C10, package L — the cache is free of data races: lock discipline of `cache/data.go`, proved
for the lock-discipline IR regenerated from the Go source on every check
(`gen/cachelock.go` → `Gen/CacheLockIR.lean`).
-/
import GolibsVerif.Lemmas.C10IR
import GolibsVerif.Lemmas.C10Profile
import GolibsVerif.Gen.CacheLockIR

namespace GolibsVerif.C10
open GolibsVerif.C10.Lock

/-- Soundness of the checker: if `analyse` accepts a method then EVERY control path of its body
(either branch of every `if`, any number of iterations of every loop, early returns, every path
through the body of every inlined helper — a `return` of a helper continues in its caller) is
well locked: walking the path from "lock not held, item not published", every event is permitted
(protected locations only under the lock and never atomically; counters only atomically; `conf`
and published items never written; the local item written only before publication; publication
only under the lock; `Lock` only when not held, `Unlock` only when held; `OnDelete` and
`return` only without the lock) and the call ends without the lock. -/
theorem analyse_sound (m : Method) (h : analyse m = true) :
    ∀ p, Path m.body p → WellLocked p :=
  fun _ hp => analyse_path h hp

/-- Publication safety of a well-locked path: the `publish` event happens under the lock, and no
write of the local item's `key`/`value` follows it (all such writes precede publication). -/
theorem Lock.publication_safe {p p1 p2 : List Ev} (hw : WellLocked p) (hsplit : p = p1 ++ Ev.publish :: p2) :
    Holds p1 ∧ ∀ e ∈ p2, e ≠ Ev.acc .write (.itemKV true) := by
  obtain ⟨s', hwalk, _⟩ := hw
  subst hsplit
  rw [walk_append] at hwalk
  obtain ⟨s1, h1, hwalk⟩ := Option.bind_eq_some_iff.mp hwalk
  obtain ⟨s2, h2, hwalk⟩ := Option.bind_eq_some_iff.mp hwalk
  simp only [St.step] at h2
  split at h2
  · rename_i hheld
    cases h2
    exact ⟨by simpa [Holds, init, hheld] using walk_walkH h1, (walk_published hwalk rfl).2⟩
  · cases h2

/-- Mutual exclusion.  In every trace — any number of threads, each running any sequence of
analysed methods (the last call possibly in progress), interleaved in any way that respects
`sync.Mutex` — at every point of the trace at most one thread is between its `lock` and its
`unlock`. -/
theorem mutual_exclusion (prog : List Method) (hprog : ∀ m ∈ prog, analyse m = true)
    (tr : Trace) (hthreads : ∀ t, ThreadOf prog (proj t tr)) (hmutex : MutexOK tr)
    (pre post : Trace) (hsplit : tr = pre ++ post) (t1 t2 : Tid)
    (h1 : Holds (proj t1 pre)) (h2 : Holds (proj t2 pre)) : t1 = t2 := by
  obtain ⟨o, hg⟩ := system_accepts hprog hthreads hmutex
  subst hsplit
  obtain ⟨o1, hg1, _⟩ := Option.bind_eq_some_iff.mp ((grun_append none pre post).symm.trans hg)
  have e1 := (grun_flags pre hg1 t1).symm.trans h1
  have e2 := (grun_flags pre hg1 t2).symm.trans h2
  simp at e1 e2
  rw [e1] at e2
  simpa using e2

/-- Every access in every such trace has the mode its location demands: the counters are only
touched atomically, `conf` and published items are only read, and the protected locations are
touched non-atomically by a thread that is inside a critical section at that moment. -/
theorem Lock.access_modes (prog : List Method) (hprog : ∀ m ∈ prog, analyse m = true)
    (tr : Trace) (hthreads : ∀ t, ThreadOf prog (proj t tr)) (hmutex : MutexOK tr)
    (pre post : Trace) (t : Tid) (a : Acc) (l : Loc) (hsplit : tr = pre ++ (t, Ev.acc a l) :: post) :
    (l = .hit ∨ l = .miss → a = .atomic) ∧
    (l = .conf ∨ l = .itemKV false → a = .read) ∧
    (l.protected = true → a ≠ .atomic ∧ Holds (proj t pre)) := by
  obtain ⟨o, hg⟩ := system_accepts hprog hthreads hmutex
  obtain ⟨o1, _, hg1, hs, _⟩ := grun_split (hsplit ▸ hg)
  obtain ⟨h1, h2, h3⟩ := accOK_modes (gstep_acc hs).2
  refine ⟨h1, h2, fun hp => ⟨(h3 hp).1, ?_⟩⟩
  simpa [Holds, (h3 hp).2] using grun_flags pre hg1 t

/-- Race freedom.  In every such trace, take ANY two accesses to the same location by different
threads that could form a data race (not both atomic, at least one not a plain read; the fields
of a thread's own unpublished local item are not shared).  Then the location is one of the
lock-protected ones (so counters, `conf` and published items never give rise to such a pair)
and strictly between the two accesses the first thread unlocks and, later, the second thread
locks: the accesses are ordered by the happens-before edge `Unlock → Lock` of the Go memory
model. -/
theorem no_race (prog : List Method) (hprog : ∀ m ∈ prog, analyse m = true)
    (tr : Trace) (hthreads : ∀ t, ThreadOf prog (proj t tr)) (hmutex : MutexOK tr)
    (pre mid post : Trace) (t1 t2 : Tid) (a1 a2 : Acc) (l : Loc)
    (hsplit : tr = pre ++ (t1, Ev.acc a1 l) :: mid ++ (t2, Ev.acc a2 l) :: post)
    (hne : t1 ≠ t2) (hshared : l ≠ .itemKV true) (hrace : RaceCandidate a1 a2) :
    l.protected = true ∧
    ∃ m1 m2 m3, mid = m1 ++ (t1, Ev.unlock) :: m2 ++ (t2, Ev.lock) :: m3 := by
  -- the accepted run, cut at the two accesses; an access leaves the owner alone
  obtain ⟨o, hg⟩ := system_accepts hprog hthreads hmutex
  rw [hsplit, List.append_assoc] at hg
  obtain ⟨_, o1, _, hs1, hg⟩ := grun_split hg
  obtain ⟨rfl, hok1⟩ := gstep_acc hs1
  obtain ⟨o2, _, hmid, hs2, _⟩ := grun_split hg
  obtain ⟨-, hok2⟩ := gstep_acc hs2
  obtain ⟨c1, r1, p1⟩ := accOK_modes hok1
  obtain ⟨c2, r2, p2⟩ := accOK_modes hok2
  -- counters are only touched atomically, `conf` and published items only read: no candidate there
  have hp : l.protected = true := by
    cases l with
    | hit | miss => exact absurd ⟨c1 (by simp), c2 (by simp)⟩ hrace.1
    | conf => exact (hrace.2.elim (· (r1 (.inl rfl))) (· (r2 (.inl rfl)))).elim
    | itemKV f =>
      cases f
      · exact (hrace.2.elim (· (r1 (.inr rfl))) (· (r2 (.inr rfl)))).elim
      · exact absurd rfl hshared
    | _ => rfl
  -- so both threads own the mutex at their access
  obtain rfl : o1 = some t1 := by simpa using (p1 hp).2
  obtain rfl : o2 = some t2 := by simpa using (p2 hp).2
  exact ⟨hp, grun_handover hne mid hmid⟩

/-- The first of the two regenerated obligations (the other is `sections_expected`): every
method of `cache` in the current source passes the lock-discipline checker.  (On the unrepaired
tree `Stats` reads `len(c.items)` and `c.size` without the lock and this theorem does not
build.) -/
theorem lock_discipline : Gen.CacheLockIR.methods.all analyse = true := by decide +kernel

/-- Race freedom of the cache as it is in the source: `no_race` for the regenerated program. -/
theorem cache_race_free
    (tr : Trace) (hthreads : ∀ t, ThreadOf Gen.CacheLockIR.methods (proj t tr)) (hmutex : MutexOK tr)
    (pre mid post : Trace) (t1 t2 : Tid) (a1 a2 : Acc) (l : Loc)
    (hsplit : tr = pre ++ (t1, Ev.acc a1 l) :: mid ++ (t2, Ev.acc a2 l) :: post)
    (hne : t1 ≠ t2) (hshared : l ≠ .itemKV true) (hrace : RaceCandidate a1 a2) :
    l.protected = true ∧
    ∃ m1 m2 m3, mid = m1 ++ (t1, Ev.unlock) :: m2 ++ (t2, Ev.lock) :: m3 :=
  no_race _ (List.all_eq_true.mp lock_discipline) tr hthreads hmutex pre mid post t1 t2 a1 a2 l
    hsplit hne hshared hrace

/-- Soundness of the critical-section profile: for EVERY control path of a method (through every
inlined helper), every event is accounted for by the profile `sectionsOf m`.  Walking the path
with the region state (`pre` = before the first `Lock`, `held` = inside a critical section,
`free` = after an `Unlock`): a plain access to a lock-protected location / a publication / an
`OnDelete` call in a region of kind `r` is in the profile's set for `r` (a read may be
represented by the write of the same location); an atomic access is in `atomics`; the `n`-th `Lock` of the path (n saturating at 2) satisfies `n ≤ sections`; a `Lock`
that follows an `Unlock` without an `OnDelete` call in between sets `relockBare`. -/
theorem profile_sound (m : Method) (p : List Ev) (hp : Path m.body p) :
    ∀ f ∈ pathFacts pinit p, (sectionsOf m).has f := by
  intro f hf
  apply profileOfFacts_has
  rcases hp with hx | ⟨p', hx, rfl⟩
  · exact (flow_sound hx pinit).1 f hf
  · rw [pathFacts_append] at hf
    simp only [pathFacts, PSt.facts, List.append_nil] at hf
    exact (flow_sound hx pinit).1 f hf

/-- ... in particular for accesses: a plain access to a lock-protected location on a path is in
the may-access set of the kind of region it happens in. -/
theorem Lock.profile_access (m : Method) (p p1 p2 : List Ev) (a : Acc) (l : Loc) (hp : Path m.body p)
    (hsplit : p = p1 ++ Ev.acc a l :: p2) (ha : a ≠ .atomic) (hl : l.protected = true) :
    covers ((sectionsOf m).region (pwalk pinit p1).reg.kind) (.acc a l) := by
  subst hsplit
  apply profile_sound m _ hp (.item (pwalk pinit p1).reg.kind (.acc a l))
  rw [pathFacts_append]
  apply List.mem_append_right
  simp [pathFacts, PSt.facts, ha, hl]

/-- ... and for the number of critical sections: a method whose profile says "at most one
section" takes the lock at most once on every path. -/
theorem Lock.one_section (m : Method) (h : (sectionsOf m).sections ≤ 1) (p : List Ev)
    (hp : Path m.body p) : p.count .lock ≤ 1 := by
  false_or_by_contra
  rename_i hc
  have h2 : 2 ≤ p.count .lock := by omega
  have := profile_sound m p hp _ (sections_two_of_locks p pinit (by omega) (by omega))
  simp only [Profile.has] at this
  omega

/-- The critical-section profile of the source — per exported method: what may be accessed
before the first `Lock`, inside the critical sections, after an `Unlock`; the atomics; whether a
path can enter more than one critical section; whether the lock is ever given up mid-call other
than around an `OnDelete` call — is the documented one (`Expected.sections`).  The profile is a
normal form of the set of paths (`profile_sound`), so it does not change under helper
extraction, statement reordering inside a region, `defer`, early-return restructuring. -/
theorem sections_expected : Gen.CacheLockIR.sections = Expected.sections := by decide +kernel

/-- Consequence for the source as it is: every exported method of `cache` other than `Set` takes
the lock at most once on every control path (ONE critical section: the atomic step of the
transition system of C09/C10). -/
theorem cache_single_section (m : Method) (hm : m ∈ Gen.CacheLockIR.methods) (hn : m.name ≠ "Set")
    (p : List Ev) (hp : Path m.body p) : p.count .lock ≤ 1 := by
  apply Lock.one_section m _ p hp
  have hmem : sectionsOf m ∈ Expected.sections := by
    rw [← sections_expected]
    exact List.mem_map.mpr ⟨m, hm, rfl⟩
  have hall : Expected.sections.all (fun P => P.name == "Set" || decide (P.sections ≤ 1)) = true := by decide
  have := List.all_eq_true.mp hall _ hmem
  have hname : (sectionsOf m).name = m.name := rfl
  simp only [hname, Bool.or_eq_true, beq_iff_eq, decide_eq_true_eq] at this
  rcases this with h | h
  · exact absurd h hn
  · exact h

/-! ## Non-vacuity -/

/-- the checker rejects the `Stats` of the unrepaired tree: plain reads of `items`, `size`
without the lock -/
example : analyse ⟨"Stats", [.acc .read .items, .acc .read .size, .acc .atomic .hit, .acc .atomic .miss, .ret]⟩
    = false := by decide

/-- and accepts the repaired one -/
example : analyse ⟨"Stats", [.lock, .acc .read .items, .acc .read .size, .unlock,
    .acc .atomic .hit, .acc .atomic .miss, .ret]⟩ = true := by decide

/-- a `Get` that moves the LRU link after `Unlock` is rejected -/
example : analyse ⟨"Get", [.lock, .acc .read .items, .unlock,
    .ite [.acc .read .conf] [.acc .write .usage, .acc .read .usage, .acc .write .usage] [],
    .acc .atomic .hit, .acc .read (.itemKV false), .ret]⟩ = false := by decide

/-- an `OnDelete` call under the lock is rejected -/
example : analyse ⟨"Set", [.lock, .loop [.acc .read .size] [.acc .write .items,
    .ite [.acc .read .conf] [.acc .read .conf, .callOnDelete] []], .unlock, .ret]⟩ = false := by decide

/-- a missing `Unlock` on an early return is rejected -/
example : analyse ⟨"Del", [.lock, .acc .read .items, .ite [] [.ret] [], .acc .write .items, .unlock]⟩
    = false := by decide

/-- a non-atomic counter update, a write to a published item, a write of `conf`, a write of the
local item after publication, re-locking, a loop body that leaks the lock: all rejected -/
example : analyse ⟨"x", [.acc .read .hit, .acc .write .hit]⟩ = false := by decide
example : analyse ⟨"x", [.lock, .acc .write (.itemKV false), .unlock]⟩ = false := by decide
example : analyse ⟨"x", [.lock, .acc .write .conf, .unlock]⟩ = false := by decide
example : analyse ⟨"x", [.lock, .publish, .acc .write (.itemKV true), .unlock]⟩ = false := by decide
example : analyse ⟨"x", [.lock, .lock, .unlock]⟩ = false := by decide
example : analyse ⟨"x", [.lock, .loop [] [.unlock], .unlock]⟩ = false := by decide

/-- the path semantics has the early-return path and the two-iteration path of a loop -/
example : Path [.lock, .ite [.acc .read .items] [.unlock, .ret] [], .acc .write .items, .unlock]
    [.lock, .acc .read .items, .unlock, .ret] :=
  .inr ⟨_, .lock (.iteThen (.acc (.unlock .ret))), rfl⟩

example : Path [.loop [.acc .read .size] [.acc .write .size], .ret]
    [.acc .read .size, .acc .write .size, .acc .read .size, .acc .write .size, .acc .read .size, .ret] :=
  .inr ⟨_, .loopIter (.acc (.acc (.loopIter (.acc (.acc (.loopExit (.acc .ret))))))), rfl⟩

/-- a helper's `return` ends the helper, not the method: after `full` returns (with the lock
held — that is fine for a helper) the caller goes on and unlocks -/
example : Path [.lock, .call "full" [.acc .read .size, .ite [] [.ret] [], .acc .read .items, .ret], .unlock]
    [.lock, .acc .read .size, .unlock] :=
  .inl (.lock (.call (p := [.acc .read .size]) (.acc (.iteThen .ret)) (.unlock .nil)))

example : analyse ⟨"m", [.lock, .call "full" [.acc .read .size, .ite [] [.ret] [], .acc .read .items, .ret], .unlock]⟩
    = true := by decide

/-- defects hidden inside a helper are found through the call: an LRU move in a helper called
after `Unlock`; a helper that unlocks and does not re-lock, called in a loop; a helper reading
`len(c.items)` called without the lock -/
example : analyse ⟨"Get", [.lock, .acc .read .items, .unlock,
    .call "touch" [.acc .write .usage, .acc .read .usage, .acc .write .usage], .ret]⟩ = false := by decide
example : analyse ⟨"Set", [.lock, .loop [.acc .read .size] [.acc .write .items,
    .call "notify" [.ite [.acc .read .conf] [.ret] [], .unlock, .callOnDelete]], .unlock]⟩ = false := by decide
example : analyse ⟨"Stats", [.call "count" [.acc .read .items, .ret], .acc .atomic .hit, .ret]⟩ = false := by decide

/-- the hypotheses of `no_race` are satisfiable with a genuinely conflicting pair: two threads
each run the one-section method `[lock; size := …; unlock]`, one after the other. -/
example :
    let m : Method := ⟨"W", [.lock, .acc .write .size, .unlock]⟩
    let tr : Trace := [(0, .lock), (0, .acc .write .size), (0, .unlock), (1, .lock), (1, .acc .write .size), (1, .unlock)]
    analyse m = true ∧ (∀ t, ThreadOf [m] (proj t tr)) ∧ MutexOK tr := by
  intro m tr
  have hp : Path m.body [.lock, .acc .write .size, .unlock] := .inl (.lock (.acc (.unlock .nil)))
  have one : ThreadTrace [m] ([Ev.lock, .acc .write .size, .unlock] ++ []) :=
    .call (List.mem_singleton.mpr rfl) hp .nil
  refine ⟨by decide, ?_, by unfold MutexOK; decide⟩
  intro t
  by_cases h0 : t = 0
  · subst h0; exact ⟨[], one⟩
  · by_cases h1 : t = 1
    · subst h1; exact ⟨[], one⟩
    · have h0' : ¬ 0 = t := fun h => h0 h.symm
      have h1' : ¬ 1 = t := fun h => h1 h.symm
      exact ⟨[], by simpa [tr, proj, h0', h1'] using ThreadTrace.nil⟩

/-- ... and with a callback that re-enters the cache: the `OnDelete` call of the first call of
`m` itself runs a whole call of `m` before the first call continues. -/
example :
    let m : Method := ⟨"E", [.lock, .acc .write .items, .unlock, .callOnDelete, .lock, .acc .write .size, .unlock]⟩
    analyse m = true ∧
    ThreadOf [m] [.lock, .acc .write .items, .unlock, .callOnDelete,
      .lock, .acc .write .items, .unlock, .callOnDelete, .lock, .acc .write .size, .unlock,
      .lock, .acc .write .size] := by
  intro m
  have hp : Path m.body [.lock, .acc .write .items, .unlock, .callOnDelete, .lock, .acc .write .size, .unlock] :=
    .inl (.lock (.acc (.unlock (.callOnDelete (.lock (.acc (.unlock .nil)))))))
  have one : ThreadTrace [m] ([Ev.lock, .acc .write .items, .unlock, .callOnDelete, .lock, .acc .write .size, .unlock] ++ []) :=
    .call (List.mem_singleton.mpr rfl) hp .nil
  refine ⟨by decide, [.unlock], ?_⟩
  exact ThreadTrace.reenter (a := [.lock, .acc .write .items, .unlock]) (b := [.lock, .acc .write .size, .unlock]) one one

end GolibsVerif.C10
