/-
C07 — property theorems: `(*Record).UnmarshalText` implements the hosts(5) field grammar
(`Spec/C07.lean`) for every byte line and every behaviour of `idna.ToASCII`; its rejections
are classified as the property says; the two cutting passes agree; `MarshalText` of an
accepted record re-parses to the same record (no contract: `netip.Addr.MarshalText` /
`String` are modelled in `Go/NetipFmt.lean` and proved to be inverted by the `ParseAddr`
model, `addr_roundtrip`); nothing panics.

`NameOK toASCII n` is `C03.DomainNameOK toASCII n`, i.e. by `C03.validateDomainName_iff`
"`netutil.ValidateDomainName(n) == nil`"; `parseAddr` is the Lean model of `netip.ParseAddr`.
-/
import GolibsVerif.Lemmas.C07
import GolibsVerif.Lemmas.C07Addr
import GolibsVerif.Lemmas.NetipFmt
import GolibsVerif.Lemmas.NetipFmtWF

namespace GolibsVerif.C07
open GolibsVerif GolibsVerif.Str GolibsVerif.Netutil GolibsVerif.Netip

/-- The cutset regenerated from `/repo/hostsfile/record.go` is the documented one (space and
tab); an edit breaks this obligation. -/
theorem consts_documented : spaces = [32, 9] := rfl

/-- `UnmarshalText` never panics and always returns (no index/slice expression of
`cutField`, `cutStringField` or the comment cut can fail; the validation loop terminates —
that is the well-founded recursion of the model). -/
theorem unmarshal_total (toASCII : Bytes → Option Bytes) (r : Record) (line : Bytes) :
    ∃ res, unmarshalText toASCII r line = .ok res :=
  ⟨_, unmarshalText_eq toASCII r line⟩

/-- `cutField` / `cutStringField` never panic and are the same function. -/
theorem cut_total (data : Bytes) :
    (∃ res, cutField data = .ok res) ∧ cutStringField data = cutField data :=
  ⟨⟨_, cut_eq data⟩, rfl⟩

/-- **Acceptance ⇔ grammar, with exactly the parsed data.**
(1) If the comment-stripped line consists of blank-separated fields `f :: names` with
`names` non-empty, `netip.ParseAddr f = a` and every name accepted by `ValidateDomainName`,
then `UnmarshalText` returns `nil` and sets `Addr = a`, `Names = names` (in order), leaving
`Source` alone.  (2) Conversely, whenever it returns `nil` the line is of that form for the
`Addr` and `Names` stored in the record. -/
theorem unmarshal_iff (toASCII : Bytes → Option Bytes) (r : Record) (line : Bytes) :
    (∀ a names, WellFormed toASCII line a names →
        unmarshalText toASCII r line = .ok ({ r with addr := a, names := names }, none)) ∧
    (∀ r', unmarshalText toASCII r line = .ok (r', none) →
        WellFormed toASCII line r'.addr r'.names ∧ r'.source = r.source) := by
  rw [unmarshalText_eq]
  constructor
  · rintro a names ⟨f, hf, hne, hp, hv⟩
    rw [hf, ref_ok r hne hp hv]
  · intro r' h
    obtain ⟨f, hf, hne, hp, hv, hs⟩ := ref_inv (Except.ok.inj h)
    exact ⟨⟨f, hf, hne, hp, hv⟩, hs⟩

theorem unmarshal_accepts_iff (toASCII : Bytes → Option Bytes) (r : Record) (line : Bytes) :
    (∃ r', unmarshalText toASCII r line = .ok (r', none)) ↔ ∃ a names, WellFormed toASCII line a names := by
  obtain ⟨h1, h2⟩ := unmarshal_iff toASCII r line
  constructor
  · rintro ⟨r', h⟩; exact ⟨_, _, (h2 r' h).1⟩
  · rintro ⟨a, names, h⟩; exact ⟨_, h1 a names h⟩

/-- **Classification of rejected lines.**  No field → `ErrEmptyLine`, record untouched; one
field → `ErrNoHosts`, record untouched; ≥ 2 fields with an unparsable first one → the
address parse error (`Addr` reset to the zero value, `Names` untouched); otherwise the first
name rejected by `ValidateDomainName` — at index `|pre|` — yields
`name at index |pre|: *AddrError{Kind: "domain name", Addr: bad}` and `Names` holds exactly
the names before it. -/
theorem unmarshal_err_class (toASCII : Bytes → Option Bytes) (r : Record) (line : Bytes) :
    (fields line = [] → unmarshalText toASCII r line = .ok (r, some .emptyLine)) ∧
    (∀ f, fields line = [f] → unmarshalText toASCII r line = .ok (r, some .noHosts)) ∧
    (∀ f n1 rest, fields line = f :: n1 :: rest → parseAddr f = none →
        unmarshalText toASCII r line = .ok ({ r with addr := .invalid }, some .addrParse)) ∧
    (∀ f a pre bad post, fields line = f :: (pre ++ bad :: post) → parseAddr f = some a →
        (∀ n ∈ pre, NameOK toASCII n) → ¬ NameOK toASCII bad →
        ∃ inner, unmarshalText toASCII r line =
          .ok ({ r with addr := a, names := pre },
               some (.name pre.length (.addr .domainName bad (some inner))))) := by
  rw [unmarshalText_eq]
  refine ⟨fun h => by rw [h]; rfl, fun f h => by rw [h]; rfl,
    fun f n1 rest h hp => by rw [h, ref_addr toASCII r n1 rest hp], fun f a pre bad post h hp hpre hbad => ?_⟩
  obtain ⟨inner, hi⟩ := ref_bad r post hp hpre hbad
  exact ⟨inner, by rw [h, hi]⟩

/-- **The two cutting passes agree.**  Whatever the first pass (cut, validate, count)
returns for a hosts string — the count `n`, the error, and the fields it validated — the
second pass (`make([]string, n)` filled by re-cutting the same string) yields exactly those
validated fields, and `n` is their number.  Holds for every string, with or without leading
blanks. -/
theorem two_pass_agree (toASCII : Bytes → Option Bytes) (hosts : Bytes)
    (n : Nat) (err : Option RecErr) (seen : List Bytes)
    (h : validateLoop toASCII hosts 0 [] = .ok (n, err, seen)) :
    n = seen.length ∧ fillNames n hosts = .ok seen := by
  obtain ⟨g, rfl, rfl, hg⟩ := two_pass toASCII hosts 0 [] _ _ _ h
  simpa using hg

/-- Every record obtained by a successful parse has at least one name, and every name is
non-empty and free of blanks and `'#'`. -/
theorem accepted_names_clean (toASCII : Bytes → Option Bytes) (r r' : Record) (line : Bytes)
    (h : unmarshalText toASCII r line = .ok (r', none)) :
    r'.names ≠ [] ∧ ∀ n ∈ r'.names, n ≠ [] ∧ ∀ b ∈ n, isSep b = false := by
  obtain ⟨⟨f, hf, hne, _, _⟩, _⟩ := (unmarshal_iff toASCII r line).2 r' h
  refine ⟨hne, fun n hn => mem_fields (line := line) ?_⟩
  rw [hf]; simp [hn]

/-- **`netip.ParseAddr` inverts `netip.Addr.String` / `MarshalText`** (contract
ADDR-RT).  For every non-zero address — four bytes, or sixteen bytes with any zone
(`[]` = no zone; a zone may contain `'%'`, `':'`, `'.'`, anything: the parser cuts at the
*first* `'%'` and the address part never contains one) — the model of `ParseAddr` applied to
the model of `String()` (dotted decimal; `::ffff:a.b.c.d` for IPv4-mapped; lower-case hex
groups without leading zeros, the first longest run of ≥ 2 zero groups written `::`;
`%zone`) returns the address.  `MarshalText` gives the same text. -/
theorem addr_roundtrip (a : Addr) (h : WF a) :
    parseAddr (addrString a) = some a ∧ addrMarshalText a = addrString a :=
  ⟨parseAddr_addrString a h, (addrString_eq_marshalText a (by rintro rfl; exact h)).symm⟩

/-- Every address `ParseAddr` returns is well-formed: four resp. sixteen bytes below 256,
never the zero `Addr`. -/
theorem parsed_addr_wf (s : Bytes) (a : Addr) (h : parseAddr s = some a) : WF a :=
  parseAddr_wf s a h

/-- The text `MarshalText` writes for a record parses back to that record, whatever formats the
address, as long as the address text parses back to the address and has no blank or `'#'`, and
the names (at least one) are valid and have none either. -/
theorem unmarshal_marshalText (toASCII : Bytes → Option Bytes) (formatAddr : Addr → Bytes)
    (r0' r : Record) (hrt : parseAddr (formatAddr r.addr) = some r.addr)
    (hclean : ∀ b ∈ formatAddr r.addr, isSep b = false) (hne : r.names ≠ [])
    (hnames : ∀ n ∈ r.names, n ≠ [] ∧ ∀ b ∈ n, isSep b = false)
    (hv : ∀ n ∈ r.names, NameOK toASCII n) :
    unmarshalText toASCII r0' (marshalText formatAddr r) =
      .ok ({ r with source := r0'.source }, none) := by
  have hwne : formatAddr r.addr ≠ [] := by
    intro h; rw [h] at hrt; simp [parseAddr, parseAddrDispatch] at hrt
  rw [unmarshalText_eq, marshalText_eq, fields_join _ _ ⟨hwne, hclean⟩ hnames, ref_ok r0' hne hrt hv]

/-- **Round trip.**  If `UnmarshalText` accepted a line and produced `r`, then parsing
`r.MarshalText()` succeeds and yields the same `Addr` and `Names` (`Source` is never touched
by `UnmarshalText`).  No hypothesis: `MarshalText` calls `netip.Addr.MarshalText`, modelled
statement by statement in `Go/NetipFmt.lean` (`addrMarshalText`), and the address of an
accepted record came out of `ParseAddr`, hence is well-formed and parses back from its own
text (`addr_roundtrip`).  That the text form of `a` contains no blank and no `'#'` follows
from the `netip` parser model (`addr_text_clean`: such a byte could only sit in the zone,
and the zone of `a` was cut out of a blank/`#`-free field). -/
theorem marshal_unmarshal (toASCII : Bytes → Option Bytes)
    (r0 r0' r : Record) (line : Bytes)
    (hacc : unmarshalText toASCII r0 line = .ok (r, none)) :
    unmarshalText toASCII r0' (marshalText addrMarshalText r) =
      .ok ({ r with source := r0'.source }, none) := by
  obtain ⟨⟨f, hf, hne, hp, hv⟩, _⟩ := (unmarshal_iff toASCII r0 line).2 r hacc
  have hrt := parseAddr_addrMarshalText r.addr (parseAddr_wf f r.addr hp)
  exact unmarshal_marshalText toASCII _ r0' r hrt
    (addr_text_clean f _ r.addr (mem_fields (line := line) (by rw [hf]; simp)).2 hp hrt) hne
    (accepted_names_clean toASCII r0 r line hacc).2 hv

/-- the same with `Addr.String()` as the formatter (equal to `MarshalText` on every address an
accepted record can hold) -/
theorem marshal_unmarshal_string (toASCII : Bytes → Option Bytes)
    (r0 r0' r : Record) (line : Bytes)
    (hacc : unmarshalText toASCII r0 line = .ok (r, none)) :
    unmarshalText toASCII r0' (marshalText addrString r) =
      .ok ({ r with source := r0'.source }, none) := by
  obtain ⟨⟨f, _, _, hp, _⟩, _⟩ := (unmarshal_iff toASCII r0 line).2 r hacc
  have hwf := parseAddr_wf f r.addr hp
  have : marshalText addrString r = marshalText addrMarshalText r := by
    unfold marshalText
    rw [addrString_eq_marshalText r.addr (by intro h; rw [h] at hwf; exact hwf)]
  rw [this]
  exact marshal_unmarshal toASCII r0 r0' r line hacc

/-- **The outcome is a function of the fields.**  Two lines with the same blank-separated
fields before their comments get the same result from `UnmarshalText` — the same record
*and* the same error: the amount and kind (space or tab) of blank between fields, leading and
trailing blanks, and the comment never matter. -/
theorem unmarshal_fields_only (toASCII : Bytes → Option Bytes) (r : Record) (line line' : Bytes)
    (h : fields line = fields line') :
    unmarshalText toASCII r line = unmarshalText toASCII r line' := by
  rw [unmarshalText_eq, unmarshalText_eq, h]

/-- **The comment is never read**: everything from the first `'#'` on is irrelevant to the
record and to the error (for every `pre`, with or without a `'#'` of its own). -/
theorem comment_irrelevant (toASCII : Bytes → Option Bytes) (r : Record) (pre c : Bytes) :
    unmarshalText toASCII r (pre ++ hash :: c) = unmarshalText toASCII r pre :=
  unmarshal_fields_only toASCII r _ _ (by unfold fields; rw [stripComment_append_hash])

/-! ### Non-vacuity -/

/-- premise of `unmarshal_fields_only` on two differently spaced and commented lines -/
example : fields (ascii " 1.2.3.4\ta.b  c \t# x y") = fields (ascii "1.2.3.4 a.b c") := by
  repeat rw [ascii_ofList]
  decide +kernel

def idAscii : Bytes → Option Bytes := some

def zeroRec : Record := { addr := .invalid, source := [], names := [] }

/-- a well-formed line with tabs, repeated blanks, leading/trailing blanks and a comment -/
example : WellFormed idAscii (ascii " 1.2.3.4\ta.b  c \t# x y") (.v4 [1, 2, 3, 4]) [ascii "a.b", ascii "c"] :=
  ⟨ascii "1.2.3.4", by (repeat rw [ascii_ofList]); decide +kernel, by decide,
    by rw [ascii_ofList]; decide +kernel, by
    intro n hn
    simp only [List.mem_cons, List.not_mem_nil, or_false] at hn
    rcases hn with rfl | rfl
    · exact (C03.validateDomainName_iff _ _).1 ((C03.accepted_iff _).1 (by rw [ascii_ofList]; decide +kernel))
    · exact (C03.validateDomainName_iff _ _).1 ((C03.accepted_iff _).1 (by rw [ascii_ofList]; decide +kernel))⟩

example : fields (ascii "# only a comment") = [] := by
  repeat rw [ascii_ofList]
  decide +kernel
example : fields (ascii "::1 # no names") = [ascii "::1"] := by
  repeat rw [ascii_ofList]
  decide +kernel
example : fields (ascii "fe80::1%eth0 a\tb\r") = [ascii "fe80::1%eth0", ascii "a", ascii "b\r"] := by
  repeat rw [ascii_ofList]
  decide +kernel
example : parseAddr (ascii "1.2.3.4.5") = none := by
  repeat rw [ascii_ofList]
  decide +kernel
example : parseAddr (ascii "0:0::1") = some (.v6 [0,0,0,0,0,0,0,0,0,0,0,0,0,0,0,1] []) ∧
    parseAddr (ascii "::1") = some (.v6 [0,0,0,0,0,0,0,0,0,0,0,0,0,0,0,1] []) := by
  repeat rw [ascii_ofList]
  decide +kernel
/-- the formatter model on the shapes of `Addr.String`'s documentation, a zone containing
`'%'`, the first-of-two-equal-runs rule and a single zero group (not compressed) -/
example : addrString (.v4 [192, 0, 2, 1]) = ascii "192.0.2.1" ∧
    addrString (.v6 [0x20,1,0xd,0xb8,0,0,0,0,0,0,0,0,0,0,0,1] []) = ascii "2001:db8::1" ∧
    addrString (.v6 [0,0,0,0,0,0,0,0,0,0,255,255,1,2,3,4] (ascii "z")) = ascii "::ffff:1.2.3.4%z" ∧
    addrString (.v6 [0xfe,0x80,0,0,0,0,0,0,0,0,0,0,0,0,0,1] (ascii "a%b")) = ascii "fe80::1%a%b" ∧
    addrString (.v6 [0,1,0,0,0,0,0,1,0,0,0,0,0,1,0,1] []) = ascii "1::1:0:0:1:1" ∧
    addrString (.v6 [0,1,0,0,0,1,0,1,0,1,0,1,0,1,0,1] []) = ascii "1:0:1:1:1:1:1:1" ∧
    addrString (.v6 (List.replicate 16 0) []) = ascii "::" ∧
    addrString .invalid = ascii "invalid IP" ∧ addrMarshalText .invalid = [] := by
  repeat rw [ascii_ofList]
  decide +kernel
/-- `WF` is satisfiable (and excludes the zero `Addr`) -/
example : WF (.v6 (List.replicate 16 0) (ascii "%")) ∧ WF (.v4 [0, 0, 0, 255]) ∧ ¬ WF .invalid :=
  ⟨⟨rfl, by decide⟩, ⟨rfl, by decide⟩, fun h => h⟩
/-- a name that `ValidateDomainName` rejects (over-long label) after a valid one -/
example : C03.accepted (validateDomainName idAscii (ascii "a.b")) = true ∧
    C03.accepted (validateDomainName idAscii (List.replicate 64 97)) = false := by
  repeat rw [ascii_ofList]
  decide +kernel

end GolibsVerif.C07
