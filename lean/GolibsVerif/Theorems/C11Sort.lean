/-
C11 — the two "by contract" stand-ins of `Model/C11.lean` for standard-library functions,
`sort` (insertion sort for `slices.Sort`) and `binarySearch` (the lower bound for
`slices.BinarySearch`), are what the models of the real functions in `Go/Sort.lean` compute
(`slices.Sort`: Go 1.24.2's `pdqsortOrdered`; `slices.BinarySearch`: its loop), for every element
type with a decidable linear order on which `==` agrees with `cmp.Compare(a, b) == 0`.
Only property theorems and examples live here; the proofs are in `Lemmas/C11Sort.lean`,
`Lemmas/SortSearch.lean` and the `Lemmas/Sort*.lean` files behind `Theorems/C12Sort.lean`.
-/
import GolibsVerif.Theorems.C11
import GolibsVerif.Lemmas.C11Sort

namespace GolibsVerif.C11
open GolibsVerif.Slices (sortOrdered binarySearchBy lessCmp)

variable {T : Type} [GoOrdered T]

/-- `slices.Sort(x)`, as modelled (pdqsort with `cmp.Less`), never panics and leaves exactly the
list `sort x` of the C11 model: the sorted permutation of a list is unique on a linear order. -/
theorem sort_stdlib (l : List T) : sortOrdered less l = .ok (sort l) := by
  obtain ⟨r, h, hp, hs⟩ := Slices.sortFunc_spec (lessCmp (less (T := T))) l
  have hsorted : r.Pairwise le := by
    have := hs weakCmp_less
    unfold C12.Sorted at this
    exact this.imp (fun {a b} h => by rw [lessCmp_neg_iff] at h; exact h)
  have : r = sort l := eq_of_perm_sorted r (sort l) (hp.trans (perm_sort l).symm) hsorted (sorted_sort l)
  rw [sortOrdered, h, this]

/-- `slices.BinarySearch(x, target)`, as modelled (the bisection loop with `cmp.Less`, then
`x[i] == target`), never panics and on a sorted slice returns exactly `binarySearch x target` of
the C11 model: the number of leading elements less than the target, and whether the element at
that position equals it. -/
theorem binarySearch_lower_bound (l : List T) (v : T) (hs : l.Pairwise le) :
    binarySearchBy (fun e => less e v) (fun e => cmpEq e v) l =
      .ok (((binarySearch l v).1 : Int), (binarySearch l v).2) := by
  obtain ⟨i, hi, h1, h2⟩ := Slices.binarySearchBy_spec (fun e => less e v) (fun e => cmpEq e v) l
  have hpart : Slices.PartitionedBy (fun e => less e v) l.toArray :=
    .of_pairwise (hs.imp fun hle hlt => less_iff.2 (lt_of_le_of_lt'' hle (less_iff.1 hlt)))
  obtain ⟨h3, h4⟩ := h2 hpart
  have hlb : lowerBound v l = i := lowerBound_eq v l i h3 h4 hi
  rw [h1]
  simp only [binarySearch, hlb]
  cases l[i]? <;> rfl

/-! ### examples -/

example : sort [3, 1, 2, (1 : Int)] = [1, 1, 2, 3] := by decide
example : binarySearch [1, 3, 5, (7 : Int)] 5 = (2, true) ∧ binarySearch [1, 3, 5, (7 : Int)] 4 = (2, false) := by decide
-- the hypothesis of `binarySearch_lower_bound` is satisfiable
example : ([1, 3, 5, 7] : List Int).Pairwise le := by
  simp [le, GoOrdered.lt]

end GolibsVerif.C11
