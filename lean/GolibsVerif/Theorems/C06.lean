/-
C06 — `IsSpecialPurpose` / `IsLocallyServed` equal their documented network lists.

Everything named `Gen.Subnets.*` below is regenerated from `/repo/netutil/subnetset.go` on
every `./check` run (function bodies reified into `F`/`D`, doc comments into `List Pfx`), so
these theorems are re-checked against what the source says now.  The `…_check` obligations
are kernel evaluations of the reflective checker (`F.check_sound`); they cover all 2^32 and
all 2^128 addresses.  `F.check` expands byte by byte over all 256 values; the kernel runs
`F.checkReps` instead, which tries only `0` and the ends of the byte intervals the atoms test
for: bytes between the same ends leave the same residual formulas, so the Boolean is the same
(`F.checkReps_eq`).
-/
import GolibsVerif.Lemmas.C06

namespace GolibsVerif.C06
open Gen.Subnets

/-! ### Generic facts (independent of the generated terms) -/

/-- Soundness of the reflective checker: an accepted pair of formulas agrees on every byte
vector. -/
theorem check_sound (n k : Nat) (f g : F) (h : F.check n k f g = true)
    (ip : Nat → Nat) (hip : ∀ i, ip i < 256) : F.eval ip f = F.eval ip g :=
  F.check_sound n k f g h ip hip

/-- The byte formula of a prefix is bit-level containment of the big-endian number, for all
prefixes of a `w`-byte family and all `8w`-bit addresses. -/
theorem prefixF_spec (w : Nat) (p : Pfx) (n : Nat) (hp : p.wf w = true) (hn : n < 2 ^ (8 * w)) :
    F.eval (ipOf (toBytes w n)) (prefixF p) = true ↔
      n / 2 ^ (8 * w - p.bits) = beNat p.bytes / 2 ^ (8 * w - p.bits) := by
  rw [prefixF_correct w p n hp hn, containsB_iff]; rfl

/-- the counterexample finder only returns vectors on which the formulas really differ -/
theorem cex_sound (w : Nat) (f g : F) (v : List Nat) (h : F.cexVec w f g = some v) :
    F.eval (ipOf v) f ≠ F.eval (ipOf v) g := F.cexVec_sound w f g v h

/-! ### Obligations on the regenerated source -/

/-- the reified functions read only bytes inside their arrays -/
theorem gen_inScope :
    isLocallyServedV4.inScope 4 = true ∧ isSpecialPurposeV4.inScope 4 = true ∧
    isLocallyServedV6.inScope 16 = true ∧ isSpecialPurposeV6.inScope 16 = true := by
  decide +kernel

/-- every documented network is a well-formed IPv4 or IPv6 prefix -/
theorem doc_wf :
    (locallyServedDoc ++ specialPurposeDoc).all (fun p => p.wf 4 || p.wf 16) = true := by
  decide +kernel

theorem isLocallyServedV4_check :
    F.check 4 0 isLocallyServedV4 (docF 4 locallyServedDoc) = true := by
  rw [← F.checkReps_eq]; decide +kernel

theorem isLocallyServedV6_check :
    F.check 16 0 isLocallyServedV6 (docF 16 locallyServedDoc) = true := by
  rw [← F.checkReps_eq]; decide +kernel

theorem isSpecialPurposeV4_check :
    F.check 4 0 isSpecialPurposeV4 (docF 4 specialPurposeDoc) = true := by
  rw [← F.checkReps_eq]; decide +kernel

theorem isSpecialPurposeV6_check :
    F.check 16 0 isSpecialPurposeV6 (docF 16 specialPurposeDoc) = true := by
  rw [← F.checkReps_eq]; decide +kernel

/-- `IsLocallyServed`: zero value ↦ `false`; `Is4` ↦ `isLocallyServedV4(As4)`; every other
valid address (IPv6, zoned, 4in6) ↦ `isLocallyServedV6(As16)`; byte predicates = doc list -/
theorem isLocallyServed_obligations :
    Obligations IsLocallyServed isLocallyServedV4 isLocallyServedV6 locallyServedDoc where
  invalid := rfl
  v4 := rfl
  v4in6 := rfl
  v6 := rfl
  check4 := isLocallyServedV4_check
  check6 := isLocallyServedV6_check
  wf4 := by decide +kernel
  wf6 := by decide +kernel

theorem isSpecialPurpose_obligations :
    Obligations IsSpecialPurpose isSpecialPurposeV4 isSpecialPurposeV6 specialPurposeDoc where
  invalid := rfl
  v4 := rfl
  v4in6 := rfl
  v6 := rfl
  check4 := isSpecialPurposeV4_check
  check6 := isSpecialPurposeV6_check
  wf4 := by decide +kernel
  wf6 := by decide +kernel

/-! ### The property -/

/-- For every IPv4 address `n < 2^32`: `isLocallyServedV4` on its bytes is true exactly when
`n` lies in one of the documented IPv4 networks. -/
theorem isLocallyServedV4_iff (n : Nat) (hn : n < 2 ^ 32) :
    isLocallyServedV4.eval (ipOf (toBytes 4 n)) = true ↔
      ∃ p ∈ locallyServedDoc, p.bytes.length = 4 ∧ p.contains 4 n :=
  eval_iff_of_check 4 _ _ isLocallyServedV4_check isLocallyServed_obligations.wf4 n hn

theorem isLocallyServedV6_iff (n : Nat) (hn : n < 2 ^ 128) :
    isLocallyServedV6.eval (ipOf (toBytes 16 n)) = true ↔
      ∃ p ∈ locallyServedDoc, p.bytes.length = 16 ∧ p.contains 16 n :=
  eval_iff_of_check 16 _ _ isLocallyServedV6_check isLocallyServed_obligations.wf6 n hn

theorem isSpecialPurposeV4_iff (n : Nat) (hn : n < 2 ^ 32) :
    isSpecialPurposeV4.eval (ipOf (toBytes 4 n)) = true ↔
      ∃ p ∈ specialPurposeDoc, p.bytes.length = 4 ∧ p.contains 4 n :=
  eval_iff_of_check 4 _ _ isSpecialPurposeV4_check isSpecialPurpose_obligations.wf4 n hn

theorem isSpecialPurposeV6_iff (n : Nat) (hn : n < 2 ^ 128) :
    isSpecialPurposeV6.eval (ipOf (toBytes 16 n)) = true ↔
      ∃ p ∈ specialPurposeDoc, p.bytes.length = 16 ∧ p.contains 16 n :=
  eval_iff_of_check 16 _ _ isSpecialPurposeV6_check isSpecialPurpose_obligations.wf6 n hn

/-- **`IsLocallyServed`**: for every `netip.Addr` (zero value, IPv4, IPv6 with any zone, 4in6)
the function returns without panicking; it returns `true` exactly when the address lies in
one of the RFC 6303 networks enumerated in its documentation (of the address's own family),
and `false` exactly when it lies in none. -/
theorem isLocallyServed_iff (x : Addr) :
    (isLocallyServed x = .ok true ↔ x.InDoc locallyServedDoc) ∧
    (isLocallyServed x = .ok false ↔ ¬ x.InDoc locallyServedDoc) :=
  isLocallyServed_obligations.iff x

/-- **`IsSpecialPurpose`**: the same for the IANA special-purpose registry networks
enumerated in its documentation. -/
theorem isSpecialPurpose_iff (x : Addr) :
    (isSpecialPurpose x = .ok true ↔ x.InDoc specialPurposeDoc) ∧
    (isSpecialPurpose x = .ok false ↔ ¬ x.InDoc specialPurposeDoc) :=
  isSpecialPurpose_obligations.iff x

/-- the invalid (zero) address is in neither set -/
theorem invalid_in_neither :
    isLocallyServed .invalid = .ok false ∧ isSpecialPurpose .invalid = .ok false :=
  ⟨(isLocallyServed_iff .invalid).2.2 (by simp [Addr.InDoc]),
   (isSpecialPurpose_iff .invalid).2.2 (by simp [Addr.InDoc])⟩

/-- the zone of an IPv6 address does not influence either result -/
theorem zone_irrelevant (a : BitVec 128) (z z' : String) :
    isLocallyServed (.v6 a z) = isLocallyServed (.v6 a z') ∧
    isSpecialPurpose (.v6 a z) = isSpecialPurpose (.v6 a z') :=
  ⟨isLocallyServed_obligations.eval_zone a z z', isSpecialPurpose_obligations.eval_zone a z z'⟩

/-! ### Sanity of the specification (fixed literals, independent of the generated lists) -/

-- `100::/64` contains `100::1` and not `100:0:0:1::`; `100::/48` would contain both
example : (⟨[1,0,0,0,0,0,0,0,0,0,0,0,0,0,0,0], 64⟩ : Pfx).contains 16 0x01000000000000000000000000000001 := by decide
example : ¬ (⟨[1,0,0,0,0,0,0,0,0,0,0,0,0,0,0,0], 64⟩ : Pfx).contains 16 0x01000000000000010000000000000000 := by decide
example : (⟨[1,0,0,0,0,0,0,0,0,0,0,0,0,0,0,0], 48⟩ : Pfx).contains 16 0x01000000000000010000000000000000 := by decide
-- 172.16.0.0/12: 172.31.255.255 in, 172.32.0.0 out; /0 contains everything; /32 only itself
example : (⟨[172,16,0,0], 12⟩ : Pfx).contains 4 0xAC1FFFFF ∧ ¬ (⟨[172,16,0,0], 12⟩ : Pfx).contains 4 0xAC200000 := by decide
example : (⟨[0,0,0,0], 0⟩ : Pfx).contains 4 0xFFFFFFFF := by decide
example : (⟨[255,255,255,255], 32⟩ : Pfx).contains 4 0xFFFFFFFF ∧ ¬ (⟨[255,255,255,255], 32⟩ : Pfx).contains 4 0xFFFFFFFE := by decide
-- the hypotheses of `prefixF_spec` are satisfiable, and the formula is what one expects
example : (⟨[172,16,0,0], 12⟩ : Pfx).wf 4 = true ∧
    prefixF ⟨[172,16,0,0], 12⟩ = .and (.atom 0 255 172) (.atom 1 240 16) := by decide
-- the checker rejects a wrong mask width and `cexVec` produces the witness
example : F.check 16 0 (prefixF ⟨[1,0,0,0,0,0,0,0,0,0,0,0,0,0,0,0], 48⟩)
    (prefixF ⟨[1,0,0,0,0,0,0,0,0,0,0,0,0,0,0,0], 64⟩) = false := by
  rw [← F.checkReps_eq]; decide +kernel
example : F.cexVec 16 (prefixF ⟨[1,0,0,0,0,0,0,0,0,0,0,0,0,0,0,0], 48⟩)
    (prefixF ⟨[1,0,0,0,0,0,0,0,0,0,0,0,0,0,0,0], 64⟩) = some [1,0,0,0,0,0,0,1,0,0,0,0,0,0,0,0] := by decide +kernel

-- `ip = ip.Unmap()` before the `Is4` test (the translator emits `D.unmap`): a 4in6 address
-- reaches the IPv4 predicate, evaluated on the unmapped address, so the `v4in6` obligation
-- (`= .on16 f6`) cannot hold; the other three kinds are not affected
example (f4 f6 : F) :
    (D.unmap (.ite .is4 (.on4 f4) (.on16 f6))).reach .v4in6 = .unmap (.on4 f4) ∧
    (D.unmap (.ite .is4 (.on4 f4) (.on16 f6))).reach .v4 = .on4 f4 ∧
    (D.unmap (.ite .is4 (.on4 f4) (.on16 f6))).reach .v6 = .on16 f6 := by
  simp [D.reach, Cond.holds]
example : (D.unmap (.ite .is4 (.on4 .ff) (.on16 .ff))).reach .v4in6 ≠ .on16 .ff := by decide
-- … and the model then really runs the IPv4 predicate on `10.0.0.1` for `::ffff:10.0.0.1`
example : (D.unmap (.ite .is4 (.on4 (prefixF ⟨[10,0,0,0], 8⟩)) (.on16 .ff))).eval
    (.v6 0x00000000000000000000ffff0a000001#128 "") = .ok true := by decide +kernel
-- an `Unmap` that only IPv4 addresses reach is the identity and changes nothing
example (f4 f6 : F) (k : Kind) :
    (D.ite .is4 (.unmap (.on4 f4)) (.on16 f6)).reach k = (D.ite .is4 (.on4 f4) (.on16 f6)).reach k := by
  cases k <;> simp [D.reach, Cond.holds]
-- the tagless `switch { case Is4: …; case Is6: …; default: false }` meets the four dispatch
-- obligations just like `if !IsValid {false}; if Is4 {…}; …`
example (f4 f6 : F) (k : Kind) :
    (D.ite .is4 (.on4 f4) (.ite .is6 (.on16 f6) (.ret false))).reach k =
    (D.ite .isValid (.ite .is4 (.on4 f4) (.on16 f6)) (.ret false)).reach k := by
  cases k <;> simp [D.reach, Cond.holds]

end GolibsVerif.C06
