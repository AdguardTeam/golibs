/-
C08 — property theorems.

Parse: for every byte stream, every `idna.ToASCII`, both kinds of destination and every
source name, `Parse` delivers exactly the records of the well-formed lines, in source order
and tagged with the source name, and reports every other line exactly once with its 1-based
number — to `HandleInvalid` or joined in the returned error.  Independence of the read
fragmentation is proved over the model of `bufio.Scanner` (`Go/Scanner.lean`, theorems in
`Theorems/C08Scan.lean`): `parse_scan_eq`, `parse_fragmentation`, `parse_scan_read_error`
quantify over arbitrary fragmentation scripts and buffers.

DefaultStorage: after any sequence of `Add`s on a new storage, `ByAddr` / `ByName` are the
first-seen-order de-duplications (by `strings.ToLower`, an arbitrary function here) of what
was added; the two indexes agree; no duplicates; a record without names changes nothing.
`RangeNames` / `RangeAddrs` visit every address that was added with a name / every lowered
name exactly once, with the `ByAddr` / `ByName` answer, in whatever order the map is
iterated, and stop at the first callback that returns false.  `Equal` decides equality of the
`ByAddr` answers (`equal_iff_byAddr`); it does NOT decide equality of the `ByName` answers,
only equality up to order (`equal_byName_perm`, `equal_not_byName`).
-/
import GolibsVerif.Lemmas.C08
import GolibsVerif.Theorems.C08Scan
import GolibsVerif.Lemmas.C08Range

namespace GolibsVerif.C08
open GolibsVerif GolibsVerif.Netip GolibsVerif.C07 GolibsVerif.Bufio

/-- **Exactness of `Parse`.**  There is exactly one outcome per line of the stream
(`Outcomes`, by position): a well-formed line (C07 grammar) is delivered as its record with
`Source = srcName`, any other line is reported with its own text and index + 1.  The calls
on `dst` and the returned error are exactly what these outcomes prescribe: every delivered
record one `Add`, in order; every reported line one `HandleInvalid` call (interleaved in
source order) when `dst` is a `HandleSet`, and otherwise one `*LineError` of the joined
returned error, which is nil iff nothing was reported.  In particular `Parse` does not
panic. -/
theorem parse_exact (toASCII : Bytes → Option Bytes) (isHandleSet : Bool) (srcName stream : Bytes) :
    ∃ evs, Outcomes toASCII srcName 0 (scanLines stream) evs ∧
      parse toASCII isHandleSet srcName false stream =
        .ok (callsOf isHandleSet srcName evs, retOf isHandleSet evs) := by
  exact ⟨_, eventsFrom_outcomes toASCII srcName _ 0, parse_eq toASCII isHandleSet srcName false stream⟩

/-- When the reader ends with an error other than `io.EOF`, the same calls are made for the
lines scanned, and the scanning error is returned instead of the collected line errors. -/
theorem parse_read_error (toASCII : Bytes → Option Bytes) (isHandleSet : Bool) (srcName stream : Bytes) :
    ∃ evs, Outcomes toASCII srcName 0 (scanLines stream) evs ∧
      parse toASCII isHandleSet srcName true stream = .ok (callsOf isHandleSet srcName evs, .scanning) := by
  exact ⟨_, eventsFrom_outcomes toASCII srcName _ 0, parse_eq toASCII isHandleSet srcName true stream⟩

/-- **`Parse` over the real scanner loop is `Parse` over the lines of the stream.**
`parseScan` runs `Parse` as the code does: `bufio.NewScanner(src)`,
`s.Buffer(buf, bufio.MaxScanTokenSize)`, `for s.Scan()`, `s.Err()`, over the model of
`bufio.Scanner` reading from a scripted reader.  For every stream whose lines are shorter than
`bufio.MaxScanTokenSize`, every buffer `buf`, and every fragmentation script that delivers the
whole stream and then `io.EOF` without more than 100 consecutive empty reads, the outcome is
that of `parse` on the whole stream (to which `parse_exact` applies). -/
theorem parse_scan_eq (toASCII : Bytes → Option Bytes) (isHandleSet : Bool) (srcName stream : Bytes)
    (bufCap : Nat) (script : Script) (hshort : LinesShort stream maxScanTokenSize)
    (hdel : delivered script = stream.length) (hend : ending script = .eof) (hstall : NoStall 0 script) :
    parseScan toASCII isHandleSet srcName bufCap stream script =
      parse toASCII isHandleSet srcName false stream := by
  unfold parseScan parse
  rw [scan_fragmentation_independent stream script bufCap maxScanTokenSize (by decide) hshort hdel hend hstall]
  rfl

/-- **Independence of the read fragmentation.**  Two readers that deliver
the same stream — by any two fragmentation scripts (1-byte reads, `(0, nil)` reads, data
together with `io.EOF`, …) and into any two buffers — give the same outcome of `Parse`: the
same calls on `dst` in the same order and the same returned error. -/
theorem parse_fragmentation (toASCII : Bytes → Option Bytes) (isHandleSet : Bool) (srcName stream : Bytes)
    (hshort : LinesShort stream maxScanTokenSize)
    (bufCap₁ bufCap₂ : Nat) (script₁ script₂ : Script)
    (hdel₁ : delivered script₁ = stream.length) (hend₁ : ending script₁ = .eof) (hstall₁ : NoStall 0 script₁)
    (hdel₂ : delivered script₂ = stream.length) (hend₂ : ending script₂ = .eof) (hstall₂ : NoStall 0 script₂) :
    parseScan toASCII isHandleSet srcName bufCap₁ stream script₁ =
      parseScan toASCII isHandleSet srcName bufCap₂ stream script₂ := by
  rw [parse_scan_eq toASCII isHandleSet srcName stream bufCap₁ script₁ hshort hdel₁ hend₁ hstall₁,
    parse_scan_eq toASCII isHandleSet srcName stream bufCap₂ script₂ hshort hdel₂ hend₂ hstall₂]

/-- **A failing reader.**  When the script ends with an error other than `io.EOF` after
delivering a prefix of the stream, never answers `(0, nil)` more than 100 times in a row before
that (`NoStall`; a longer stall ends the input with `io.ErrNoProgress` and whatever the script
holds behind it is never read), and the lines of the prefix are shorter than
`bufio.MaxScanTokenSize`, then however the prefix is fragmented the outcome is that of `parse`
with `readErr = true` on it (to which `parse_read_error` applies): the calls for its lines, its
unterminated tail included, and the scanning error. -/
theorem parse_scan_read_error (toASCII : Bytes → Option Bytes) (isHandleSet : Bool) (srcName stream : Bytes)
    (bufCap : Nat) (script : Script) (e : Err)
    (hdel : delivered script ≤ stream.length) (hend : ending script = e) (hne : e ≠ .eof)
    (hstall : NoStall 0 script) (hshort : LinesShort (stream.take (delivered script)) maxScanTokenSize) :
    parseScan toASCII isHandleSet srcName bufCap stream script =
      parse toASCII isHandleSet srcName true (stream.take (delivered script)) := by
  unfold parseScan parse
  rw [scan_read_error stream script bufCap maxScanTokenSize e (by decide) hdel hend hne hstall hshort]
  rfl

/-- **What the lines of a stream are** (the model of `bufio.ScanLines`, stated as the property
reads it): LF-terminated lines, each without its terminator and without one CR before it; a
last line without LF counts when it is not empty. -/
theorem scanLines_lines (ls : List Bytes) (hls : ∀ l ∈ ls, ∀ b ∈ l, b ≠ 10)
    (last : Bytes) (hlast : ∀ b ∈ last, b ≠ 10) :
    scanLines ((ls.flatMap fun l => l ++ [10]) ++ last) =
      ls.map dropCR ++ (if last = [] then [] else [dropCR last]) := by
  induction ls with
  | nil => exact scanLines_tail last (fun h => hlast 10 h rfl)
  | cons l ls ih =>
    rw [List.flatMap_cons, List.append_assoc, List.append_assoc, List.singleton_append,
      scanLines_cons_line l _ (fun h => hls l List.mem_cons_self 10 h rfl),
      ih (fun l' hl' => hls l' (List.mem_cons_of_mem _ hl'))]
    rfl

/-- `Add` never panics (the pointer `s.names[rec.Addr]` it dereferences in the loop was
created before the loop), for any sequence of records and any starting storage. -/
theorem adds_total (lower : Bytes → Bytes) (s : Storage) (rs : List Record) :
    ∃ s', adds lower s rs = .ok s' :=
  let ⟨s', h, _⟩ := adds_spec lower rs s
  ⟨s', h⟩

/-- **Refinement.**  After any sequence of `Add`s on a new storage, `ByAddr(a)` is the list
of names added with `a`, in first-seen order without `lower`-duplicates, and `ByName(n)` is
the list of addresses added with a name that lower-cases like `n`, in first-seen order
without duplicates. -/
theorem storage_refines (lower : Bytes → Bytes) (rs : List Record) (s : Storage)
    (h : adds lower Storage.empty rs = .ok s) :
    (∀ a, byAddr s a = firstSeenBy lower (namesFor rs a)) ∧
    (∀ n, byName lower s n = firstSeenBy id (addrsFor lower rs n)) := by
  exact ⟨byAddr_of_adds h, byName_of_adds h⟩

/-- **The two indexes agree.**  `a` is listed under `ByName(n)` iff some name listed under
`ByAddr(a)` lower-cases like `n`. -/
theorem indexes_agree (lower : Bytes → Bytes) (rs : List Record) (s : Storage)
    (h : adds lower Storage.empty rs = .ok s) (a : Addr) (n : Bytes) :
    a ∈ byName lower s n ↔ ∃ m ∈ byAddr s a, lower m = lower n := by
  rw [byName_of_adds h, mem_firstSeenBy_id]
  exact mem_addrsUnder_iff h a (lower n)

/-- **No duplicates.**  `ByAddr(a)` never holds two names with the same lower-cased form,
`ByName(n)` never holds an address twice. -/
theorem no_dups (lower : Bytes → Bytes) (rs : List Record) (s : Storage)
    (h : adds lower Storage.empty rs = .ok s) :
    (∀ a, ((byAddr s a).map lower).Nodup) ∧ (∀ n, (byName lower s n).Nodup) := by
  obtain ⟨h1, h2⟩ := storage_refines lower rs s h
  constructor
  · intro a; rw [h1 a]; exact firstSeenBy_nodup lower _
  · intro n
    rw [h2 n]
    simpa using firstSeenBy_nodup id (addrsFor lower rs n)

/-- **A record without names changes nothing**: `Add` returns the storage it was given, so
every observation — `ByAddr`, `ByName`, both `Range` functions, `Equal` in both directions
against any other storage (or nil) — is the same before and after. -/
theorem nameless_noop (lower : Bytes → Bytes) (s : Storage) (r : Record) (h : r.names = []) :
    ∃ s', add lower s r = .ok s' ∧ observe lower s' = observe lower s := by
  refine ⟨s, ?_, rfl⟩
  simp [add, h, pure, Except.pure]

/-- **What `RangeNames` visits** (callback always continuing), after any sequence of `Add`s on
a new storage.  No address is visited twice; the pair `(a, names)` is visited iff some added
record with `Addr = a` had at least one name, and then `names` is `ByAddr(a)`; such an
address is visited exactly once; no visited slice is empty.  Nothing is said about the order
(Go leaves it unspecified; `rangeNames_perm` gives the multiset in closed form). -/
theorem rangeNames_spec (lower : Bytes → Bytes) (rs : List Record) (s : Storage)
    (h : adds lower Storage.empty rs = .ok s) :
    ((rangeNames s).map (·.1)).Nodup ∧
    (∀ a ns, (a, ns) ∈ rangeNames s ↔ (∃ r ∈ rs, r.addr = a ∧ r.names ≠ []) ∧ ns = byAddr s a) ∧
    (∀ a, (∃ r ∈ rs, r.addr = a ∧ r.names ≠ []) → (rangeNames s).count (a, byAddr s a) = 1) ∧
    (∀ e ∈ rangeNames s, e.2 ≠ []) := by
  have := (adds_refines h).1.range
  simp only [namesFor_ne_nil, ← byAddr_of_adds h] at this
  exact this

/-- the same as a multiset, in closed form: the addresses of the added `(address, name)`
pairs, each once, each with the first-seen-order de-duplication of its names -/
theorem rangeNames_perm (lower : Bytes → Bytes) (rs : List Record) (s : Storage)
    (h : adds lower Storage.empty rs = .ok s) :
    (rangeNames s).Perm
      ((firstSeenBy id ((pairs rs).map (·.1))).map fun a => (a, firstSeenBy lower (namesFor rs a))) := by
  have hnd : ((rangeNames s).map (·.1)).Nodup := by rw [rangeNames_keys]; exact (adds_refines h).1.1
  have hnd2 : (((firstSeenBy id ((pairs rs).map (·.1))).map
      fun a => (a, firstSeenBy lower (namesFor rs a))).map (·.1)).Nodup := by
    rw [List.map_map]
    simpa [Function.comp_def] using firstSeenBy_nodup id ((pairs rs).map (·.1))
  have hfst : ∀ a, namesFor rs a ≠ [] ↔ a ∈ (pairs rs).map (·.1) := by
    intro a
    unfold namesFor
    rw [filter_map_ne_nil, List.mem_map]
    simp only [decide_eq_true_eq]
  rw [List.perm_ext_iff_of_nodup (List.Nodup.of_map _ hnd) (List.Nodup.of_map _ hnd2)]
  rintro ⟨a, ns⟩
  rw [show ((a, ns) ∈ rangeNames s ↔ _) from (adds_refines h).1.mem_range a ns, List.mem_map, hfst]
  constructor
  · rintro ⟨ha, rfl⟩
    exact ⟨a, (mem_firstSeenBy_id _ _).2 ha, rfl⟩
  · rintro ⟨a', ha', heq⟩
    cases heq
    exact ⟨(mem_firstSeenBy_id _ _).1 ha', rfl⟩

/-- **What `RangeAddrs` visits.**  No host is visited twice; the pair `(host, addrs)` is
visited iff `host` is the lower-cased form of some name `n` of some added record, and then
`addrs` is `ByName(n)`; the lower-cased form of every added name is visited exactly once; no
visited slice is empty. -/
theorem rangeAddrs_spec (lower : Bytes → Bytes) (rs : List Record) (s : Storage)
    (h : adds lower Storage.empty rs = .ok s) :
    ((rangeAddrs s).map (·.1)).Nodup ∧
    (∀ k as, (k, as) ∈ rangeAddrs s ↔
      ∃ r ∈ rs, ∃ n ∈ r.names, k = lower n ∧ as = byName lower s n) ∧
    (∀ r ∈ rs, ∀ n ∈ r.names, (rangeAddrs s).count (lower n, byName lower s n) = 1) ∧
    (∀ e ∈ rangeAddrs s, e.2 ≠ []) := by
  obtain ⟨hnd, hmem, hcount, hne⟩ := (adds_refines h).2.range
  refine ⟨hnd, fun k as => ?_, fun r hr n hnm => ?_, hne⟩
  · rw [show ((k, as) ∈ rangeAddrs s ↔ _) from hmem k as, addrsUnder_ne_nil]
    constructor
    · rintro ⟨⟨r, hr, n, hnm, rfl⟩, rfl⟩
      exact ⟨r, hr, n, hnm, rfl, (byName_of_adds h n).symm⟩
    · rintro ⟨r, hr, n, hnm, rfl, rfl⟩
      exact ⟨⟨r, hr, n, hnm, rfl⟩, byName_of_adds h n⟩
  · rw [byName_of_adds h n]
    exact hcount (lower n) (addrsUnder_ne_nil.2 ⟨r, hr, n, hnm, rfl⟩)

/-- **A callback returning false stops `RangeNames`.**  `ord` is the order in which the Go
runtime happens to iterate `s.names` (any permutation of the map's entries), `f` the callback
with whatever state `σ` it closes over, `rangeLoop` the loop
`for addr, names := range s.names { if !f(addr, names.vals) { return } }`.  The pairs the
callback is called with are a prefix of `ord`; every call but the last answered true; if the
loop did not reach the end of the map the last call answered false (so nothing is called
after a false); if no call answered false the whole map was visited.  And whatever prefix is
visited, no address occurs in it twice and every visited pair is `(a, ByAddr(a))`. -/
theorem range_early_stop {σ : Type} (lower : Bytes → Bytes) (rs : List Record) (s : Storage)
    (h : adds lower Storage.empty rs = .ok s)
    (f : σ → Addr × List Bytes → Bool × σ) (st : σ)
    (ord : List (Addr × List Bytes)) (hord : ord.Perm (rangeNames s)) :
    let log := (rangeLoop f st ord).1
    log.map (·.1) <+: ord ∧
    (∀ e ∈ log.dropLast, e.2 = true) ∧
    (log.map (·.1) ≠ ord → ∃ e, log.getLast? = some e ∧ e.2 = false) ∧
    ((∀ e ∈ log, e.2 = true) → log.map (·.1) = ord) ∧
    ((log.map (·.1)).map (·.1)).Nodup ∧
    (∀ e ∈ log, e.1.2 = byAddr s e.1.1 ∧ ∃ r ∈ rs, r.addr = e.1.1 ∧ r.names ≠ []) := by
  intro log
  obtain ⟨p1, p2, p3, p4⟩ := rangeLoop_spec f ord st
  obtain ⟨hnd, hmem, _, _⟩ := rangeNames_spec lower rs s h
  obtain ⟨q1, q2⟩ := rangeLoop_perm f st hord hnd
  exact ⟨p1, p2, p3, p4, q1, fun e he => ((hmem e.1.1 e.1.2).1 (q2 e he)).symm⟩

/-- the same for `RangeAddrs` -/
theorem rangeAddrs_early_stop {σ : Type} (lower : Bytes → Bytes) (rs : List Record) (s : Storage)
    (h : adds lower Storage.empty rs = .ok s)
    (f : σ → Bytes × List Addr → Bool × σ) (st : σ)
    (ord : List (Bytes × List Addr)) (hord : ord.Perm (rangeAddrs s)) :
    let log := (rangeLoop f st ord).1
    log.map (·.1) <+: ord ∧
    (∀ e ∈ log.dropLast, e.2 = true) ∧
    (log.map (·.1) ≠ ord → ∃ e, log.getLast? = some e ∧ e.2 = false) ∧
    ((∀ e ∈ log, e.2 = true) → log.map (·.1) = ord) ∧
    ((log.map (·.1)).map (·.1)).Nodup ∧
    (∀ e ∈ log, ∃ r ∈ rs, ∃ n ∈ r.names, e.1.1 = lower n ∧ e.1.2 = byName lower s n) := by
  intro log
  obtain ⟨p1, p2, p3, p4⟩ := rangeLoop_spec f ord st
  obtain ⟨hnd, hmem, _, _⟩ := rangeAddrs_spec lower rs s h
  obtain ⟨q1, q2⟩ := rangeLoop_perm f st hord hnd
  exact ⟨p1, p2, p3, p4, q1, fun e he => (hmem e.1.1 e.1.2).1 (q2 e he)⟩

/-- a callback that never returns false is called on every entry (this is the `rangeNames` /
`rangeAddrs` of the model, for any iteration order) -/
theorem range_no_stop {α σ : Type} (g : σ → α → σ) (st : σ) (ord : List α) :
    (rangeLoop (fun st x => (true, g st x)) st ord).1.map (·.1) = ord := rangeLoop_all g ord st

/-- nil receivers and arguments: nil equals nil and nothing else — in particular an empty
storage and a nil one are not equal, either way round (as documented) -/
theorem equal_nil :
    equal none none = true ∧
    (∀ s, equal none (some s) = false ∧ equal (some s) none = false) ∧
    equal (some Storage.empty) none = false ∧ equal none (some Storage.empty) = false :=
  ⟨rfl, fun _ => ⟨rfl, rfl⟩, rfl, rfl⟩

/-- **What `Equal` compares**, for any two non-nil storages (reachable or not): `len(names)`,
`len(addrs)`, and for every entry of the receiver's `names` map the presence of the key in
the other `names` map with an equal names slice.  The `addrs` map is consulted for its length
only. -/
theorem equal_decides (s o : Storage) :
    equal (some s) (some o) = true ↔
      s.names.length = o.names.length ∧ s.addrs.length = o.addrs.length ∧
      ∀ e ∈ s.names, ∃ on, o.names.get e.1 = some on ∧ e.2.vals = on.vals :=
  equal_some_iff s o

/-- **What `Equal` decides** for two storages each reached by `Add`s from a new one (with the
same `strings.ToLower`): exactly "the `ByAddr` answers are the same for every address".
The two length comparisons are implied by it (see `equal_iff`). -/
theorem equal_iff_byAddr (lower : Bytes → Bytes) (rs₁ rs₂ : List Record) (s t : Storage)
    (hs : adds lower Storage.empty rs₁ = .ok s) (ht : adds lower Storage.empty rs₂ = .ok t) :
    equal (some s) (some t) = true ↔ ∀ a, byAddr s a = byAddr t a := by
  have sn := (adds_refines hs).1.1
  constructor
  · intro h; exact (equal_byAddr sn h).2
  · intro hb
    obtain ⟨hkn, hln, hla⟩ := keys_of_byAddr_eq hs ht hb
    rw [equal_some_iff]
    refine ⟨hln, hla, ?_⟩
    rintro ⟨a, os⟩ he
    have hg := get_of_mem sn he
    obtain ⟨on, hg'⟩ := get_of_mem_keys ((hkn a).1 (mem_keys_of_get hg))
    refine ⟨on, hg', ?_⟩
    have := hb a
    simpa [byAddr, hg, hg'] using this

/-- the three-part reading: `Equal` holds iff the `ByAddr` answers agree, the same addresses
were added with names, and the numbers of distinct lowered names agree — the last two parts
being consequences of the first for storages built by `Add`s. -/
theorem equal_iff (lower : Bytes → Bytes) (rs₁ rs₂ : List Record) (s t : Storage)
    (hs : adds lower Storage.empty rs₁ = .ok s) (ht : adds lower Storage.empty rs₂ = .ok t) :
    (equal (some s) (some t) = true ↔
      (∀ a, byAddr s a = byAddr t a) ∧
      (∀ a, (∃ r ∈ rs₁, r.addr = a ∧ r.names ≠ []) ↔ (∃ r ∈ rs₂, r.addr = a ∧ r.names ≠ [])) ∧
      (rangeAddrs s).length = (rangeAddrs t).length) ∧
    ((∀ a, byAddr s a = byAddr t a) →
      (∀ a, (∃ r ∈ rs₁, r.addr = a ∧ r.names ≠ []) ↔ (∃ r ∈ rs₂, r.addr = a ∧ r.names ≠ [])) ∧
      (rangeAddrs s).length = (rangeAddrs t).length) := by
  have himp : (∀ a, byAddr s a = byAddr t a) →
      (∀ a, (∃ r ∈ rs₁, r.addr = a ∧ r.names ≠ []) ↔ (∃ r ∈ rs₂, r.addr = a ∧ r.names ≠ [])) ∧
      (rangeAddrs s).length = (rangeAddrs t).length := by
    intro hb
    constructor
    · intro a
      rw [← byAddr_ne_nil_iff hs, ← byAddr_ne_nil_iff ht, hb]
    · have := (keys_of_byAddr_eq hs ht hb).2.2
      simpa [rangeAddrs] using this
  refine ⟨?_, himp⟩
  rw [equal_iff_byAddr lower rs₁ rs₂ s t hs ht]
  exact ⟨fun hb => ⟨hb, himp hb⟩, fun h => h.1⟩

/-- on storages built by `Add`s, `Equal` is reflexive, symmetric and transitive -/
theorem equal_equiv (lower : Bytes → Bytes) (rs₁ rs₂ rs₃ : List Record) (s t u : Storage)
    (hs : adds lower Storage.empty rs₁ = .ok s) (ht : adds lower Storage.empty rs₂ = .ok t)
    (hu : adds lower Storage.empty rs₃ = .ok u) :
    equal (some s) (some s) = true ∧
    (equal (some s) (some t) = true → equal (some t) (some s) = true) ∧
    (equal (some s) (some t) = true → equal (some t) (some u) = true →
      equal (some s) (some u) = true) := by
  rw [equal_iff_byAddr lower _ _ _ _ hs hs, equal_iff_byAddr lower _ _ _ _ hs ht,
    equal_iff_byAddr lower _ _ _ _ ht hs, equal_iff_byAddr lower _ _ _ _ ht hu,
    equal_iff_byAddr lower _ _ _ _ hs hu]
  exact ⟨fun _ => rfl, fun h a => (h a).symm, fun h1 h2 a => (h1 a).trans (h2 a)⟩

/-- **`Equal` and `ByName`.**  Two `Equal` storages built by `Add`s give, for every host, the
same addresses — as a set: `ByName` answers are permutations of each other, and `RangeAddrs`
visits the same hosts. -/
theorem equal_byName_perm (lower : Bytes → Bytes) (rs₁ rs₂ : List Record) (s t : Storage)
    (hs : adds lower Storage.empty rs₁ = .ok s) (ht : adds lower Storage.empty rs₂ = .ok t)
    (h : equal (some s) (some t) = true) :
    (∀ n, (byName lower s n).Perm (byName lower t n)) ∧
    (∀ k, k ∈ (rangeAddrs s).map (·.1) ↔ k ∈ (rangeAddrs t).map (·.1)) := by
  have hb := (equal_iff_byAddr lower rs₁ rs₂ s t hs ht).1 h
  constructor
  · intro n
    rw [List.perm_ext_iff_of_nodup ((no_dups lower rs₁ s hs).2 n) ((no_dups lower rs₂ t ht).2 n)]
    intro a
    rw [indexes_agree lower rs₁ s hs, indexes_agree lower rs₂ t ht, hb]
  · intro k
    rw [rangeAddrs_keys, rangeAddrs_keys, mem_keys_addrs_iff hs, mem_keys_addrs_iff ht]
    simp only [hb]

/-- two `Add` histories of the same two records in opposite orders -/
def recX1 : Record := { addr := .v4 [1, 1, 1, 1], source := [], names := [[120]] }
def recX2 : Record := { addr := .v4 [2, 2, 2, 2], source := [], names := [[120]] }
def stX12 : Storage :=
  { names := [(.v4 [1, 1, 1, 1], ⟨[[120]], [[120]]⟩), (.v4 [2, 2, 2, 2], ⟨[[120]], [[120]]⟩)],
    addrs := [([120], ⟨[.v4 [1, 1, 1, 1], .v4 [2, 2, 2, 2]], [.v4 [1, 1, 1, 1], .v4 [2, 2, 2, 2]]⟩)] }
def stX21 : Storage :=
  { names := [(.v4 [2, 2, 2, 2], ⟨[[120]], [[120]]⟩), (.v4 [1, 1, 1, 1], ⟨[[120]], [[120]]⟩)],
    addrs := [([120], ⟨[.v4 [2, 2, 2, 2], .v4 [1, 1, 1, 1]], [.v4 [2, 2, 2, 2], .v4 [1, 1, 1, 1]]⟩)] }

/-- **`Equal` does not imply equal `ByName` answers** (nor equal `RangeAddrs` pairs).
`1.1.1.1 x` then `2.2.2.2 x`, against the same two records in the other order: the `names`
indexes and both counts agree, so `Equal` is true in both directions, but `ByName("x")` is
`[1.1.1.1, 2.2.2.2]` for the one and `[2.2.2.2, 1.1.1.1]` for the other.  (The `addrs` index
is determined by the `names` index and the counts only up to the order inside each slice.) -/
theorem equal_not_byName :
    adds Str.asciiLower Storage.empty [recX1, recX2] = .ok stX12 ∧
    adds Str.asciiLower Storage.empty [recX2, recX1] = .ok stX21 ∧
    equal (some stX12) (some stX21) = true ∧ equal (some stX21) (some stX12) = true ∧
    byName Str.asciiLower stX12 [120] = [.v4 [1, 1, 1, 1], .v4 [2, 2, 2, 2]] ∧
    byName Str.asciiLower stX21 [120] = [.v4 [2, 2, 2, 2], .v4 [1, 1, 1, 1]] ∧
    byName Str.asciiLower stX12 [120] ≠ byName Str.asciiLower stX21 [120] ∧
    (∀ e ∈ rangeAddrs stX12, e ∉ rangeAddrs stX21) := by
  refine ⟨rfl, rfl, by decide, by decide, by decide, by decide, by decide, by decide⟩

/-! ### Non-vacuity, and the defect of the unchanged tree -/

def rec1 : Record := { addr := .v4 [1, 2, 3, 4], source := [], names := [[65], [97], [98]] }
def rec2 : Record := { addr := .v4 [1, 2, 3, 5], source := [], names := [[97]] }
def nameless : Record := { addr := .v4 [9, 9, 9, 9], source := [], names := [] }

/-- `"A"`, `"a"`, `"b"` added with 1.2.3.4 (ASCII lower-casing): `"a"` is a duplicate of `"A"` -/
example : firstSeenBy Str.asciiLower (namesFor [rec1, nameless, rec2] (.v4 [1, 2, 3, 4])) = [[65], [98]] := by decide
example : firstSeenBy id (addrsFor Str.asciiLower [rec1, nameless, rec2] [65]) = [.v4 [1, 2, 3, 4], .v4 [1, 2, 3, 5]] := by
  decide

/-- On the unchanged tree (`addUnfixed`: no early return) a nameless record is observable:
`RangeNames` yields `(9.9.9.9, nil)` and the storage stops being `Equal` to a new one. -/
def unfixedObservable : Bool :=
  match addUnfixed Str.asciiLower Storage.empty nameless with
  | .ok s' => decide (rangeNames s' = [(.v4 [9, 9, 9, 9], [])]) && !equal (some s') (some Storage.empty)
  | .error _ => false

example : unfixedObservable = true := by decide

/-- a two-line file with CRLF and a missing final newline -/
example : scanLines (ascii "1.2.3.4 a\r\n# c\n::1 b") = [ascii "1.2.3.4 a", ascii "# c", ascii "::1 b"] := by
  rw [ascii_ofList, ascii_ofList, ascii_ofList, ascii_ofList]; decide

end GolibsVerif.C08
