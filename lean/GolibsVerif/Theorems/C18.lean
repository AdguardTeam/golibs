/-
C18 — property theorems for the service lifecycle: `SignalHandler.Handle / shutdown` and the
`RefreshWorker` loop (models in `Model/C18.lean`, observation functions and helper lemmas in
`Lemmas/C18.lean`, expected event graphs in `Model/C18Skel.lean`).
Only property theorems and non-vacuity examples live here.

Every theorem quantifies over ALL outcome vectors / signal sequences / environments (schedule
answers, immediately-ready timers, resolutions of `select`'s random choice) / event histories.
-/
import GolibsVerif.Lemmas.C18
import GolibsVerif.Model.C18Skel
import GolibsVerif.Gen.SyncSkel


namespace GolibsVerif.C18
open GolibsVerif.Gen.Consts (ExitCodeSuccess ExitCodeFailure)

/-! ## The regenerated tie: the code still has the synchronisation structure the models were
written against

The objects compared are event graphs in normal form (`Go/Skel.lean`, `gen/syncskel.go`) of
the four ENTRY POINTS, with every function of their own package inlined: `skel_handle` covers
`Handle`, `shutdown`, `shutdownService`; `skel_start` covers `Start`, `refreshInALoop`,
`refresh`; `skel_workerShutdown` covers `Shutdown`, `refresh`; `skel_isShutdownSignal` covers
`IsShutdownSignal`, `isShutdownSignal`. -/

theorem skel_handle :
    Gen.SyncSkel.service_SignalHandler_Handle = Expected.service_SignalHandler_Handle := rfl

theorem skel_isShutdownSignal :
    Gen.SyncSkel.osutil_IsShutdownSignal = Expected.osutil_IsShutdownSignal := rfl

theorem skel_start :
    Gen.SyncSkel.service_RefreshWorker_Start = Expected.service_RefreshWorker_Start := rfl

theorem skel_workerShutdown :
    Gen.SyncSkel.service_RefreshWorker_Shutdown = Expected.service_RefreshWorker_Shutdown := rfl

/-- the two exit codes the status aggregation distinguishes are different (regenerated) -/
theorem exit_codes_distinct : ExitCodeSuccess ≠ ExitCodeFailure := by decide

/-! ## Part 1 — SignalHandler -/

theorem statusOf_iff (svcs : List Outcome) :
    (statusOf svcs = ExitCodeSuccess ↔ ∀ o ∈ svcs, o = Outcome.nil) ∧
    (statusOf svcs = ExitCodeSuccess ∨ statusOf svcs = ExitCodeFailure) := by
  have hall : svcs.all (· == Outcome.nil) = true ↔ ∀ o ∈ svcs, o = Outcome.nil := by simp
  rw [statusOf, ← hall]
  cases svcs.all (· == Outcome.nil) <;> simp [exit_codes_distinct.symm]

/-- For EVERY outcome vector — errors and panics included — `shutdown`
enters `Shutdown` of every registered service exactly once, in reverse registration order
(`n-1, …, 1, 0`), and returns a status (no panic leaves the function, no index is out of
range). -/
theorem shutdown_reverse_once (svcs : List Outcome) :
    (shutdown svcs).calls = (List.range svcs.length).reverse ∧
    ∃ status, (shutdown svcs).result = .ok status :=
  shutdown_eq svcs ▸ ⟨rfl, _, rfl⟩

/-- For every outcome vector, including those with panics,
the status is `ExitCodeSuccess` exactly when every service returned nil; otherwise it is
`ExitCodeFailure`. -/
theorem status_success_only_if_all_nil (svcs : List Outcome) :
    ((shutdown svcs).result = .ok ExitCodeSuccess ↔ ∀ o ∈ svcs, o = Outcome.nil) ∧
    ((shutdown svcs).result = .ok ExitCodeSuccess ∨ (shutdown svcs).result = .ok ExitCodeFailure) := by
  rw [shutdown_eq]
  simpa using statusOf_iff svcs

/-- A non-shutdown signal is skipped: it has no effect on what `Handle` does. -/
theorem nonshutdown_ignored (pre rest : List Signal) (svcs : List Outcome)
    (hpre : ∀ s ∈ pre, isShutdownSignal s = false) :
    handle (pre ++ rest) svcs = handle rest svcs := by
  rw [handle_eq, handle_eq, List.any_append, any_isShutdownSignal_false hpre, Bool.false_or]

/-- As long as only non-shutdown signals arrive, `Handle` keeps blocking and no service is
touched. -/
theorem nonshutdown_blocks (sigs : List Signal) (svcs : List Outcome)
    (h : ∀ s ∈ sigs, isShutdownSignal s = false) : handle sigs svcs = .blocked := by
  rw [handle_eq, any_isShutdownSignal_false h]
  rfl

/-- On the FIRST shutdown signal — whatever came before and whatever comes after — `Handle`
shuts every service down exactly once in reverse order and returns the aggregated status,
which is `ExitCodeSuccess` only if (indeed iff) every service's `Shutdown` returned nil. -/
theorem handle_first_shutdown_signal (pre post : List Signal) (sig : Signal) (svcs : List Outcome)
    (hpre : ∀ s ∈ pre, isShutdownSignal s = false) (hsig : isShutdownSignal sig = true) :
    ∃ status, handle (pre ++ sig :: post) svcs = .returned status (List.range svcs.length).reverse ∧
      (status = ExitCodeSuccess ↔ ∀ o ∈ svcs, o = Outcome.nil) ∧
      (status = ExitCodeSuccess ∨ status = ExitCodeFailure) :=
  ⟨statusOf svcs, by rw [nonshutdown_ignored pre _ svcs hpre, handle_eq, List.any_cons, hsig]; rfl,
    statusOf_iff svcs⟩

/-- Whatever `Handle` returns, a success status means that every registered service was shut
down (exactly once, in reverse order) and returned nil. -/
theorem handle_success_only_if_all_shut_down (sigs : List Signal) (svcs : List Outcome)
    (calls : List Nat) (h : handle sigs svcs = .returned ExitCodeSuccess calls) :
    calls = (List.range svcs.length).reverse ∧ ∀ o ∈ svcs, o = Outcome.nil := by
  rw [handle_eq] at h
  split at h
  · injection h with h1 h2
    exact ⟨h2.symm, (statusOf_iff svcs).1.1 h1⟩
  · cases h

/-- The code before the repair (no per-service recovery), on the witness of DESIGN.md §9 #14:
services `[nil, panic, nil]`, one SIGTERM.  Service 0 is never shut down and `Handle` returns
`0 = ExitCodeSuccess`. -/
example : handleG false [.sys SIGTERM] [.nil, .panic, .nil] = .returned ExitCodeSuccess [2, 1] := by decide

/-- the repaired code on the same witness -/
example : handle [.sys SIGTERM] [.nil, .panic, .nil] = .returned ExitCodeFailure [2, 1, 0] := by decide

/-- hypotheses of the signal theorems are satisfiable: SIGHUP (1), SIGUSR1 (10) and a foreign
`os.Signal` value are not shutdown signals; SIGINT, SIGQUIT, SIGTERM are -/
example : (∀ s ∈ [Signal.sys 1, .sys 10, .other SIGINT], isShutdownSignal s = false) ∧
    isShutdownSignal (.sys SIGINT) = true ∧ isShutdownSignal (.sys SIGQUIT) = true ∧
    isShutdownSignal (.sys SIGTERM) = true := by decide

/-! ## Part 2 — RefreshWorker -/

/-- Go's random choice between two ready `select` cases cannot be observed in the repaired
code: two environments that agree on the schedule and on which timers are ready at once yield
the same run, whatever `pick` says. -/
theorem select_choice_irrelevant (env env' : Env) (hd : env.dur = env'.dur) (hi : env.imm = env'.imm)
    (ros : Bool) (evs : List Ev) : run env ros evs = run env' ros evs := by
  have hlt : ∀ s, loopTop true env s = loopTop true env' s := by
    intro s
    rw [loopTop_eq, loopTop_eq, hd, hi]
  have hstep : ∀ s ev, stepG true env ros s ev = stepG true env' ros s ev := by
    intro s ev
    cases ev with
    | tick => rfl
    | refreshReturns c e => cases c <;> simp only [stepG, hlt]
    | shutdown => rfl
  have hrun : ∀ s, runFromG true env ros s evs = runFromG true env' ros s evs := by
    induction evs with
    | nil => intro s; rfl
    | cons e es ih => intro s; simp only [runFromG]; rw [hstep, ih]
  simp only [run, runG]
  rw [show initG true env = initG true env' from hlt _, hrun]

theorem reachable_inv (env : Env) (ros : Bool) (evs : List Ev) : Inv (run env ros evs).1 :=
  inv_run (run_spec env ros evs) inv_start

/-- `refresh_once_per_tick`, responsiveness: in every reachable state in which the loop waits on
an armed timer, a tick starts exactly one `Refresh`, with the context the constructor made from
`Start`'s context, and nothing else; a tick without an armed timer does nothing. -/
theorem tick_starts_one_refresh (env : Env) (ros : Bool) (pre : List Ev) :
    let s := (run env ros pre).1
    (s.loop = .waiting → step env ros s .tick = ({ s with loop := .refreshing }, [.refresh (.cons .start)])) ∧
    (s.loop ≠ .waiting → step env ros s .tick = (s, [])) := by
  intro s
  have hinv : Inv s := reachable_inv env ros pre
  constructor
  · intro hl
    have hc : s.closed = false := hinv.1 hl
    simp [step, stepG, hl, timerCase, hc, refreshStart]
  · intro hl
    cases h : s.loop <;> simp_all [step, stepG]

/-- `refresh_once_per_tick`, exactly once: in the trace of every history, the loop's `Refresh`
calls correspond one-to-one to the armed timers (`After` calls) — except for the last timer
when it is still pending or was cancelled by `Shutdown`.  So no interval is refreshed twice,
none is skipped, and no refresh happens without an interval. -/
theorem refresh_once_per_tick (env : Env) (ros : Bool) (evs : List Ev) :
    (flat (run env ros evs).2).countP isLoopRefresh + pend (run env ros evs).1 =
      (flat (run env ros evs).2).countP isAfter :=
  cnt_run (run_spec env ros evs) inv_start

/-- every `Refresh` gets a context made by the context constructor (from `Start`'s context in
the loop, from `Shutdown`'s context for the final refresh) -/
theorem refresh_ctx_from_constructor (env : Env) (ros : Bool) (evs : List Ev) :
    ∀ o ∈ flat (run env ros evs).2, isRefresh o = true →
      o = .refresh (.cons .start) ∨ o = .refresh (.cons .shutdown) :=
  refresh_ctx_run (run_spec env ros evs)

/-- For every history, the errors handed to the `ErrorHandler` are exactly
the non-nil errors returned by the loop's refreshes — each once, in order, and nothing else
(in particular not the error of the final refresh, which `Shutdown` returns). -/
theorem error_handled_once (env : Env) (ros : Bool) (evs : List Ev) :
    handled (flat (run env ros evs).2) = ((accepted env ros evs).filterMap loopErr).filter (· ≠ 0) :=
  -- the nil error of `startEv` is among the accepted returns and filtered out
  (handled_run (run_spec env ros evs) :)

/-- For every history, `UntilNext` is consulted once at the
start and exactly once after each completed loop refresh, and the durations requested from the
clock are, call by call, the schedule's answers: the `i`-th `After` gets the `i`-th answer. -/
theorem schedule_consulted_after_each (env : Env) (ros : Bool) (evs : List Ev) :
    (flat (run env ros evs).2).countP isUntilNext = 1 + ((accepted env ros evs).filterMap loopErr).length ∧
    afters (flat (run env ros evs).2) =
      (List.range ((flat (run env ros evs).2).countP isUntilNext)).map env.dur := by
  obtain ⟨b1, -, b3⟩ := sched_run (run_spec env ros evs)
  rw [accepted_start] at b1
  exact ⟨b1.trans (Nat.add_comm ..), List.range_eq_range' ▸ b3⟩

/-- Take any history `pre` without a `Shutdown` call, then the
`Shutdown` call, then any further events `post`.  From the call of `Shutdown` on
  * the loop starts no refresh any more (whatever timers are ready, whatever `select` picks);
  * exactly one more `Refresh` is started iff `RefreshOnShutdown` is set — the final one, with the
    context made from `Shutdown`'s context — and none otherwise;
  * `Shutdown` returns exactly once: nil without the final refresh, otherwise the error of that
    final refresh (the first completion of it in `post`). -/
theorem no_refresh_after_shutdown (env : Env) (ros : Bool) (pre post : List Ev)
    (hpre : Ev.shutdown ∉ pre) :
    let s := (run env ros pre).1
    let tr := flat (runFrom env ros s (.shutdown :: post)).2
    tr.countP isLoopRefresh = 0 ∧
    tr.countP isFinalRefresh = (if ros then 1 else 0) ∧
    tr.countP isRefresh = (if ros then 1 else 0) ∧
    shutdownRets tr = (if ros then (post.filterMap finalErr).take 1 else [0]) := by
  intro s tr
  have hc : s.closed = false :=
    closed_run_of_no_shutdown (run_spec env ros pre) (fun h => (List.mem_cons.1 h).elim nofun hpre)
  have hcl : Closed (step env ros s .shutdown).1 := by
    cases ros <;> cases hl : s.loop <;> simp [step, stepG, hc, hl, Closed]
  obtain ⟨c1, c2⟩ := closed_run (runFrom_spec env ros post _) hcl
  have d1 := Nat.le_zero.1 (c1 ▸ List.countP_mono_left fun o _ => isRefresh_of_isLoopRefresh o)
  have d2 := Nat.le_zero.1 (c1 ▸ List.countP_mono_left fun o _ => isRefresh_of_isFinalRefresh o)
  simp only [tr, runFrom, runFromG, flat_cons, List.countP_append, shutdownRets, List.filterMap_append]
  simp only [step, runFrom, shutdownRets] at c1 c2 d1 d2
  rw [c1, c2, d1, d2]
  cases ros <;> simp [stepG, hc, refreshStart]

/-- The code before the repair (no re-check of `done`), on the witness of DESIGN.md §9 #15: a
refresh is running when `Shutdown` is called and returns; the refresh completes, the next
timer is ready at once, `select` picks the timer: a refresh starts after `Shutdown` returned. -/
example :
    (runG false { dur := fun _ => 1, imm := fun k => decide (k ≥ 1), pick := fun _ => true } false
      [.tick, .shutdown, .refreshReturns .loop 0]).2 =
    [[.untilNext, .after 1], [.refresh (.cons .start)], [.shutdownReturns 0],
     [.untilNext, .after 1, .refresh (.cons .start)]] := by decide

/-- the repaired code on the same witness: the loop exits -/
example :
    (run { dur := fun _ => 1, imm := fun k => decide (k ≥ 1), pick := fun _ => true } false
      [.tick, .shutdown, .refreshReturns .loop 0]).2 =
    [[.untilNext, .after 1], [.refresh (.cons .start)], [.shutdownReturns 0], [.untilNext, .after 1]] := by
  decide

/-- non-vacuity: a history with two ticks, an error, a shutdown during the second refresh with
`RefreshOnShutdown`, whose final refresh fails with error 9 -/
example :
    (run { dur := fun k => 5 + k, imm := fun _ => false, pick := fun _ => false } true
      [.tick, .refreshReturns .loop 7, .tick, .shutdown, .refreshReturns .loop 0, .refreshReturns .shutdown 9]).2 =
    [[.untilNext, .after 5], [.refresh (.cons .start)], [.handle .start 7, .untilNext, .after 6],
     [.refresh (.cons .start)], [.refresh (.cons .shutdown)], [.untilNext, .after 7], [.shutdownReturns 9]] := by
  decide

end GolibsVerif.C18
