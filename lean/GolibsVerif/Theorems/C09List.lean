/-
C09 — the intrusive usage list at pointer level refines the list of `Model/C09.lean`.

`Model/C09.lean` represents `cache.usage` (`/repo/cache/list.go`: a sentinel `listItem`, one
`listItem` embedded in every `item` as `item.used`, `structPtr` to get from the field back to
the item) as a Lean `List Entry`, oldest first.  `Model/C09List.lean` is the code as written:
a heap of `{next, prev : Option Ptr}` objects, the six functions of `list.go` as heap
transformers in `GoM` that fail with `nilDeref` exactly where Go dereferences nil, and
`structPtr` as wrapping `uintptr` subtraction.  The theorems below say that the heap
*represents* (`Repr`, `Spec/C09List.lean`) the list the model keeps, for every sequence of
list instructions the cache executes — so the abstraction "usage list = Lean list" is a
proved refinement, and the nil dereference of defect 7 is a theorem about the pointer code.

Reading guide.
  `Repr h s l`     from the sentinel `s`, `next` visits exactly `l` in order and comes back to
                   `s`; `prev` is the inverse; `s :: l` has no repetition
  `LOp`            the list instructions of `data.go`: `alloc x` (`it := item{}`), `append x`
                   (`listAppend(&it.used, listLast(&c.usage))`), `unlink x`, `moveBack x` (`Get`),
                   `popFront` (eviction), `clear` (`listInit`)
  `absStep`        their meaning on a Lean list (`++ [x]`, `erase x`, `erase x ++ [x]`, `tail`, `[]`)
  `Legal`          the side condition under which the cache executes each of them
-/
import GolibsVerif.Lemmas.C09List
import GolibsVerif.Lemmas.C09ListTie
import GolibsVerif.Theorems.C09

namespace GolibsVerif.C09
open LL

/-! ### The six functions against the representation invariant -/

/-- `listInit(&c.usage)` (in `newCache` and `Clear`) on a live sentinel never fails and leaves
a heap representing the empty list; no other object is written.  Whatever the old list was,
its nodes are simply abandoned (they keep pointing at each other and at the sentinel, the
sentinel no longer points at them). -/
theorem listInit_repr {h : Heap} {s : Ptr} (hs : h.live s) :
    ∃ h', listInit (some s) h = .ok h' ∧ LL.Repr h' s [] ∧ ∀ a, a ≠ s → h' a = h a := by
  obtain ⟨h', e, r, f, _⟩ := listInit_repr' hs
  exact ⟨h', e, r, f⟩

/-- `newCache`: a fresh `cache` object whose `usage` field is then initialised. -/
theorem newList_repr (s : Ptr) : ∃ h, newList s = .ok h ∧ LL.Repr h s [] := by
  obtain ⟨h, e, r⟩ := newList_sim s
  exact ⟨h, e, r.repr⟩

/-- `listAppend(&it.used, listLast(&c.usage))` for an existing node `x` that is not in the
structure — fresh from `it := item{}` (both fields nil) or unlinked earlier (both fields
dangling): it succeeds, and the heap represents `l ++ [x]`.  Only `x`, the sentinel and the
old last node are written; no object appears or disappears. -/
theorem append_last_repr {h : Heap} {s x : Ptr} {l : List Ptr} (hr : LL.Repr h s l)
    (hx : x ∉ s :: l) (lx : h.live x) :
    ∃ last h', listLast (some s) h = .ok last ∧ listAppend (some x) last h = .ok h' ∧
      LL.Repr h' s (l ++ [x]) ∧ (∀ a, h'.live a ↔ h.live a) ∧ (∀ a, a ∉ x :: s :: l → h' a = h a) := by
  obtain ⟨h', e, r, lv, f⟩ := append_last_repr' hr hx lx
  refine ⟨(s :: l).getLast?, h', last_repr' hr, ?_, r, lv, f⟩
  simpa [pushBack, last_repr' hr, bind, Except.bind] using e

/-- `listUnlink(x)` for a node of the list: it succeeds, and the heap represents
`l.erase x`.  Faithfully to the Go code, `x.next` / `x.prev` are NOT reset: `x` keeps
pointing into the structure (`h' x = h x`), while nothing in the structure points to `x`
any more (`Repr.closed`).  Only nodes of `s :: l` are written. -/
theorem unlink_repr {h : Heap} {s x : Ptr} {l : List Ptr} (hr : LL.Repr h s l) (hx : x ∈ l) :
    ∃ h', listUnlink (some x) h = .ok h' ∧ LL.Repr h' s (l.erase x) ∧ h' x = h x ∧
      (∀ a, h'.live a ↔ h.live a) ∧ (∀ a, a ∉ s :: l → h' a = h a) :=
  unlink_repr' hr hx

/-- `listFirst(&c.usage)` is the head of the list — and the SENTINEL ITSELF when the list is
empty.  `listLast` symmetrically. -/
theorem first_repr {h : Heap} {s : Ptr} {l : List Ptr} (hr : LL.Repr h s l) :
    listFirst (some s) h = .ok (some (l.head?.getD s)) ∧
    listLast (some s) h = .ok (some (l.getLast?.getD s)) := by
  refine ⟨?_, ?_⟩
  · rw [first_repr' hr]; cases l <;> simp
  · rw [last_repr' hr]
    cases l with
    | nil => simp
    | cons x xs => simp [List.getLast?_cons]

/-- The eviction loop body at pointer level, on a non-empty list: `first` is the head node
— a node of the list, NOT the sentinel, so `structPtr(first, Offsetof(item.used))` is the
address of the item that embeds it — and after `listUnlink(first)` the heap represents the
tail. -/
theorem popFront_repr {h : Heap} {s x : Ptr} {l : List Ptr} (hr : LL.Repr h s (x :: l)) :
    ∃ h', popFront s h = .ok (some x, h') ∧ LL.Repr h' s l ∧ x ≠ s := by
  obtain ⟨h', e, r, _⟩ := popFront_repr' hr
  exact ⟨h', e, r, fun e => hr.s_notin (by simp [e])⟩

/-- The case the eviction loop must never reach: on the empty list the list functions do
not fail — `listFirst` hands back the sentinel, `listUnlink(sentinel)` is a no-op — and
`structPtr` then turns `&c.usage` into an address 40 bytes before the `cache` object
(`itemOf_sentinel_outside`).  `Model/C09.lean` records this as the explicit panic
"list sentinel treated as an item" of `evictOne`. -/
theorem popFront_empty_returns_sentinel {h : Heap} {s : Ptr} (hr : LL.Repr h s []) :
    ∃ h', popFront s h = .ok (some s, h') ∧ LL.Repr h' s [] := by
  have hn : h.nx s = some s := hr.path.1
  have hp : h.pv s = some s := hr.path.2
  refine ⟨unlinked h s s, ?_, ⟨link_unlinked hr.live_s hr.live_s, hr.nodup⟩⟩
  simp [popFront, first_repr' hr, bind, Except.bind, listUnlink_ok hp hn hr.live_s hr.live_s,
    pure, Except.pure]

/-- … and it is never reached: in every state of the cache model satisfying the invariant,
whenever the loop condition `full` holds for a legal element size (normalised
configuration), the model's list is non-empty (`evict_nonempty`, the lemma behind
`sections_total`); so for any heap representing a list of that length, `listFirst` returns
a genuine item node and the pointer-level loop body succeeds. -/
theorem evict_first_is_item {c : Conf} (ok : ConfOk c) {st : St} (hinv : Inv c st) {add : Nat}
    (hadd : add ≤ c.maxElem) (hf : full c st add = true)
    {h : Heap} {s : Ptr} {l : List Ptr} (hr : LL.Repr h s l) (hlen : l.length = st.lru.length) :
    ∃ x h', popFront s h = .ok (some x, h') ∧ l.head? = some x ∧ x ≠ s ∧ LL.Repr h' s l.tail := by
  have hne := evict_nonempty ok hinv hadd hf
  cases l with
  | nil => exact absurd (List.length_eq_zero_iff.1 hlen.symm) hne
  | cons x xs =>
    obtain ⟨h', e, r, hx⟩ := popFront_repr hr
    exact ⟨x, h', e, rfl, hx, r⟩

/-- **Defect 7 at pointer level.**  `listUnlink` on a node that was never linked — both
fields still nil, as `it := item{}` leaves them when `EnableLRU` is false — is a nil
dereference: `listLink2(nil, nil)` panics on `l.next = r`.  (This is `unlink e` with
`e.linked = false` in `Model/C09.lean`; the pre-fix `Set`/`Del` reached it without LRU.) -/
theorem unlink_unlinked_fails {h : Heap} {x : Ptr} (hx : h x = some Node.zero) :
    listUnlink (some x) h = .error .nilDeref := by
  simp [listUnlink, deref, hx, bind, Except.bind, listLink2, storeNext, Node.zero]

/-- More generally `listUnlink` panics iff it follows a nil pointer: when the node's `prev`
is nil, or its `prev` is a live node and its `next` is nil. -/
theorem unlink_nil_field_fails {h : Heap} {x : Ptr} {n : Node} (hx : h x = some n) :
    (n.prev = none → listUnlink (some x) h = .error .nilDeref) ∧
    (∀ p, n.prev = some p → h.live p → n.next = none → listUnlink (some x) h = .error .nilDeref) := by
  refine ⟨fun hp => ?_, fun p hp lp hn => ?_⟩
  · simp [listUnlink, deref, hx, bind, Except.bind, listLink2, storeNext, hp]
  · obtain ⟨m, hm⟩ := Heap.live_iff.1 lp
    simp [listUnlink, deref, hx, bind, Except.bind, listLink2, storeNext, storePrev, hp, hn, hm,
      pure, Except.pure]

/-! ### Consequences of the invariant: memory safety of the structure -/

/-- Every pointer stored in the structure is non-nil and points to a node of the structure
(hence to a live object): the list functions, which only follow `next`/`prev` of nodes of
`s :: l` and of the node they are given, never dereference nil or a dropped item.  In
particular nothing reachable from the sentinel points to an unlinked node, so the garbage
collector may reclaim (and `alloc` may re-use) it. -/
theorem repr_closed {h : Heap} {s : Ptr} {l : List Ptr} (hr : LL.Repr h s l) {a : Ptr}
    (ha : a ∈ s :: l) : ∃ n p, h a = some ⟨some n, some p⟩ ∧ n ∈ s :: l ∧ p ∈ s :: l :=
  hr.closed ha

/-- The heap determines the list it represents, and the two traversals read it off: what
`VerifSnapshot` (the hook of the differential tie) does — follow `next` from
`listFirst(&c.usage)` until the sentinel — yields exactly `l`; following `prev` yields
`l.reverse`. -/
theorem repr_unique_walk {h : Heap} {s : Ptr} {l : List Ptr} (hr : LL.Repr h s l) :
    (∀ l', LL.Repr h s l' → l' = l) ∧
    (∀ fuel, l.length < fuel →
      walkNext h s fuel (h.nx s) = (l, .sentinel) ∧
      walkPrev h s fuel (h.pv s) = (l.reverse, .sentinel)) :=
  ⟨fun _ hr' => hr'.unique hr, fun _ hf => hr.walk hf⟩

/-- Only the objects at `s :: l` matter: allocating, re-using or scribbling over any other
`listItem` (an item not in the list) keeps the representation. -/
theorem repr_frame {h h' : Heap} {s : Ptr} {l : List Ptr} (hr : LL.Repr h s l)
    (hf : ∀ a ∈ s :: l, h' a = h a) : LL.Repr h' s l := hr.frame hf

/-- `structPtr(&it.used, Offsetof(item{}.used)) = &it`, `&(structPtr(p, off)).used = p`, and
`itemOf` is injective: "the item of a node" is well defined, different nodes belong to
different items. -/
theorem structPtr_bijection :
    (∀ it, it + usedOff < addrMod → itemOf (usedOf it) = it) ∧
    (∀ p, usedOff ≤ p → p < addrMod → usedOf (itemOf p) = p) ∧
    (∀ p q, p < addrMod → q < addrMod → itemOf p = itemOf q → p = q) :=
  ⟨fun _ h => structPtr_fieldPtr h, fun _ _ hp => fieldPtr_structPtr usedOff hp,
   fun _ _ hp hq h => itemOf_inj hp hq h⟩

/-- Applied to the sentinel `&c.usage` of a `cache` object at address `c`, `structPtr`
yields `c - 40`: an address before (outside) the object. -/
theorem itemOf_sentinel_outside {c : Ptr} (h1 : 40 ≤ c) (h2 : c + usageOff < addrMod) :
    itemOf (fieldPtr c usageOff) + 40 = c := by
  unfold itemOf fieldPtr usedOff usageOff Ptr at *
  rw [Nat.mod_eq_of_lt h2, structPtr_ge h2 (by omega)]
  omega

/-! ### Simulation: every run of list instructions of the cache -/

/-- **The list refinement.**  Start from `newCache` (`listInit` on the fresh sentinel) and
run any sequence of list instructions, each under the side condition under which `data.go`
executes it (`Legal`, see `list_ops_of_cstep` for where each comes from).  Then the
pointer-level execution never fails — no nil dereference, no pointer to a non-object — and
the final heap represents exactly the Lean list obtained by running the same instructions
on a `List` (`++ [x]`, `erase`, `tail`, `[]`). -/
theorem list_simulation (s : Ptr) (ops : List LOp) (hl : LegalRun s ops LAbs.init) :
    ∃ h0 h, newList s = .ok h0 ∧ execOps s ops h0 = .ok h ∧
      LL.Repr h s (absRun ops LAbs.init).list := by
  obtain ⟨h0, e0, s0⟩ := newList_sim s
  obtain ⟨h, e, s1⟩ := sim_run ops s0 hl
  exact ⟨h0, h, e0, e, s1.repr⟩

/-- The same from any heap that represents some list (the inductive step made explicit:
one instruction keeps the simulation relation). -/
theorem list_simulation_step {h : Heap} {s : Ptr} {a : LAbs} (hs : Sim h s a) (op : LOp)
    (hl : Legal s op a) : ∃ h', execOp s op h = .ok h' ∧ Sim h' s (LL.absStep op a) :=
  sim_step hs op hl

theorem list_simulation_from {h : Heap} {s : Ptr} {a : LAbs} (hs : Sim h s a) (ops : List LOp)
    (hl : LegalRun s ops a) : ∃ h', execOps s ops h = .ok h' ∧ Sim h' s (absRun ops a) :=
  sim_run ops hs hl

/-! ### The tie to `Model/C09.lean`: where the side conditions come from

`Ann` pairs every entry of the model's `St.lru` with the address of the `used` field of the
Go `item` holding it; `opsOf z x ev` is the list code `data.go` runs in the critical section
with event `ev` (`Spec/C09List.lean`), `annNext` the annotated list after it.

Side conditions and their origin in `Model/C09.lean` (all under `Inv c st`, `c.lru = true`):
  `alloc x`, `x ∉ s :: l`       `Set`'s `it := item{}`; `e` of `setCommitWith` is a new entry — the
                                Go allocator returns an address that is not reachable
  `append x`, `x` unlinked      `setCommitWith`: `linked := c.lru` for the NEW entry only, and the
                                append precedes the lookup of the old one; `get`: right after
                                `unlink e` of the same entry
  `unlink o`, `o ∈ l`           `setCommitWith`/`delWith`/`get`: `unlink old` runs only for
                                `lookup s.lru k = some old`, i.e. an entry of `s.lru`, and
                                `Inv.linked` says every entry of `s.lru` is linked (that `unlink`
                                is total is `old.linked = true`); `Inv.nodup` (keys unique) makes
                                "the entry with key k" one node
  `popFront`, `l ≠ []`          `evictOne` runs under `full`, and then `s.lru ≠ []`
                                (`evict_nonempty`, normalised configuration)
  `clear`                       `clear`, `St.init`
With `c.lru = false` no list instruction other than `listInit` is ever executed
(`EnableLRU` guards; the eviction loop is not entered, `nolru_never_evicts`), every entry has
`linked = false` (`listed_entries`) and the heap represents `[]` throughout
(`nolru_list_refines`). -/

/-- **One critical section of the model = legal list instructions with the model's effect.**
From a model state with the invariant, LRU on, its list annotated by distinct node addresses
and a fresh address `x` for the item a `Set` creates: the section's list instructions satisfy
their side conditions, and the abstract list machine yields the annotation of the model's
next list. -/
theorem list_ops_of_cstep {c : Conf} (hl : c.lru = true) {st st' : St} {ev : Ev} (hinv : Inv c st)
    (hstep : CStep c st ev st') {s x : Ptr} {z : Ann} (objs : List Ptr)
    (hz : z.map Prod.fst = st.lru) (hnd : (s :: z.map Prod.snd).Nodup)
    (hx : x ∉ s :: z.map Prod.snd) :
    (annNext z x ev).map Prod.fst = st'.lru ∧
    LegalRun s (opsOf z x ev) ⟨z.map Prod.snd, objs⟩ ∧
    (absRun (opsOf z x ev) ⟨z.map Prod.snd, objs⟩).list = (annNext z x ev).map Prod.snd :=
  ann_step hl hinv hstep objs hz hnd hx

/-- … hence at pointer level: if the heap represents the model's list before the section,
the section's list code runs without failing and the heap represents the model's list after
it. -/
theorem cstep_list_refines {c : Conf} (hl : c.lru = true) {st st' : St} {ev : Ev} (hinv : Inv c st)
    (hstep : CStep c st ev st') {s x : Ptr} {z : Ann} {objs : List Ptr} {h : Heap}
    (hz : z.map Prod.fst = st.lru) (hs : Sim h s ⟨z.map Prod.snd, objs⟩)
    (hx : x ∉ s :: z.map Prod.snd) :
    ∃ h' objs', execOps s (opsOf z x ev) h = .ok h' ∧ (annNext z x ev).map Prod.fst = st'.lru ∧
      Sim h' s ⟨(annNext z x ev).map Prod.snd, objs'⟩ := by
  obtain ⟨h1, h2, h3⟩ := ann_step hl hinv hstep objs hz hs.repr.nodup hx
  obtain ⟨h', e1, s1⟩ := sim_run _ hs h2
  exact ⟨h', _, e1, h1, by rw [← h3]; exact s1⟩

/-- **Every history of the cache model is a pointer-level execution.**  For every history
from `New` with LRU on (any interleaving of critical sections, so any re-entrant `OnDelete`
behaviour), every sentinel address and every allocator `ν` that returns addresses not live
in the structure: the list code of all sections, run on the heap made by `newCache`, never
fails, and in the end the heap represents the model's list — there is an annotation of
`st.lru` by node addresses such that following `next` from the sentinel visits exactly these
nodes in the order of `st.lru`. -/
theorem history_list_refines {c : Conf} (hl : c.lru = true) (s : Ptr) (ν : Nat → List Ptr → Ptr)
    (hν : ∀ i l, ν i l ∉ s :: l) {log : List Rec} {st : St} (ht : Trace c St.init log st) :
    ∃ h0 h, newList s = .ok h0 ∧ execOps s (runAnn ν 0 [] log).2 h0 = .ok h ∧
      (runAnn ν 0 [] log).1.map Prod.fst = st.lru ∧
      LL.Repr h s ((runAnn ν 0 [] log).1.map Prod.snd) := by
  obtain ⟨h0, e0, s0⟩ := newList_sim s
  obtain ⟨h, _, e, hz, hs⟩ := ann_trace hl ν hν ht (Inv.init c) 0 [] [] h0 rfl s0
  exact ⟨h0, h, e0, e, hz, hs.repr⟩

/-- The same for the nested interpreter that the differential tie drives: any configuration
with `EnableLRU`, any script, any callback behaviour. -/
theorem script_list_refines (r : RawConf) (hl : r.lru = true) (ops : List Op) (s : Ptr)
    (ν : Nat → List Ptr → Ptr) (hν : ∀ i l, ν i l ∉ s :: l) :
    ∃ st log h0 h, runScript r ops = .ok (st, log) ∧ newList s = .ok h0 ∧
      execOps s (runAnn ν 0 [] log).2 h0 = .ok h ∧
      (runAnn ν 0 [] log).1.map Prod.fst = st.lru ∧
      LL.Repr h s ((runAnn ν 0 [] log).1.map Prod.snd) := by
  obtain ⟨st, log, hr, ht⟩ := run_is_history r ops
  obtain ⟨h0, h, e0, e, hz, hrep⟩ := history_list_refines (c := newConf r) hl s ν hν ht
  exact ⟨st, log, h0, h, hr, e0, e, hz, hrep⟩

/-- With `EnableLRU = false` the only list code that ever runs is `listInit` (`newCache`,
`Clear`); `Set` creates items whose `used` stays zero.  For every log of events and every
allocator the heap represents the empty list throughout — which is what the model's
`listed_entries` says about its side (no entry is `linked`). -/
theorem nolru_list_refines (s : Ptr) (ν : Nat → Ptr) (hν : ∀ i, ν i ≠ s) (log : List Rec) :
    ∃ h0 h, newList s = .ok h0 ∧ execOps s (runOff ν 0 log) h0 = .ok h ∧ LL.Repr h s [] := by
  obtain ⟨h0, e0, s0⟩ := newList_sim s
  obtain ⟨h, _, e, hs⟩ := off_run ν hν log 0 [] h0 s0
  exact ⟨h0, h, e0, e, hs.repr⟩

/-- What the existing tie observes as the usage list (`L…` of `Driver/C09.lean`: the entries
with `linked = true`) is all of `st.lru` with LRU on and nothing with LRU off. -/
theorem listed_entries {c : Conf} {st : St} (hinv : Inv c st) :
    st.lru.filter (·.linked) = if c.lru then st.lru else [] := by
  cases hl : c.lru
  · simp only [Bool.false_eq_true, if_false, List.filter_eq_nil_iff]
    intro e he; simp [hinv.linked e he, hl]
  · simp only [if_true, List.filter_eq_self]
    intro e he; simp [hinv.linked e he, hl]

/-- a legal run: two `Set`s, a `Get` of the first key, one eviction -/
example : LegalRun 0 [.alloc 1, .append 1, .alloc 2, .append 2, .moveBack 1, .popFront] LAbs.init := by
  simp [LegalRun, Legal, LL.absStep, LAbs.init]

/-- … executed on pointers: sentinel at 0, the list ends up as `[1]`, read in both
directions -/
example :
    (do let h ← newList 0
        let h ← execOps 0 [.alloc 1, .append 1, .alloc 2, .append 2, .moveBack 1, .popFront] h
        pure ((walkNext h 0 8 (h.nx 0)).1, (walkPrev h 0 8 (h.pv 0)).1, h.nx 2)) =
      (.ok ([1], [1], some 1) : GoM _) := by decide

/-- Why `unlink x` needs `x ∈ l` and not merely "`x` was linked once": a second
`listUnlink` of a node whose fields dangle does not panic — it silently re-links the
neighbours it remembers; here it resurrects the dropped node 2. -/
example :
    (do let h ← newList 0
        let h ← execOps 0 [.alloc 1, .append 1, .alloc 2, .append 2, .unlink 1, .unlink 2] h
        let h' ← execOps 0 [.unlink 1] h
        pure ((walkNext h 0 8 (h.nx 0)).1, (walkNext h' 0 8 (h'.nx 0)).1)) =
      (.ok ([], [2]) : GoM _) := by decide

/-- defect 7 on pointers: `Set` without LRU creates the item but never links it; the
unguarded `listUnlink(&it2.used)` of the next `Set` of that key panics -/
example :
    (do let h ← newList 0
        execOps 0 [.alloc 1, .unlink 1] h).toOption.isNone = true ∧
    ∀ h : Heap, listUnlink (some 1) (h.alloc 1) = .error .nilDeref :=
  ⟨by decide, fun _ => unlink_unlinked_fails (by simp [Heap.alloc, Heap.set])⟩

end GolibsVerif.C09
