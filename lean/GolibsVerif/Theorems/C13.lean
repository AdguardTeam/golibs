/-
C13 — stringutil fold-search and split-trim agree with their reference definitions.

The theorems are about the executable model `Model/C13.lean` of the (repaired)
`stringutil.ContainsFold` and of `stringutil.SplitTrimmed`, against the reference
definitions of `Spec/C13.lean`.  `fold` stands for `unicode.SimpleFold`; the only thing
assumed about it is the named contract `Fold1` (FOLD-1).

FOLD-1 itself is a theorem (`fold1_model`) about `Unicode.simpleFold`, the statement-by-statement
model (`Go/Unicode.lean`) of Go's `unicode.SimpleFold` over the tables `asciiFold`, `caseOrbit`,
`CaseRanges` that `gen/unifold.go` reads from `$GOROOT/src/unicode/tables.go` of the toolchain
building /repo on every run; the model is compared with the real function on every rune on
every run (`C13.std.simplefold`).  The `…_unicode` theorems are the main theorems with
`fold := Unicode.simpleFold` and no hypothesis about folding left.
-/
import GolibsVerif.Lemmas.UnicodeFold1

namespace GolibsVerif.C13

/-! ## ContainsFold -/

/-- **Full-strength statement.**  For valid UTF-8 operands free of U+FFFD, `ContainsFold(s, sub)`
returns (never panics), and it is true iff `s` has a substring of the same byte length as
`sub`, starting at a rune boundary (`i = len(s)` or `utf8.RuneStart(s[i])`), that equals
`sub` under simple case folding (`strings.EqualFold`). -/
theorem containsFold_iff {fold : Nat → Nat} (hf : Fold1 fold) (s sub : Bytes)
    (_hvs : validUtf8 s = true) (_hvsub : validUtf8 sub = true)
    (hs : noFFFD s = true) (hsub : noFFFD sub = true) :
    ∃ b, containsFold fold s sub = .ok b ∧
      (b = true ↔ ∃ i, boundary s i ∧ i + sub.length ≤ s.length ∧
        equalFold fold ((s.drop i).take sub.length) sub = true) :=
  containsFold_good hf (good_of_noFFFD hs) (good_of_noFFFD hsub)

/-- For ASCII operands, `ContainsFold(s, sub) = strings.Contains(ToLower(s), ToLower(sub))`:
the lower-cased needle is a contiguous sublist of the lower-cased haystack. -/
theorem containsFold_ascii {fold : Nat → Nat} (hf : Fold1 fold) (s sub : Bytes)
    (hs : ∀ b ∈ s, b < 128) (hsub : ∀ b ∈ sub, b < 128) :
    ∃ b, containsFold fold s sub = .ok b ∧
      (b = true ↔ sub.map lowerASCII <:+: s.map lowerASCII) := by
  obtain ⟨b, h1, h2⟩ := containsFold_good hf (good_ascii hs) (good_ascii hsub)
  exact ⟨b, h1, h2.trans (ref_ascii hf hs hsub)⟩

/-- The same with an explicit offset: some window `s[i : i+len(sub)]` equals `sub` after
ASCII lower-casing. -/
theorem containsFold_ascii_offset {fold : Nat → Nat} (hf : Fold1 fold) (s sub : Bytes)
    (hs : ∀ b ∈ s, b < 128) (hsub : ∀ b ∈ sub, b < 128) :
    ∃ b, containsFold fold s sub = .ok b ∧
      (b = true ↔ ∃ i, i + sub.length ≤ s.length ∧
        ((s.drop i).take sub.length).map lowerASCII = sub.map lowerASCII) := by
  obtain ⟨b, h1, h2⟩ := containsFold_good hf (good_ascii hs) (good_ascii hsub)
  exact ⟨b, h1, h2.trans (ref_ascii_offset hf hs hsub)⟩

/-- What "equal under simple case folding" means in the statements above: the two strings
have the same number of runes and corresponding runes lie in one `SimpleFold` orbit (under
FOLD-1 the model of `strings.EqualFold` is exactly this). -/
theorem equalFold_iff {fold : Nat → Nat} (hf : Fold1 fold) (s t : Bytes) :
    equalFold fold s t = true ↔
      (runes s).length = (runes t).length ∧
      ∀ p ∈ (runes s).zip (runes t), ∃ n, iter fold n p.1 = p.2 := by
  unfold equalFold
  generalize runes s = xs
  generalize runes t = ys
  induction xs generalizing ys with
  | nil =>
    cases ys with
    | nil => simp [eqFoldRunes]
    | cons b bs => simp [eqFoldRunes]
  | cons a as ih =>
    cases ys with
    | nil => simp [eqFoldRunes]
    | cons b bs =>
      simp only [eqFoldRunes, Bool.and_eq_true, ih, orbitMem_iff hf, List.length_cons, List.zip_cons_cons,
        List.mem_cons, forall_eq_or_imp, Nat.add_right_cancel_iff]
      constructor
      · rintro ⟨h1, h2, h3⟩; exact ⟨h2, h1, h3⟩
      · rintro ⟨h2, h1, h3⟩; exact ⟨h1, h2, h3⟩

/-- `ContainsFold` returns a Boolean — no index or slice expression panics and the loop
terminates — for *all* byte strings (valid UTF-8 or not) and whatever `SimpleFold` does. -/
theorem containsFold_never_panics (fold : Nat → Nat) (s sub : Bytes) :
    ∃ b, containsFold fold s sub = .ok b := by
  unfold containsFold
  split
  · exact ⟨_, rfl⟩
  · split
    · exact ⟨_, rfl⟩
    · exact cfLoop_total fold _ sub s

/-- Why the shipped code is wrong and the repair is right, as a statement about the scan
predicate handed to `strings.IndexFunc`: the loop decides the reference definition for
*every* predicate that accepts each rune a matching window can start with and rejects
`RuneError`.  Membership in the whole fold orbit of the needle's first rune has this
property (`containsFold_iff`); `r == first || r == SimpleFold(first)` has it only when the
orbit has at most two members. -/
theorem scan_decides_reference {fold : Nat → Nat} {sub : Bytes} {pred : Nat → Bool}
    (hpred : ∀ u : Bytes, sub.length ≤ u.length → equalFold fold (u.take sub.length) sub = true →
      pred (decodeRune u).1 = true)
    (hrej : pred RuneError = false) (hne : sub ≠ []) (s : Bytes) (hs : noFFFD s = true) :
    ∃ b, cfLoop fold pred sub s = .ok b ∧
      (b = true ↔ ∃ i, boundary s i ∧ i + sub.length ≤ s.length ∧
        equalFold fold ((s.drop i).take sub.length) sub = true) := by
  have hg := good_of_noFFFD hs
  obtain ⟨b, h1, h2⟩ := cfLoop_spec fold pred sub s
  exact ⟨b, h1, (h2 (fun u hm => hpred u hm.1 hm.2) hrej).trans (exMatch_iff_ref hg)⟩

/-! ## FOLD-1 is a theorem about the model of `unicode.SimpleFold` -/

/-- **FOLD-1 for the model of `unicode.SimpleFold`** (Go 1.24.2 `letter.go`, tables regenerated
from the toolchain source): for every rune `a : Nat` the fold cycle through `a` closes within
`orbitFuel = 8` steps; U+FFFD is a fixed point; two ASCII runes are in one cycle iff they have
the same ASCII lower case. -/
theorem fold1_model : Fold1 Unicode.simpleFold := Unicode.fold1_model

/-- Every rune that is not ASCII, not a `From` of `caseOrbit` and in no range of `CaseRanges`
is a fixed point of `SimpleFold` — for every natural number, beyond `MaxRune` too (the part of
FOLD-1 that is a proof about the two binary searches rather than an evaluation). -/
theorem simpleFold_fixed_outside_tables (r : Nat) (h1 : 128 ≤ r)
    (h2 : ∀ e ∈ Gen.UniFold.caseOrbit, e.1 ≠ r)
    (h3 : ∀ cr ∈ Gen.UniFold.caseRanges, ¬ (cr.1 ≤ r ∧ r ≤ cr.2.1)) :
    Unicode.simpleFold r = r := by
  rcases Unicode.simpleFold_cases r with h | h | ⟨e, he, h⟩ | ⟨cr, hcr, h⟩
  · exact h
  · omega
  · exact absurd h (h2 e he)
  · exact absurd h (h3 cr hcr)

/-- **Table semantics of the model**: the two binary searches are sound and, the regenerated
tables being sorted, complete, so `Unicode.simpleFold` computes what the tables say — an ASCII
rune folds to its `asciiFold` entry; otherwise a `caseOrbit` key folds to its `To`; otherwise a
rune in a range `cr` of `CaseRanges` folds to `convertCase(LowerCase)` if that moves it, else to
`convertCase(UpperCase)`; a rune above `MaxRune` is a fixed point (and so is every rune outside
all tables, `simpleFold_fixed_outside_tables`). -/
theorem simpleFold_table_semantics (r : Nat) :
    (r < 128 → Gen.UniFold.asciiFold[r]? = some (Unicode.simpleFold r)) ∧
    (128 ≤ r → r ≤ Gen.UniFold.maxRune → ∀ e ∈ Gen.UniFold.caseOrbit, e.1 = r → Unicode.simpleFold r = e.2) ∧
    (128 ≤ r → r ≤ Gen.UniFold.maxRune → (∀ e ∈ Gen.UniFold.caseOrbit, e.1 ≠ r) →
      ∀ cr ∈ Gen.UniFold.caseRanges, cr.1 ≤ r ∧ r ≤ cr.2.1 →
        Unicode.simpleFold r =
          if Unicode.convertCase Unicode.LowerCase r cr ≠ r then Unicode.convertCase Unicode.LowerCase r cr
          else Unicode.convertCase Unicode.UpperCase r cr) ∧
    (Gen.UniFold.maxRune < r → Unicode.simpleFold r = r) := by
  refine ⟨Unicode.simpleFold_ascii, fun h1 h2 e he hk => Unicode.simpleFold_of_orbit h1 h2 he hk,
    fun h1 h2 hno cr hcr hin => Unicode.simpleFold_of_range h1 h2 hno hcr hin, fun h => ?_⟩
  unfold Unicode.simpleFold
  rw [if_pos h]

/-- `containsFold_iff` with `fold := Unicode.simpleFold`: no hypothesis about case folding. -/
theorem containsFold_iff_unicode (s sub : Bytes)
    (hvs : validUtf8 s = true) (hvsub : validUtf8 sub = true)
    (hs : noFFFD s = true) (hsub : noFFFD sub = true) :
    ∃ b, containsFold Unicode.simpleFold s sub = .ok b ∧
      (b = true ↔ ∃ i, boundary s i ∧ i + sub.length ≤ s.length ∧
        equalFold Unicode.simpleFold ((s.drop i).take sub.length) sub = true) :=
  containsFold_iff Unicode.fold1_model s sub hvs hvsub hs hsub

/-- `containsFold_ascii` with `fold := Unicode.simpleFold`: for ASCII operands,
`ContainsFold(s, sub) = strings.Contains(ToLower(s), ToLower(sub))`, outright. -/
theorem containsFold_ascii_unicode (s sub : Bytes)
    (hs : ∀ b ∈ s, b < 128) (hsub : ∀ b ∈ sub, b < 128) :
    ∃ b, containsFold Unicode.simpleFold s sub = .ok b ∧
      (b = true ↔ sub.map lowerASCII <:+: s.map lowerASCII) :=
  containsFold_ascii Unicode.fold1_model s sub hs hsub

/-- `equalFold_iff` with `fold := Unicode.simpleFold`: the model of `strings.EqualFold` is
"same number of runes, corresponding runes in one `SimpleFold` cycle". -/
theorem equalFold_iff_unicode (s t : Bytes) :
    equalFold Unicode.simpleFold s t = true ↔
      (runes s).length = (runes t).length ∧
      ∀ p ∈ (runes s).zip (runes t), ∃ n, iter Unicode.simpleFold n p.1 = p.2 :=
  equalFold_iff Unicode.fold1_model s t

/-! ## Algebraic corollaries for ASCII operands (no hypothesis left) -/

/-- ASCII case-insensitivity proper: the outcome of `ContainsFold` is invariant under any
change of ASCII letter case in either operand (operands with equal `ToLower` images get the
same answer). -/
theorem containsFold_ascii_case_invariant (s s' sub sub' : Bytes)
    (hs : ∀ b ∈ s, b < 128) (hs' : ∀ b ∈ s', b < 128)
    (hsub : ∀ b ∈ sub, b < 128) (hsub' : ∀ b ∈ sub', b < 128)
    (h1 : s.map lowerASCII = s'.map lowerASCII) (h2 : sub.map lowerASCII = sub'.map lowerASCII) :
    containsFold Unicode.simpleFold s sub = containsFold Unicode.simpleFold s' sub' := by
  obtain ⟨b, hb, hiff⟩ := containsFold_ascii_unicode s sub hs hsub
  obtain ⟨b', hb', hiff'⟩ := containsFold_ascii_unicode s' sub' hs' hsub'
  rw [hb, hb']
  rw [h1, h2] at hiff
  have : b = true ↔ b' = true := hiff.trans hiff'.symm
  cases b <;> cases b' <;> simp_all

/-- Every ASCII string contains itself and the empty string, in any letter case. -/
theorem containsFold_ascii_refl (s s' : Bytes) (hs : ∀ b ∈ s, b < 128) (hs' : ∀ b ∈ s', b < 128)
    (h : s.map lowerASCII = s'.map lowerASCII) :
    containsFold Unicode.simpleFold s s' = .ok true ∧
    containsFold Unicode.simpleFold s [] = .ok true := by
  obtain ⟨b, hb, hiff⟩ := containsFold_ascii_unicode s s' hs hs'
  obtain ⟨b0, hb0, hiff0⟩ := containsFold_ascii_unicode s [] hs (by simp)
  refine ⟨?_, ?_⟩
  · rw [hb, hiff.2 (by rw [h]; exact List.infix_refl _)]
  · rw [hb0, hiff0.2 (by simp)]

/-- `ContainsFold` is monotone in the haystack for ASCII operands: what is found in `s` is
found in `pre ++ s ++ post`. -/
theorem containsFold_ascii_mono (pre s post sub : Bytes)
    (hpre : ∀ b ∈ pre, b < 128) (hs : ∀ b ∈ s, b < 128) (hpost : ∀ b ∈ post, b < 128)
    (hsub : ∀ b ∈ sub, b < 128)
    (h : containsFold Unicode.simpleFold s sub = .ok true) :
    containsFold Unicode.simpleFold (pre ++ s ++ post) sub = .ok true := by
  obtain ⟨b, hb, hiff⟩ := containsFold_ascii_unicode s sub hs hsub
  have hall : ∀ x ∈ pre ++ s ++ post, x < 128 := by
    intro x hx
    simp only [List.mem_append] at hx
    rcases hx with (hx | hx) | hx
    · exact hpre x hx
    · exact hs x hx
    · exact hpost x hx
  obtain ⟨b', hb', hiff'⟩ := containsFold_ascii_unicode (pre ++ s ++ post) sub hall hsub
  rw [hb] at h
  have hbt : b = true := by injection h
  have hin := hiff.1 hbt
  rw [hb', hiff'.2]
  simp only [List.map_append]
  exact List.IsInfix.trans hin ⟨pre.map lowerASCII, post.map lowerASCII, rfl⟩

example : containsFold Unicode.simpleFold (ascii "DISK") (ascii "sk") = .ok true :=
  containsFold_ascii_mono (ascii "DI") (ascii "SK") [] (ascii "sk") (by decide) (by decide) (by simp)
    (by decide) (containsFold_ascii_refl (ascii "SK") (ascii "sk") (by decide) (by decide) (by decide)).1

/-! ## SplitTrimmed -/

/-- Run the filter loop of `SplitTrimmed` for any number `i` of
iterations over the result `orig` of `strings.Split`.  It does not panic, and afterwards
`strs` still shares the backing array of `split` (`append` never had to reallocate), the
write index `len(strs)` is at most the read index `i`, every element at an index `≥ i` —
everything not yet read — is still the original one, and `strs` is the filtered, trimmed
prefix.  (So each read `split[i]` sees the value `strings.Split` produced.) -/
theorem inplace_filter_safe (trim : Bytes → Bytes) (orig : List Bytes) (i : Nat) (hi : i ≤ orig.length) :
    ∃ st, filterLoop trim i 0 { A := orig, own := none, j := 0 } = .ok st ∧
      st.own = none ∧ st.j ≤ i ∧ st.A.length = orig.length ∧
      (∀ m, i ≤ m → st.A[m]? = orig[m]?) ∧
      st.A.take st.j = ((orig.take i).map trim).filter (fun p => p ≠ []) := by
  obtain ⟨st, h1, h2⟩ := filterLoop_inv (trim := trim) i 0 _ (filterInv_init trim orig) (by omega)
  rw [Nat.zero_add] at h2
  exact ⟨st, h1, h2.aliased, h2.write_le_read, h2.same_len, h2.unread_intact, h2.filtered⟩

/-- `splitTrimmed_spec`, parametric in the models of `strings.TrimSpace` and `strings.Split`:
the result is exactly the non-empty trimmed pieces of `Split(TrimSpace(s), sep)`, in order.
The two hypotheses say that trimming the empty string gives the empty string and that
splitting the empty string gives only empty pieces (needed for the early return). -/
theorem splitTrimmed_spec (trim : Bytes → Bytes) (split : Bytes → Bytes → List Bytes)
    (htrim : trim [] = []) (hsplit : ∀ sep, ∀ p ∈ split [] sep, p = []) (s sep : Bytes) :
    ∃ r, splitTrimmed trim split s sep = .ok r ∧
      r.elems = ((split (trim s) sep).map trim).filter (fun p => p ≠ []) := by
  refine ⟨_, splitTrimmed_ok trim split s sep, ?_⟩
  by_cases h0 : trim s = []
  · simp only [h0, ↓reduceIte]
    symm
    rw [List.filter_eq_nil_iff]
    intro p hp
    obtain ⟨q, hq, rfl⟩ := List.mem_map.mp hp
    simp [hsplit sep q hq, htrim]
  · simp only [h0, ↓reduceIte, refSplitTrimmed]

/-- `splitTrimmed_spec` for the modelled `strings.TrimSpace` / `strings.Split`: no hypotheses. -/
theorem splitTrimmed_spec_std (s sep : Bytes) :
    ∃ r, splitTrimmed trimSpace split s sep = .ok r ∧
      r.elems = ((split (trimSpace s) sep).map trimSpace).filter (fun p => p ≠ []) := by
  refine splitTrimmed_spec trimSpace split trimSpace_nil ?_ s sep
  intro sep p hp
  rw [split_nil] at hp
  split at hp
  · simp at hp
  · simpa using hp

/-- The result is never a nil slice — in particular it is the non-nil
empty slice when there are no pieces — and `SplitTrimmed` never panics. -/
theorem splitTrimmed_nonnil (trim : Bytes → Bytes) (split : Bytes → Bytes → List Bytes) (s sep : Bytes) :
    ∃ r, splitTrimmed trim split s sep = .ok r ∧ r.isNil = false :=
  ⟨_, splitTrimmed_ok trim split s sep, rfl⟩

/-! ## The hypotheses are satisfiable; the shipped scan predicate is not sufficient -/

/-- FOLD-1 is satisfiable: by the model of `unicode.SimpleFold` itself (`fold1_model`), by
ASCII case swapping … -/
example : Fold1 swapFold := swapFold_fold1

/-- … and by a fold function with the three-member orbits k/K/U+212A and s/S/U+017F. -/
example : Fold1 kFold := kFold_fold1

/-- the operands of the known witness are valid UTF-8 without U+FFFD -/
example : validUtf8 (ascii "DISK") = true ∧ noFFFD (ascii "DISK") = true ∧
    validUtf8 (ascii "sk") = true ∧ noFFFD (ascii "sk") = true := by
  rw [ascii_ofList, ascii_ofList]; decide +kernel

/-- … and so are non-ASCII operands such as "x€K" with the Kelvin sign (78 E2 82 AC E2 84 AA),
while a lone continuation byte or a literal U+FFFD (EF BF BD) is excluded -/
example : validUtf8 [0x78, 0xE2, 0x82, 0xAC, 0xE2, 0x84, 0xAA] = true ∧
    noFFFD [0x78, 0xE2, 0x82, 0xAC, 0xE2, 0x84, 0xAA] = true ∧
    validUtf8 [0x78, 0x84] = false ∧ noFFFD [0xEF, 0xBF, 0xBD] = false := by
  decide +kernel

/-- The defect of the shipped code (DESIGN.md §9 #12), on the model: with a fold function
satisfying FOLD-1 whose orbit of `k` has three members, the shipped predicate
(`containsFoldOrig`) answers `false` for `ContainsFold("DISK", "sk")` and for the smaller
`ContainsFold("xK", "k")`, while the reference definition holds (the repaired model answers
`true`, and by `containsFold_ascii` that is the reference). -/
theorem containsFoldOrig_defect :
    Fold1 kFold ∧
    -- "DISK" = 44 49 53 4B, "sk" = 73 6B
    isOkB false (containsFoldOrig kFold [0x44, 0x49, 0x53, 0x4B] [0x73, 0x6B]) = true ∧
    isOkB true (containsFold kFold [0x44, 0x49, 0x53, 0x4B] [0x73, 0x6B]) = true ∧
    -- "xK" = 78 4B, "k" = 6B
    isOkB false (containsFoldOrig kFold [0x78, 0x4B] [0x6B]) = true ∧
    isOkB true (containsFold kFold [0x78, 0x4B] [0x6B]) = true :=
  ⟨kFold_fold1, by decide +kernel, by decide +kernel, by decide +kernel, by decide +kernel⟩

end GolibsVerif.C13
