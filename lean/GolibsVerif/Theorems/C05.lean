/-
C05 — property theorems: `PrefixFromReversedAddr` and `ExtractReversedAddr` (models in
`Model/NetReversed.lean`) return exactly the network the reference decoder `Spec/C05.lean`
reads off the labels; every accepted prefix has all host bits zero; and (C01 for these
functions) neither function panics, indexes out of range or runs out of loop fuel.

Contracts on `idna.ToASCII` (a parameter of the models) are explicit hypotheses:
* `hDot` — a name that starts with a dot is mapped to a name that starts with a dot
  (consequence of IDNA-2 "labels are mapped position-wise");
* `hT` (IDNA-1) — an all-ASCII name without `xn--` labels is returned unchanged.
The `example`s at the end show that each hypothesis is needed where it is used.
-/
import GolibsVerif.Lemmas.C05Idna

namespace GolibsVerif.C05
open GolibsVerif.Netutil GolibsVerif.Str GolibsVerif.Netip GolibsVerif GolibsVerif.Gen.Consts

/-! ### Totality (C01) -/

/-- `PrefixFromReversedAddr` never panics: for EVERY behaviour of `idna.ToASCII` and every
input the model returns normally (no out-of-range index or slice, `ip[l]` never beyond the
array, no fuel exhaustion, `replaceKind` never hits its `panic`). -/
theorem prefixFromReversedAddr_total (toASCII : Bytes → Option Bytes) (s : Bytes) :
    ∃ r, prefixFromReversedAddr toASCII s = .ok r := by
  rcases prefix_cases toASCII s with ⟨_, e, h⟩ | ⟨_, r, h, _⟩ <;> exact ⟨_, h⟩

/-- `ExtractReversedAddr` never panics, provided `idna.ToASCII` keeps a leading dot (so that a
validated name has a non-empty first label). -/
theorem extractReversedAddr_total (toASCII : Bytes → Option Bytes)
    (hDot : ∀ s t, toASCII s = some t → s.head? = some 46 → t.head? = some 46) (d : Bytes) :
    ∃ r, extractReversedAddr toASCII d = .ok r := by
  rcases extract_cases toASCII d with ⟨_, e, h⟩ | ⟨hv, ⟨r, h, _⟩ | ⟨hd, _⟩⟩
  · exact ⟨_, h⟩
  · exact ⟨_, h⟩
  · exact absurd ((head_asciiLower _).1 hd) (valid_no_leading_dot toASCII hDot _ hv)

/-- `subnetFromReversedV4` is total on every string that ends with `in-addr.arpa` (what both
callers pass), including strings that are not valid domain names. -/
theorem subnetFromReversedV4_total (arpa : Bytes) (h : hasSuffix arpa v4tail = true) :
    ∃ r, subnetFromReversedV4 arpa = .ok r := by
  obtain ⟨pre, rfl⟩ := (hasSuffix_iff _ _).1 h
  obtain ⟨r, hr, _⟩ := subnetV4_spec pre
  exact ⟨r, hr⟩

/-- `subnetFromReversedV6` is total on every string that ends with `ip6.arpa`. -/
theorem subnetFromReversedV6_total (arpa : Bytes) (h : hasSuffix arpa v6tail = true) :
    ∃ r, subnetFromReversedV6 arpa = .ok r := by
  obtain ⟨pre, rfl⟩ := (hasSuffix_iff _ _).1 h
  obtain ⟨r, hr, _⟩ := subnetV6_model pre
  exact ⟨r, hr⟩

/-- `ipv4NetFromReversed` is total on every string with at most three dots (its caller passes
at most two): `ip[l]` stays inside the `[4]byte`, the slices stay in range, the loop ends. -/
theorem ipv4NetFromReversed_total (arpa : Bytes) (h : countByte arpa 46 ≤ 3) :
    ∃ r, ipv4NetFromReversed arpa = .ok r := by
  obtain ⟨l, R, hl, hR, rfl, _⟩ := exists_frontOf arpa
  rw [count_dot_frontOf R l hR hl] at h
  obtain ⟨r, hr, _⟩ := ipv4NetFromReversed_spec R l hl hR h
  exact ⟨r, hr⟩

/-- `ipv6FromReversed` is total on every string of at least 64 bytes (its callers pass 72). -/
theorem ipv6FromReversed_total (arpa : Bytes) (h : 64 ≤ arpa.length) :
    ∃ r, ipv6FromReversed arpa = .ok r :=
  C04.ipv6FromReversed_total arpa h

/-- `ipv6NetFromReversed` is total on every string shorter than 72 bytes that ends with
`ip6.arpa` (what `subnetFromReversedV6` passes): `arpa[nibbleIdx+1]` and `ip[l/2]` stay in
range. -/
theorem ipv6NetFromReversed_total (arpa : Bytes) (h : hasSuffix arpa v6tail = true)
    (hlen : arpa.length < arpaV6MaxLen) : ∃ r, ipv6NetFromReversed arpa = .ok r := by
  obtain ⟨pre, rfl⟩ := (hasSuffix_iff _ _).1 h
  obtain ⟨r, hr, _⟩ := ipv6NetFromReversed_model pre
    (by simp [v6tail_length, arpaV6MaxLen] at hlen; omega)
  exact ⟨r, hr⟩

/-- `indexFirstV4Label` is total on every name that ends with a label-aligned `in-addr.arpa`,
and "idx is never negative" (nor beyond the string). -/
theorem indexFirstV4Label_total (domain : Bytes) (h : hasSuffix domain v4tail = true)
    (hal : alignedAt domain arpaV4Suffix.length = .ok true) :
    ∃ i : Nat, indexFirstV4Label domain = .ok (i : Int) ∧ i ≤ domain.length := by
  obtain ⟨pre, rfl⟩ := (hasSuffix_iff _ _).1 h
  rw [alignedAt_eval pre v4tail _ (by decide)] at hal
  obtain ⟨F, hFd, rfl⟩ := exists_frontOf_of_aligned pre (by simpa using hal)
  obtain ⟨taken, hsplit, _⟩ := scanP_split octetOK 4 F
  refine ⟨_, indexFirstV4Label_frontOf F hFd, ?_⟩
  rw [frontOf_scanP octetOK 4 F taken hsplit]
  simp

/-- `indexFirstV6Label` is total on every name that ends with a label-aligned `ip6.arpa` and
does not start with a dot. -/
theorem indexFirstV6Label_total (domain : Bytes) (h : hasSuffix domain v6tail = true)
    (hal : alignedAt domain arpaV6Suffix.length = .ok true) (hd : domain.head? ≠ some 46) :
    ∃ i : Nat, indexFirstV6Label domain = .ok (i : Int) ∧ i ≤ domain.length := by
  obtain ⟨pre, rfl⟩ := (hasSuffix_iff _ _).1 h
  rw [alignedAt_eval pre v6tail _ (by decide)] at hal
  obtain ⟨F, hFd, rfl⟩ := exists_frontOf_of_aligned pre (by simpa using hal)
  obtain ⟨taken, hsplit, _⟩ := scanP_split isNib 32 F
  rcases indexFirstV6Label_frontOf F hFd with hidx | ⟨hdot, _⟩
  · refine ⟨_, hidx, ?_⟩
    rw [frontOf_scanP isNib 32 F taken hsplit]
    simp
  · exact absurd hdot hd

/-- Every prefix `PrefixFromReversedAddr` returns is a well-formed IPv4 (`bits ≤ 32`, multiple
of 8) or IPv6 (`bits ≤ 128`, multiple of 4) prefix all of whose host bits are zero — for
every behaviour of `idna.ToASCII`. -/
theorem prefix_masked (toASCII : Bytes → Option Bytes) (s : Bytes) (p : Prefix)
    (h : prefixFromReversedAddr toASCII s = .ok (.ok p)) : Masked p := by
  rcases prefix_cases toASCII s with ⟨_, e, he⟩ | ⟨_, r, hr, _, hshape⟩
  · rw [he] at h; cases h
  · rw [hr] at h
    exact masked_of_shape p (hshape p (Except.ok.inj h))

/-- The same for `ExtractReversedAddr`. -/
theorem extract_masked (toASCII : Bytes → Option Bytes) (d : Bytes) (p : Prefix)
    (h : extractReversedAddr toASCII d = .ok (.ok p)) : Masked p := by
  rcases extract_cases toASCII d with ⟨_, e, he⟩ | ⟨_, ⟨r, hr, _, hshape⟩ | ⟨_, e, he⟩⟩
  · rw [he] at h; cases h
  · rw [hr] at h
    exact masked_of_shape p (hshape p (Except.ok.inj h))
  · rw [he] at h; cases h

/-- Soundness, with no hypothesis on `idna.ToASCII`, for inputs that do not start with a dot:
an accepted name decodes, by the reference decoder, to exactly the returned prefix. -/
theorem prefix_sound_of_no_leading_dot (toASCII : Bytes → Option Bytes) (s : Bytes) (p : Prefix)
    (hs : s.head? ≠ some 46)
    (h : prefixFromReversedAddr toASCII s = .ok (.ok p)) : arpaPrefixSpec (labelsOf s) = some p :=
  prefix_sound_of_head toASCII s p (fun _ hd => hs (head_trimSuffix s hd)) h

/-- Soundness of `PrefixFromReversedAddr` under the leading-dot contract. -/
theorem prefix_sound (toASCII : Bytes → Option Bytes)
    (hDot : ∀ s t, toASCII s = some t → s.head? = some 46 → t.head? = some 46)
    (s : Bytes) (p : Prefix)
    (h : prefixFromReversedAddr toASCII s = .ok (.ok p)) : arpaPrefixSpec (labelsOf s) = some p :=
  prefix_sound_of_head toASCII s p (valid_no_leading_dot toASCII hDot _) h

/-- If the reference decoder reads a prefix off the labels, `PrefixFromReversedAddr` returns
it — given that `idna.ToASCII` returns all-ASCII names without `xn--` labels unchanged. -/
theorem prefix_complete (toASCII : Bytes → Option Bytes)
    (hT : ∀ s, (∀ b ∈ s, b < 128) → NoXnLabel s → toASCII s = some s)
    (s : Bytes) (p : Prefix)
    (h : arpaPrefixSpec (labelsOf s) = some p) : prefixFromReversedAddr toASCII s = .ok (.ok p) := by
  obtain ⟨hv, hhead⟩ := accepted_valid toASCII hT (trimSuffix s [46]) p h
  rcases prefix_cases toASCII s with ⟨hnv, _⟩ | ⟨_, r, hr, hspec, _⟩
  · exact absurd hv hnv
  · have := hspec hhead
    rw [h] at this
    cases r with
    | error e => cases this
    | ok q => cases this; exact hr

/-- `PrefixFromReversedAddr(s) = p` ⇔ the reference decoder reads `p` off the labels of `s`. -/
theorem prefix_iff (toASCII : Bytes → Option Bytes)
    (hDot : ∀ s t, toASCII s = some t → s.head? = some 46 → t.head? = some 46)
    (hT : ∀ s, (∀ b ∈ s, b < 128) → NoXnLabel s → toASCII s = some s)
    (s : Bytes) (p : Prefix) :
    prefixFromReversedAddr toASCII s = .ok (.ok p) ↔ arpaPrefixSpec (labelsOf s) = some p :=
  ⟨prefix_sound toASCII hDot s p, prefix_complete toASCII hT s p⟩

/-- Soundness, with no hypothesis on `idna.ToASCII`: if `ExtractReversedAddr(d)` returns `p`
then `d` (minus one trailing dot) passes `ValidateDomainName` and `p` is what the reference
decoder reads off the longest label-aligned suffix on which it is defined. -/
theorem extract_sound (toASCII : Bytes → Option Bytes) (d : Bytes) (p : Prefix)
    (h : extractReversedAddr toASCII d = .ok (.ok p)) :
    validateDomainName toASCII (trimSuffix d [46]) = .ok none ∧
      longestArpaSuffix (labelsOf d) = some p := by
  rcases extract_cases toASCII d with ⟨_, e, he⟩ | ⟨hv, ⟨r, hr, hspec, _⟩ | ⟨_, e, he⟩⟩
  · rw [he] at h; cases h
  · rw [hr] at h
    cases Except.ok.inj h
    exact ⟨hv, hspec.symm⟩
  · rw [he] at h; cases h

/-- Completeness under the leading-dot contract: a valid domain name with an ARPA name as a
label-aligned suffix is decoded to the prefix of the longest such suffix. -/
theorem extract_complete (toASCII : Bytes → Option Bytes)
    (hDot : ∀ s t, toASCII s = some t → s.head? = some 46 → t.head? = some 46)
    (d : Bytes) (p : Prefix)
    (hv : validateDomainName toASCII (trimSuffix d [46]) = .ok none)
    (h : longestArpaSuffix (labelsOf d) = some p) :
    extractReversedAddr toASCII d = .ok (.ok p) := by
  rcases extract_cases toASCII d with ⟨hnv, _⟩ | ⟨_, ⟨r, hr, hspec, _⟩ | ⟨hd, _⟩⟩
  · exact absurd hv hnv
  · rw [h] at hspec
    cases r with
    | error e => cases hspec
    | ok q => cases hspec; exact hr
  · exact absurd ((head_asciiLower _).1 hd) (valid_no_leading_dot toASCII hDot _ hv)

/-- `ExtractReversedAddr(d) = p` ⇔ `d` is a valid domain name and `p` is the prefix of its
longest label-aligned ARPA suffix. -/
theorem extract_iff (toASCII : Bytes → Option Bytes)
    (hDot : ∀ s t, toASCII s = some t → s.head? = some 46 → t.head? = some 46)
    (d : Bytes) (p : Prefix) :
    extractReversedAddr toASCII d = .ok (.ok p) ↔
      validateDomainName toASCII (trimSuffix d [46]) = .ok none ∧
        longestArpaSuffix (labelsOf d) = some p :=
  ⟨extract_sound toASCII d p, fun ⟨hv, h⟩ => extract_complete toASCII hDot d p hv h⟩


/-- **"Minus one optional trailing dot and ASCII-case-insensitively", made explicit**: two inputs
that are equal modulo ASCII letter case and one trailing dot are accepted by
`PrefixFromReversedAddr` together, with the same prefix. -/
theorem prefix_case_dot_invariant (toASCII : Bytes → Option Bytes)
    (hDot : ∀ s t, toASCII s = some t → s.head? = some 46 → t.head? = some 46)
    (hT : ∀ s, (∀ b ∈ s, b < 128) → NoXnLabel s → toASCII s = some s)
    (s s' : Bytes) (h : asciiLower (trimSuffix s [46]) = asciiLower (trimSuffix s' [46])) (p : Prefix) :
    prefixFromReversedAddr toASCII s = .ok (.ok p) ↔ prefixFromReversedAddr toASCII s' = .ok (.ok p) := by
  rw [prefix_iff toASCII hDot hT s p, prefix_iff toASCII hDot hT s' p]
  unfold labelsOf; rw [h]

/-- On a valid domain name that `PrefixFromReversedAddr` accepts, `ExtractReversedAddr` returns
the same network: the whole name is its own longest label-aligned ARPA suffix. -/
theorem extract_extends_prefix (toASCII : Bytes → Option Bytes)
    (hDot : ∀ s t, toASCII s = some t → s.head? = some 46 → t.head? = some 46)
    (s : Bytes) (p : Prefix)
    (h : prefixFromReversedAddr toASCII s = .ok (.ok p))
    (hv : validateDomainName toASCII (trimSuffix s [46]) = .ok none) :
    extractReversedAddr toASCII s = .ok (.ok p) := by
  have hs := prefix_sound toASCII hDot s p h
  refine (extract_iff toASCII hDot s p).2 ⟨hv, ?_⟩
  cases hl : labelsOf s with
  | nil => rw [hl] at hs; simp [arpaPrefixSpec] at hs
  | cons l ls => rw [hl] at hs; simp [longestArpaSuffix, hs]

/-! ### Non-vacuity: the hypotheses are satisfiable, and each is needed -/

/-- the returned prefix, if the call returned normally without an error -/
def result (r : GoM (Except Err Prefix)) : Option Prefix :=
  match r with
  | .ok (.ok p) => some p
  | _ => none

/-- the Go panic, if the call panicked -/
def panicOf (r : GoM (Except Err Prefix)) : Option GoPanic :=
  match r with
  | .error e => some e
  | .ok _ => none

/-- the identity satisfies both contracts -/
def idAscii : Bytes → Option Bytes := some

example : ∀ s t, idAscii s = some t → s.head? = some 46 → t.head? = some 46 := by
  intro s t h; cases h; exact id
example : ∀ s, (∀ b ∈ s, b < 128) → NoXnLabel s → idAscii s = some s := fun _ _ _ => rfl

-- accepted names (both families, mixed case, trailing dot, root zones, odd nibble count)
example : result (prefixFromReversedAddr idAscii (ascii "3.2.10.In-Addr.ARPA.")) =
    some ⟨.v4 [10, 2, 3, 0], 24⟩ := by rw [ascii_ofList]; decide +kernel
example : result (prefixFromReversedAddr idAscii (ascii "4.3.2.1.in-addr.arpa")) =
    some ⟨.v4 [1, 2, 3, 4], 32⟩ := by rw [ascii_ofList]; decide +kernel
example : result (prefixFromReversedAddr idAscii (ascii "in-addr.arpa")) =
    some ⟨.v4 [0, 0, 0, 0], 0⟩ := by rw [ascii_ofList]; decide +kernel
example : result (prefixFromReversedAddr idAscii (ascii "B.a.1.ip6.arpa")) =
    some ⟨.v6 [0x1a, 0xb0, 0, 0, 0, 0, 0, 0, 0, 0, 0, 0, 0, 0, 0, 0] [], 12⟩ := by rw [ascii_ofList]; decide +kernel
example : arpaPrefixSpec (labelsOf (ascii "B.a.1.ip6.arpa")) =
    some ⟨.v6 [0x1a, 0xb0, 0, 0, 0, 0, 0, 0, 0, 0, 0, 0, 0, 0, 0, 0] [], 12⟩ := by rw [ascii_ofList]; decide +kernel
example : Masked ⟨.v6 [0x1a, 0xb0, 0, 0, 0, 0, 0, 0, 0, 0, 0, 0, 0, 0, 0, 0] [], 12⟩ :=
  prefix_masked idAscii (ascii "B.a.1.ip6.arpa") _
    (prefix_complete idAscii (fun _ _ _ => rfl) _ _ (by rw [ascii_ofList]; decide +kernel))
-- rejected names (leading zero, the repaired defect; 5 octets; two-character nibble label)
example : arpaPrefixSpec (labelsOf (ascii "00.in-addr.arpa")) = none := by rw [ascii_ofList]; decide +kernel
example : result (prefixFromReversedAddr idAscii (ascii "00.in-addr.arpa")) = none := by rw [ascii_ofList]; decide +kernel
example : result (prefixFromReversedAddr idAscii (ascii "5.4.3.2.1.in-addr.arpa")) = none := by rw [ascii_ofList]; decide +kernel
example : result (prefixFromReversedAddr idAscii (ascii "aa.ip6.arpa")) = none := by rw [ascii_ofList]; decide +kernel
-- extraction takes the longest suffix and ignores what precedes it
example : result (extractReversedAddr idAscii (ascii "x.5.4.3.2.1.in-addr.arpa")) =
    some ⟨.v4 [1, 2, 3, 4], 32⟩ := by rw [ascii_ofList]; decide +kernel
example : longestArpaSuffix (labelsOf (ascii "x.5.4.3.2.1.in-addr.arpa")) =
    some ⟨.v4 [1, 2, 3, 4], 32⟩ := by rw [ascii_ofList]; decide +kernel
example : result (extractReversedAddr idAscii (ascii "aa.ip6.arpa")) =
    some ⟨.v6 [0, 0, 0, 0, 0, 0, 0, 0, 0, 0, 0, 0, 0, 0, 0, 0] [], 0⟩ := by rw [ascii_ofList]; decide +kernel
example : result (extractReversedAddr idAscii (ascii "xip6.arpa")) = none := by rw [ascii_ofList]; decide +kernel

/-- an `idna.ToASCII` that violates the leading-dot contract on two names -/
def dotDroppingAscii (s : Bytes) : Option Bytes :=
  if s = ascii ".ip6.arpa" ∨ s = ascii ".1.in-addr.arpa" then some (ascii "a.b") else some s

/-- Without `hDot` the model of `ExtractReversedAddr` DOES panic (`domain[-1]` in
`indexFirstV6Label`), so the hypothesis of `extractReversedAddr_total` is needed. -/
example : panicOf (extractReversedAddr dotDroppingAscii (ascii ".ip6.arpa")) =
    some (.indexOutOfRange (-1) 9) := by rw [ascii_ofList]; decide +kernel

/-- Without `hDot`, `PrefixFromReversedAddr` accepts a name the reference decoder rejects (the
loop of `ipv4NetFromReversed` ends silently on the empty first label), so the hypothesis of
`prefix_sound` is needed. -/
example : result (prefixFromReversedAddr dotDroppingAscii (ascii ".1.in-addr.arpa")) =
      some ⟨.v4 [1, 0, 0, 0], 8⟩ ∧
    arpaPrefixSpec (labelsOf (ascii ".1.in-addr.arpa")) = none := by rw [ascii_ofList]; decide +kernel

/-- Without IDNA-1 completeness fails (an `idna.ToASCII` that rejects everything). -/
example : result (prefixFromReversedAddr (fun _ => none) (ascii "in-addr.arpa")) = none ∧
    arpaPrefixSpec (labelsOf (ascii "in-addr.arpa")) = some ⟨.v4 [0, 0, 0, 0], 0⟩ := by rw [ascii_ofList]; decide +kernel

end GolibsVerif.C05
