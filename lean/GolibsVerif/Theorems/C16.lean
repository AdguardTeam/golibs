/-
C16 — property theorems for `RedactUserinfo` / `RedactUserinfoInURLError`
(model in `Model/C16.lean`).

Every theorem quantifies over every `render` (= `(*url.URL).String`), every heap, every
pointer and every URL value; none looks at the value of the mask.
-/
import GolibsVerif.Lemmas.C16

namespace GolibsVerif.C16

/-! ### `RedactUserinfo` -/

/-- `RedactUserinfo` does not panic on a non-nil pointer, and what it returns points to
`redactVal` of the input value. -/
theorem redact_refines (h : Heap) (p : Ptr) (u : URL) (hp : h.get p = .ok u) :
    ∃ h' q, redact h p = .ok (h', q) ∧ h'.get q = .ok (redactVal u) := by
  by_cases hu : u.user = none
  · exact ⟨h, p, redact_none h p u hp hu, by rw [redactVal_none u hu]; exact hp⟩
  · exact ⟨_, _, redact_some h p u hp hu, by rw [redactVal_some u hu]; exact alloc_get h _⟩

/-- Two-run non-interference: two URLs that differ only in their (non-nil) userinfo are
redacted to the same value, hence to the same `String()` for every `String` function. -/
theorem redact_noninterference (render : Option Userinfo → Rest → Bytes) (u₁ u₂ : URL)
    (hrest : u₁.rest = u₂.rest) (h₁ : u₁.user ≠ none) (h₂ : u₂.user ≠ none) :
    redactVal u₁ = redactVal u₂ ∧
    render (redactVal u₁).user (redactVal u₁).rest = render (redactVal u₂).user (redactVal u₂).rest := by
  have : redactVal u₁ = redactVal u₂ := by rw [redactVal_some u₁ h₁, redactVal_some u₂ h₂, hrest]
  exact ⟨this, by rw [this]⟩

/-- The same on the pointer-level model: any two calls (in any two heaps) on URLs that
differ only in their non-nil userinfo return pointers to equal values. -/
theorem redact_noninterference_heap (render : Option Userinfo → Rest → Bytes)
    (h₁ h₂ h₁' h₂' : Heap) (p₁ p₂ q₁ q₂ : Ptr) (u₁ u₂ : URL)
    (hp₁ : h₁.get p₁ = .ok u₁) (hp₂ : h₂.get p₂ = .ok u₂)
    (hrest : u₁.rest = u₂.rest) (hu₁ : u₁.user ≠ none) (hu₂ : u₂.user ≠ none)
    (hr₁ : redact h₁ p₁ = .ok (h₁', q₁)) (hr₂ : redact h₂ p₂ = .ok (h₂', q₂)) :
    ∃ r₁ r₂, h₁'.get q₁ = .ok r₁ ∧ h₂'.get q₂ = .ok r₂ ∧ r₁ = r₂ ∧
      render r₁.user r₁.rest = render r₂.user r₂.rest := by
  obtain ⟨a, b, hab, hget₁⟩ := redact_refines h₁ p₁ u₁ hp₁
  obtain ⟨c, d, hcd, hget₂⟩ := redact_refines h₂ p₂ u₂ hp₂
  rw [hr₁] at hab
  rw [hr₂] at hcd
  cases hab
  cases hcd
  have hni := redact_noninterference render u₁ u₂ hrest hu₁ hu₂
  exact ⟨_, _, hget₁, hget₂, hni.1, hni.2⟩

/-- The redacted rendering is a function of the non-userinfo components alone. -/
theorem redact_depends_only_on_rest (render : Option Userinfo → Rest → Bytes) :
    ∃ f : Rest → Bytes, ∀ u : URL, u.user ≠ none →
      render (redactVal u).user (redactVal u).rest = f u.rest := by
  exact ⟨fun r => render (some redactedUserinfo) r, fun u hu => by rw [redactVal_some u hu]⟩

/-- For a URL with userinfo the returned pointer is fresh: it is the next
address of the allocator, it is none of the pointers allocated before the call (in particular
not the input and not the result of an earlier call), and it is allocated afterwards. -/
theorem redact_fresh (h h' : Heap) (p q : Ptr) (u : URL)
    (hp : h.get p = .ok u) (hu : u.user ≠ none) (hr : redact h p = .ok (h', q)) :
    q = some h.cells.length ∧ ¬ h.Allocated q ∧ (∀ p', h.Allocated p' → q ≠ p') ∧
    h'.Allocated q ∧ h'.cells.length = h.cells.length + 1 := by
  rw [redact_some h p u hp hu] at hr
  cases hr
  have hna : ¬ h.Allocated (some h.cells.length) := by
    rw [allocated_iff]
    rintro ⟨a, ha, hlt⟩
    cases ha
    exact Nat.lt_irrefl _ hlt
  exact ⟨rfl, hna, fun p' hp' heq => hna (heq ▸ hp'), (allocated_iff ..).2 ⟨_, rfl, by simp⟩, by simp⟩

/-- Frame: the result's userinfo is the mask and every other component equals the input's;
a URL without userinfo is returned as is (same pointer, heap untouched); with userinfo the
returned pointer is a new one; no existing URL (in particular the input) is modified. -/
theorem redact_frame (h h' : Heap) (p q : Ptr) (u : URL)
    (hp : h.get p = .ok u) (hr : redact h p = .ok (h', q)) :
    ∃ r, h'.get q = .ok r ∧
      r.rest = u.rest ∧
      (u.user = none → q = p ∧ h' = h ∧ r = u) ∧
      (u.user ≠ none → r.user = some redactedUserinfo ∧ q ≠ p ∧ (∀ v, h.get q ≠ .ok v)) ∧
      h.Preserves h' ∧ h'.get p = .ok u := by
  by_cases hu : u.user = none
  · rw [redact_none h p u hp hu] at hr
    cases hr
    exact ⟨u, hp, rfl, fun _ => ⟨rfl, rfl, rfl⟩, fun hne => absurd hu hne, fun _ _ hv => hv, hp⟩
  · obtain ⟨-, hna, hne, -, -⟩ := redact_fresh h h' p q u hp hu hr
    rw [redact_some h p u hp hu] at hr
    cases hr
    exact ⟨_, alloc_get h _, rfl, fun hn => absurd hn hu, fun _ => ⟨rfl, hne p ⟨u, hp⟩, fun v hv => hna ⟨v, hv⟩⟩,
      alloc_preserves h _, alloc_preserves h _ p u hp⟩

/-- The result belongs to the caller.  Redact a URL with userinfo; then
let the callers do anything to the heap — any stores through the returned pointer or any
other pointer but the input, any new URLs; then redact the same input again.  The second
call does not panic, its result is a pointer that was not allocated before it (so it is
neither the first result nor anything the callers hold), it points to the very value the
first result pointed to when it was returned — hence the same `String()`, for every
`String` function — and the input is as it was after each of the three steps. -/
theorem redact_again (render : Option Userinfo → Rest → Bytes) (h h₁ h₂ : Heap) (p q₁ : Ptr)
    (u : URL) (ms : List Mut)
    (hp : h.get p = .ok u) (hu : u.user ≠ none) (hr₁ : redact h p = .ok (h₁, q₁))
    (hno : NoStoreTo p ms) (hm : h₁.apply ms = .ok h₂) :
    ∃ h₃ q₂ r, redact h₂ p = .ok (h₃, q₂) ∧
      h₁.get q₁ = .ok r ∧ h₃.get q₂ = .ok r ∧
      render r.user r.rest = render (some redactedUserinfo) u.rest ∧
      q₂ ≠ q₁ ∧ q₂ ≠ p ∧ ¬ h₂.Allocated q₂ ∧
      h₁.get p = .ok u ∧ h₂.get p = .ok u ∧ h₃.get p = .ok u := by
  rw [redact_some h p u hp hu] at hr₁
  cases hr₁
  have hp₁ := alloc_preserves h { u with user := some redactedUserinfo } p u hp
  obtain ⟨hp₂, hle⟩ := apply_get_other _ h₂ ms p u hm hno hp₁
  have hr₂ := redact_some h₂ p u hp₂ hu
  obtain ⟨-, hna₂, hfresh₂, -, -⟩ := redact_fresh h₂ _ p _ u hp₂ hu hr₂
  refine ⟨_, _, _, hr₂, alloc_get h _, alloc_get h₂ _, rfl, ?_, hfresh₂ p ⟨u, hp₂⟩, hna₂, hp₁, hp₂,
    alloc_preserves h₂ _ p u hp₂⟩
  -- the first result is allocated before the second call, the second is not
  exact hfresh₂ _ ((allocated_iff ..).2 ⟨_, rfl, Nat.lt_of_lt_of_le (by simp) hle⟩)

/-- `redact_again` for the case the harness exercises: every field of the first result is
overwritten, any number of times (`ws` are the values the object goes through). -/
theorem redact_again_after_writes (render : Option Userinfo → Rest → Bytes) (h h₁ : Heap)
    (p q₁ : Ptr) (u : URL) (ws : List URL)
    (hp : h.get p = .ok u) (hu : u.user ≠ none) (hr₁ : redact h p = .ok (h₁, q₁)) :
    ∃ h₂ h₃ q₂ r, h₁.apply (ws.map (Mut.store q₁)) = .ok h₂ ∧ redact h₂ p = .ok (h₃, q₂) ∧
      h₁.get q₁ = .ok r ∧ h₃.get q₂ = .ok r ∧ q₂ ≠ q₁ ∧
      h₂.get q₁ = .ok (ws.getLast?.getD r) ∧ h₃.get q₁ = .ok (ws.getLast?.getD r) ∧
      h₃.get p = .ok u := by
  obtain ⟨-, -, hne, ⟨r, hr⟩, -⟩ := redact_fresh h h₁ p q₁ u hp hu hr₁
  obtain ⟨h₂, hm, hv₂⟩ := apply_stores q₁ ws h₁ r hr
  have hno : NoStoreTo p (ws.map (Mut.store q₁)) := by
    intro q v hmem
    simp only [List.mem_map] at hmem
    obtain ⟨w, -, hw⟩ := hmem
    cases hw
    exact hne p ⟨u, hp⟩
  obtain ⟨h₃, q₂, r', hr₂, hr', hget₂, -, hne₂, -, -, -, hp₂, hp₃⟩ :=
    redact_again render h h₁ h₂ p q₁ u _ hp hu hr₁ hno hm
  rw [hr] at hr'
  cases hr'
  obtain ⟨-, -, -, -, -, hpres, -⟩ := redact_frame h₂ h₃ p q₂ u hp₂ hr₂
  exact ⟨h₂, h₃, q₂, r, hm, hr₂, hr, hget₂, hne₂, hv₂, hpres q₁ _ hv₂, hp₃⟩

/-! ### `RedactUserinfoInURLError` -/

/-- A top-level (non-nil) `*url.Error` gets its URL text replaced by `String()` of the
redacted `u` — i.e. the rendering of the mask with `u`'s other components — whatever the
old text was; `Op` and `Err` stay; no existing URL is modified. -/
theorem urlError_redacted (render : Option Userinfo → Rest → Bytes) (h : Heap) (p : Ptr) (u : URL)
    (ue : URLError) (hp : h.get p = .ok u) (hu : u.user ≠ none) :
    ∃ h', redactInURLError render h p (.urlError ue) =
        .ok (h', .urlError { op := ue.op, url := render (redactVal u).user (redactVal u).rest, err := ue.err }) ∧
      render (redactVal u).user (redactVal u).rest = render (some redactedUserinfo) u.rest ∧
      h.Preserves h' ∧ h'.get p = .ok u := by
  rw [redactInURLError_urlError render h p u ue hp hu, redactVal_some u hu]
  exact ⟨_, rfl, rfl, alloc_preserves h _, alloc_preserves h _ p u hp⟩

/-- Two-run form for errors: for URLs that differ only in their non-nil userinfo, the error
texts after the call are identical, whatever the texts were before. -/
theorem urlError_noninterference (render : Option Userinfo → Rest → Bytes)
    (h₁ h₂ h₁' h₂' : Heap) (p₁ p₂ : Ptr) (u₁ u₂ : URL) (e₁ e₂ : URLError) (r₁ r₂ : Err)
    (hp₁ : h₁.get p₁ = .ok u₁) (hp₂ : h₂.get p₂ = .ok u₂)
    (hrest : u₁.rest = u₂.rest) (hu₁ : u₁.user ≠ none) (hu₂ : u₂.user ≠ none)
    (hop : e₁.op = e₂.op) (herr : e₁.err = e₂.err)
    (hr₁ : redactInURLError render h₁ p₁ (.urlError e₁) = .ok (h₁', r₁))
    (hr₂ : redactInURLError render h₂ p₂ (.urlError e₂) = .ok (h₂', r₂)) :
    r₁ = r₂ := by
  obtain ⟨a, ha, -, -, -⟩ := urlError_redacted render h₁ p₁ u₁ e₁ hp₁ hu₁
  obtain ⟨b, hb, -, -, -⟩ := urlError_redacted render h₂ p₂ u₂ e₂ hp₂ hu₂
  rw [hr₁] at ha
  rw [hr₂] at hb
  cases ha
  cases hb
  rw [(redact_noninterference render u₁ u₂ hrest hu₁ hu₂).2, hop, herr]

/-- The Go function never parses or inspects the text it replaces: when `u` has userinfo the
result does not depend on the old `URL` text of the error (it may be unparsable, lack
userinfo, or carry other credentials); when `u` has none the text is kept whatever it
contains (`urlError_without_userinfo_untouched`). -/
theorem urlError_old_text_irrelevant (render : Option Userinfo → Rest → Bytes) (h : Heap) (p : Ptr)
    (u : URL) (op t t' : Bytes) (err : Nat) (hp : h.get p = .ok u) (hu : u.user ≠ none) :
    redactInURLError render h p (.urlError ⟨op, t, err⟩) =
      redactInURLError render h p (.urlError ⟨op, t', err⟩) := by
  rw [redactInURLError_urlError render h p u _ hp hu, redactInURLError_urlError render h p u _ hp hu]

/-- When `u` has no userinfo a top-level `*url.Error` is left as it is (its text is not
inspected at all). -/
theorem urlError_without_userinfo_untouched (render : Option Userinfo → Rest → Bytes) (h : Heap)
    (p : Ptr) (u : URL) (ue : URLError) (hp : h.get p = .ok u) (hu : u.user = none) :
    redactInURLError render h p (.urlError ue) = .ok (h, .urlError ue) := by
  simp [redactInURLError, hp, hu, bind, Except.bind, pure, Except.pure]

/-- Every error that is not a top-level `*url.Error` — nil, any wrapper around a
`*url.Error`, any other error — is left untouched, and so is the heap; `u` is not even
dereferenced. -/
theorem other_errors_untouched (render : Option Userinfo → Rest → Bytes) (h : Heap) (p : Ptr)
    (e : Err) (hne : ∀ ue, e ≠ .urlError ue) (hnil : e ≠ .urlErrorNilPtr) :
    redactInURLError render h p e = .ok (h, e) := by
  cases e with
  | nil => rfl
  | urlError ue => exact absurd rfl (hne ue)
  | urlErrorNilPtr => exact absurd rfl hnil
  | wrapped w ue => rfl
  | other c => rfl

/-- Whatever the error, `RedactUserinfoInURLError` modifies no existing URL. -/
theorem urlError_input_unchanged (render : Option Userinfo → Rest → Bytes) (h h' : Heap) (p : Ptr)
    (e e' : Err) (hr : redactInURLError render h p e = .ok (h', e')) : h.Preserves h' := by
  have same : h.Preserves h := fun _ _ hv => hv
  cases e with
  | nil => cases hr; exact same
  | wrapped w ue => cases hr; exact same
  | other c => cases hr; exact same
  | urlError ue =>
    cases hg : h.get p with
    | error err => simp [redactInURLError, hg, bind, Except.bind] at hr
    | ok u =>
      by_cases hu : u.user = none
      · rw [urlError_without_userinfo_untouched render h p u ue hg hu] at hr
        cases hr; exact same
      · rw [redactInURLError_urlError render h p u ue hg hu] at hr
        cases hr; exact alloc_preserves h _
  | urlErrorNilPtr =>
    cases hg : h.get p with
    | error err => simp [redactInURLError, hg, bind, Except.bind] at hr
    | ok u =>
      -- with userinfo the assignment through the nil `*url.Error` panics
      cases hus : u.user with
      | none =>
        simp [redactInURLError, hg, hus, bind, Except.bind, pure, Except.pure] at hr
        rw [← hr.1]; exact same
      | some ui =>
        simp [redactInURLError, hg, hus, redact_some h p u hg (by simp [hus]), alloc_get, bind, Except.bind] at hr

/-! ### Non-vacuity: the hypotheses are satisfiable and the conclusions are not trivial -/

private def r0 : Rest :=
  { scheme := ascii "http", opaqueStr := [], host := ascii "h", path := [], rawPath := [],
    omitHost := false, forceQuery := false, rawQuery := [], fragment := [], rawFragment := [] }
private def ua : URL := { user := some ⟨ascii "alice", ascii "s3cret", true⟩, rest := r0 }
private def ub : URL := { user := some ⟨ascii "bob", [], false⟩, rest := r0 }

-- two different URLs satisfying the hypotheses of `redact_noninterference`
example : ua ≠ ub ∧ ua.rest = ub.rest ∧ ua.user ≠ none ∧ ub.user ≠ none := by decide
-- a render function that exposes the whole userinfo still cannot tell the results apart,
-- although it tells the inputs apart
example :
    let render : Option Userinfo → Rest → Bytes :=
      fun o _ => match o with | none => [] | some i => i.username ++ [58] ++ i.password
    render ua.user ua.rest ≠ render ub.user ub.rest ∧
    render (redactVal ua).user (redactVal ua).rest = render (redactVal ub).user (redactVal ub).rest := by
  decide
-- the pointer-level hypotheses are satisfiable: a heap with both URLs, both calls succeed
example : ∃ h' q, redact ⟨[ua, ub]⟩ (some 0) = .ok (h', q) ∧ q = some 2 ∧ h'.get (some 0) = .ok ua := by
  exact ⟨_, _, rfl, rfl, rfl⟩
example : redact ⟨[{ ua with user := none }]⟩ (some 0) = .ok (⟨[{ ua with user := none }]⟩, some 0) := rfl
-- `redact_fresh` / `redact_again`: redact, scribble over the result (twice) and allocate, then
-- redact the same input again: a new pointer to the same redacted value; the scribbled-over first
-- result and the input stay as they are
example : NoStoreTo (some 0) [.store (some 1) ub, .new ub, .store (some 1) { ub with user := none }] := by
  intro q v hm
  simp only [List.mem_cons, List.not_mem_nil, or_false] at hm
  rcases hm with hm | hm | hm <;> cases hm <;> decide
example :
    ∃ h₁ h₂ h₃, redact ⟨[ua]⟩ (some 0) = .ok (h₁, some 1) ∧ h₁.get (some 1) = .ok (redactVal ua) ∧
      h₁.apply [.store (some 1) ub, .new ub, .store (some 1) { ub with user := none }] = .ok h₂ ∧
      redact h₂ (some 0) = .ok (h₃, some 3) ∧ h₃.get (some 3) = .ok (redactVal ua) ∧
      h₃.get (some 1) = .ok { ub with user := none } ∧ h₃.get (some 0) = .ok ua ∧
      ¬ h₂.Allocated (some 3) := by
  refine ⟨_, _, _, rfl, rfl, rfl, rfl, rfl, rfl, rfl, ?_⟩
  rw [allocated_iff]
  rintro ⟨a, ha, hlt⟩
  cases ha
  exact absurd hlt (by decide)
-- a store through nil panics
example : (⟨[ua]⟩ : Heap).apply [.store none ub] = .error .nilDeref := rfl
-- `urlError_redacted` fires on a concrete error and changes its text
example :
    (redactInURLError (fun _ _ => ascii "R") ⟨[ua]⟩ (some 0) (.urlError ⟨ascii "Get", ascii "old", 7⟩)).toOption.map (·.2)
      = some (.urlError ⟨ascii "Get", ascii "R", 7⟩) := by decide
-- the precondition "u must not be nil" matters only on the `*url.Error` path
example : redact ⟨[]⟩ none = .error .nilDeref := rfl
example : redactInURLError (fun _ _ => []) ⟨[]⟩ none (.other 3) = .ok (⟨[]⟩, .other 3) := rfl
-- a typed-nil `*url.Error` with a URL that has userinfo makes the Go code panic
example : redactInURLError (fun _ _ => []) ⟨[ua]⟩ (some 0) .urlErrorNilPtr = .error .nilDeref := rfl

end GolibsVerif.C16
