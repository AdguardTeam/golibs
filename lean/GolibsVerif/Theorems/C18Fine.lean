/-
C18 — property theorems about the statement-level transition system of `RefreshWorker`
(`Model/C18Fine.lean`; observation functions and per-step lemmas in `Lemmas/C18Fine.lean`).
Only property theorems and non-vacuity examples live here.

Every universally quantified theorem is over ALL action sequences `acts : List Act`, i.e. all
interleavings of the loop goroutine, the goroutine inside `Shutdown`, the timer and the
returns of the user-supplied callbacks, with all return values and all resolutions of
`select`'s random choice; the proofs are inductions over the action list with an inductive
invariant or a per-step balance (no sampling).

Route taken for the clauses already proved on the coarse system of `Model/C18.lean`
(`refresh_once_per_tick`, `error_handled_once`, `schedule_consulted_after_each`): they are
proved here DIRECTLY on the fine system (`…_fine`), for every interleaving including those
with `Shutdown` steps inside the window.  A refinement "every fine execution without a
`Shutdown` step in the window projects to a coarse execution" is NOT proved (it needs
commutation of independent steps of the two goroutines).  What is proved about the two
systems is the embedding `coarse_embeds_in_fine`: every coarse history (with at most one
`Shutdown` call) IS one execution of the fine system — the block-sequential one in which every
stimulus is followed by running both goroutines to quiescence — with exactly the coarse
outputs; so the coarse theorems are statements about that sub-class of fine executions, and
the window / overlap executions are precisely what lies outside it.
-/
import GolibsVerif.Lemmas.C18Fine
import GolibsVerif.Lemmas.C18FineCoarse
import GolibsVerif.Model.C18Skel
import GolibsVerif.Gen.SyncSkel


namespace GolibsVerif.C18
open Fine

/-! ## The fine model's step order against the regenerated event graphs

`skel_start`, `skel_workerShutdown` (`Theorems/C18.lean`) pin the SOURCE to the expected event
graphs (`refreshInALoop` and `refresh` inlined).  They do not say that the fine model walks
through the statements in that order.  The obligations below compute the
order from the model's own step function (`ftrace` of canonical executions), translate every
event into the labels it stands for (`evLbls`), and check that the graph regenerated from
`/repo` on this run has a path from its entry with exactly these labels, in this order, and
nothing in between except labels the model has no event for (`silentLbl`: `Now`, `go`, defer
registrations, frame brackets, residual conditions, `return`): re-ordering `New`/`Refresh`,
moving or dropping the re-check, merging the two selects, moving `close(done)` after the final
refresh, dropping or adding a call — in the source or in the model — breaks them. -/

open GolibsVerif.Skel in
/-- One full iteration: `UntilNext`, `After`, outer select (timer), inner select (re-check,
`default`), then inside `w.refresh` first `New`, then `Refresh`; the error test; `Handle` iff the
error is not nil; `UntilNext` again — a path of `Start`'s graph from its entry, for a failing
and for a successful refresh. -/
theorem fine_loop_order_matches_skeleton :
    accepts Gen.SyncSkel.service_RefreshWorker_Start silentLbl 64 0
      ((ftrace true finit loopIterationActs).flatMap evLbls) = true ∧
    accepts Gen.SyncSkel.service_RefreshWorker_Start silentLbl 64 0
      ((ftrace true finit loopIterationOkActs).flatMap evLbls) = true := by
  decide +kernel

open GolibsVerif.Skel in
/-- The two `return`s of the loop: the `done` case of the outer select, taken directly after
`After` is evaluated, and the `done` case of the inner select, taken directly after the timer
case — each followed by nothing but the end of the goroutine and of `Start`. -/
theorem fine_exits_match_skeleton :
    acceptsEnd Gen.SyncSkel.service_RefreshWorker_Start silentLbl 64 0
      (((ftrace true finit loopExitOuterActs).filter isLoopEv).flatMap evLbls) = true ∧
    acceptsEnd Gen.SyncSkel.service_RefreshWorker_Start silentLbl 64 0
      (((ftrace true finit loopExitRecheckActs).filter isLoopEv).flatMap evLbls) = true := by
  decide +kernel

open GolibsVerif.Skel in
/-- `Shutdown`: `close(w.done)` first, then, iff `RefreshOnShutdown`, (inside `w.refresh`)
`New`, then `Refresh`; then it returns. -/
theorem fine_shutdown_order_matches_skeleton :
    acceptsEnd Gen.SyncSkel.service_RefreshWorker_Shutdown silentLbl 64 0
      ((ftrace true finit shutdownActs).flatMap evLbls) = true ∧
    acceptsEnd Gen.SyncSkel.service_RefreshWorker_Shutdown silentLbl 64 0
      ((ftrace false finit shutdownActs).flatMap evLbls) = true := by
  decide +kernel

/-- The regenerated graphs of `Start` and `Shutdown` contain no event outside the fine
model's alphabet: a call, channel operation or select case added to the source is not
silently ignored by the walks above. -/
theorem fine_alphabet_covers_skeleton :
    alphabetCovers Gen.SyncSkel.service_RefreshWorker_Start = true ∧
    alphabetCovers Gen.SyncSkel.service_RefreshWorker_Shutdown = true := by
  decide +kernel

/-! The walks are not vacuous: orders the source does not have are rejected. -/

open GolibsVerif.Skel in
/-- `Refresh` before `New` is not a path -/
example : accepts Gen.SyncSkel.service_RefreshWorker_Start silentLbl 64 0
    [.call "UntilNext", .call "After", .select, .caseRecv "After()", .select, .caseDefault,
     .call "Refresh", .call "New"] = false := by decide +kernel

open GolibsVerif.Skel in
/-- a refresh without the re-check of `done` is not a path -/
example : accepts Gen.SyncSkel.service_RefreshWorker_Start silentLbl 64 0
    [.call "UntilNext", .call "After", .select, .caseRecv "After()", .call "New"] = false := by decide +kernel

open GolibsVerif.Skel in
/-- `close(done)` after the final refresh is not a path; nor is a `Shutdown` that returns
between `New` and `Refresh` -/
example : acceptsEnd Gen.SyncSkel.service_RefreshWorker_Shutdown silentLbl 64 0
    [.call "New", .call "Refresh", .close "recv.<chan unit>"] = false ∧
    acceptsEnd Gen.SyncSkel.service_RefreshWorker_Shutdown silentLbl 64 0
    [.close "recv.<chan unit>", .call "New"] = false := by decide +kernel

/-! ## What does NOT hold: the finding -/

/-- Machine-checked form of the finding: for either setting of
`RefreshOnShutdown` there IS an execution in which a scheduled `Refresh` is entered after
`Shutdown` has returned: the timer fires, the loop passes its re-check of `done` and is inside
`contextCons.New`; `Shutdown` runs to completion; `New` returns; `Refresh` is called. -/
theorem late_refresh_possible (ros : Bool) :
    ∃ (acts : List Act) (e : Nat) (pre post : List FEv),
      ftrace ros finit acts = pre ++ FEv.shutRet e :: post ∧
      FEv.refreshCall .loop (.cons .start) ∈ post := by
  cases ros with
  | false =>
    exact ⟨[.loop false, .untilRet 1, .loop false, .tick, .loop false, .loop false, .loop false,
        .callShutdown, .shut, .shut, .newRet .loop, .loop false], 0,
      [.untilCall, .untilRet 1, .after 1 false, .fire, .selTimer, .recheckOpen, .newCall .loop, .shutCall, .closeDone],
      [.newRet .loop, .refreshCall .loop (.cons .start)], by decide +kernel, by decide +kernel⟩
  | true =>
    exact ⟨[.loop false, .untilRet 1, .loop false, .tick, .loop false, .loop false, .loop false,
        .callShutdown, .shut, .shut, .shut, .newRet .shutdown, .shut, .refreshRet .shutdown 4, .shut,
        .newRet .loop, .loop false], 4,
      [.untilCall, .untilRet 1, .after 1 false, .fire, .selTimer, .recheckOpen, .newCall .loop, .shutCall, .closeDone,
       .newCall .shutdown, .newRet .shutdown, .refreshCall .shutdown (.cons .shutdown), .refreshRet .shutdown 4],
      [.newRet .loop, .refreshCall .loop (.cons .start)], by decide +kernel, by decide +kernel⟩

/-- The TODO in `Shutdown`: there is an execution in which a scheduled
`Refresh` is still running when the final `Refresh` is entered. -/
theorem overlap_possible :
    ∃ acts : List Act,
      (frun true finit acts).lpc = .inRefresh ∧ (frun true finit acts).spc = .inRefresh ∧
      ftrace true finit acts =
        [.untilCall, .untilRet 1, .after 1 false, .fire, .selTimer, .recheckOpen, .newCall .loop, .newRet .loop,
         .refreshCall .loop (.cons .start), .shutCall, .closeDone, .newCall .shutdown, .newRet .shutdown,
         .refreshCall .shutdown (.cons .shutdown)] :=
  ⟨[.loop false, .untilRet 1, .loop false, .tick, .loop false, .loop false, .loop false, .newRet .loop, .loop false,
    .callShutdown, .shut, .shut, .shut, .newRet .shutdown, .shut], by decide +kernel, by decide +kernel, by decide +kernel⟩

/-! ## What DOES hold after `close(done)` -/

/-- `at_most_one_late_refresh`.  Take ANY execution `pre`, then the step `a` that executes
`close(w.done)`, then ANY continuation `post`.  In everything after `close(done)`:
  * a scheduled `Refresh` is entered at most once, and only if at the moment of `close(done)` the
    loop goroutine was inside the window (`win s0 = 1`: past a re-check that saw `done` open,
    `Refresh` not entered yet) — so in particular at most one scheduled `Refresh` call follows
    `Shutdown`'s return;
  * no re-check sees `done` open;
  * the loop goroutine produces at most `rank ≤ 11` further events (that one iteration at most,
    then `return`): it terminates. -/
theorem at_most_one_late_refresh (ros : Bool) (pre post : List Act) (a : Act)
    (hclose : (fstep ros (frun ros finit pre) a).2 = some .closeDone) :
    let s0 := frun ros finit pre
    let tr := ftrace ros (fstep ros s0 a).1 post
    tr.countP isLoopRefreshCall ≤ win s0 ∧ win s0 ≤ 1 ∧
    tr.countP isRecheckOpen = 0 ∧
    tr.countP isLoopEv ≤ rank s0.lpc ∧ rank s0.lpc ≤ 11 := by
  dsimp only
  generalize frun ros finit pre = s0 at hclose
  have hstep := fstep_spec ros s0 a
  rw [hclose] at hstep
  obtain ⟨hcl, hfr⟩ := closeDone_step hstep rfl
  obtain ⟨h1, h2, h3⟩ := after_close (frun_spec ros post _) hcl
  have hw : win (fstep ros s0 a).1 = win s0 := congrArg winL hfr
  rw [hfr] at h3
  exact ⟨by omega, win_le_one s0, h2, h3, rank_le s0.lpc⟩

/-- The same on traces: in every execution, after the `close(done)` event — and hence after
the event "`Shutdown` returns" — at most ONE scheduled `Refresh` call occurs, no re-check sees
`done` open, and the loop goroutine produces at most 11 more events. -/
theorem at_most_one_refresh_after_shutdown (ros : Bool) (acts : List Act) :
    (afterFirst isCloseDone (ftrace ros finit acts)).countP isLoopRefreshCall ≤ 1 ∧
    (afterFirst isShutRet (ftrace ros finit acts)).countP isLoopRefreshCall ≤ 1 ∧
    (afterFirst isCloseDone (ftrace ros finit acts)).countP isRecheckOpen = 0 ∧
    (afterFirst isShutRet (ftrace ros finit acts)).countP isRecheckOpen = 0 ∧
    (afterFirst isCloseDone (ftrace ros finit acts)).countP isLoopEv ≤ 11 := by
  have key : ∀ p : FEv → Bool,
      (∀ {s s' e}, FInv s → FStep ros s s' (some e) → p e = true → s'.closed = true) →
      (afterFirst p (ftrace ros finit acts)).countP isLoopRefreshCall ≤ 1 ∧
      (afterFirst p (ftrace ros finit acts)).countP isRecheckOpen = 0 ∧
      (afterFirst p (ftrace ros finit acts)).countP isLoopEv ≤ 11 := by
    intro p hp
    rcases afterFirst_run (finv_stable ros) p (frun_spec ros acts finit) finv_init with
      h | ⟨s0, s1, e, hi, hstep, hpe, hr⟩
    · rw [h]; simp
    · obtain ⟨h1, h2, h3⟩ := after_close hr (hp hi hstep hpe)
      have := win_le_one s1
      have := rank_le s1.lpc
      exact ⟨by omega, h2, by omega⟩
  obtain ⟨a1, a2, a3⟩ := key isCloseDone (fun _ hstep hpe => (closeDone_step hstep hpe).1)
  obtain ⟨b1, b2, _⟩ := key isShutRet (fun hi hstep hpe => shutRet_closed hstep hpe hi)
  exact ⟨a1, b1, a2, b2, a3⟩

/-- Every scheduled `Refresh` call has its own earlier re-check that saw `done` open: in every
execution the number of scheduled `Refresh` calls, plus one if the loop is inside the window,
is the number of re-checks that saw `done` open.  With `at_most_one_late_refresh` (no such
re-check after `close(done)`): the one late refresh belongs to an iteration whose re-check
preceded `close(done)`. -/
theorem late_refresh_has_earlier_recheck (ros : Bool) (acts : List Act) :
    (ftrace ros finit acts).countP isLoopRefreshCall + win (frun ros finit acts) =
      (ftrace ros finit acts).countP isRecheckOpen :=
  run_balance (stable_true ros) isLoopRefreshCall isRecheckOpen win (fun h _ => win_step h) (frun_spec ros acts _)
    trivial

/-- If the loop goroutine is NOT inside the window when `done` is
closed — i.e. its next re-check, if any, happens after `close(done)` — then no scheduled
`Refresh` starts at all, whatever happens afterwards. -/
theorem recheck_after_close_stops (ros : Bool) (pre post : List Act) (a : Act)
    (hclose : (fstep ros (frun ros finit pre) a).2 = some .closeDone)
    (hout : win (frun ros finit pre) = 0) :
    (ftrace ros (fstep ros (frun ros finit pre) a).1 post).countP isLoopRefreshCall = 0 := by
  have h := (at_most_one_late_refresh ros pre post a hclose).1
  omega

/-- A re-check that sees `done` closed is the loop's `return`: in every execution no event of
the loop goroutine follows it. -/
theorem recheck_closed_is_exit (ros : Bool) (acts : List Act) :
    (afterFirst isRecheckClosed (ftrace ros finit acts)).countP isLoopEv = 0 := by
  rcases afterFirst_run (stable_true ros) isRecheckClosed (frun_spec ros acts finit) trivial with
    h | ⟨s0, s1, e, _, hstep, hpe, hr⟩
  · rw [h]; simp
  · obtain ⟨hcl, hex⟩ := recheckClosed_step hstep hpe
    have h3 := (after_close hr hcl).2.2
    rw [hex] at h3
    exact Nat.le_zero.1 h3

/-- After `close(done)` the loop goroutine is never stuck: in every reachable state with `done`
closed it has returned, or is inside one of the user's callbacks, or can make a step. -/
theorem loop_not_stuck_after_close (ros : Bool) (acts : List Act)
    (h : (frun ros finit acts).closed = true) :
    let s := frun ros finit acts
    s.lpc = .exited ∨ s.lpc = .inUntil ∨ s.lpc = .inNew ∨ s.lpc = .inRefresh ∨ s.lpc = .inHandle ∨
      loopRunnable s = true :=
  closed_loop_not_stuck _ h

/-- In every execution
  * the final `Refresh` (entered from `Shutdown`) never precedes `close(done)` (in every prefix:
    #final calls ≤ #close ≤ 1);
  * without `RefreshOnShutdown` there is none, with it at most one;
  * `Shutdown` returns at most once, and when it has returned `e`: with `RefreshOnShutdown`
    exactly one final `Refresh` was made and `e` is the error it returned (wrapped); without,
    none was made and `e` is nil. -/
theorem final_refresh_exact (ros : Bool) (acts : List Act) :
    let tr := ftrace ros finit acts
    tr.countP isFinalRefreshCall ≤ tr.countP isCloseDone ∧ tr.countP isCloseDone ≤ 1 ∧
    tr.countP isFinalRefreshCall ≤ (if ros then 1 else 0) ∧
    (shutRets tr).length ≤ 1 ∧
    ∀ e, e ∈ shutRets tr →
      shutRets tr = [e] ∧ tr.countP isCloseDone = 1 ∧
      (if ros then tr.countP isFinalRefreshCall = 1 ∧ finalRets tr = [e]
       else tr.countP isFinalRefreshCall = 0 ∧ e = 0) := by
  intro tr
  obtain ⟨⟨c1, c2, c3, c4⟩, h2⟩ : FinalInv ros (frun ros finit acts) tr :=
    finalInv_run (frun_spec ros acts finit) [] ⟨⟨rfl, rfl, rfl, rfl⟩, trivial⟩
  simp only [tr]
  rw [c1, c2, c3, c4]
  cases ros <;> cases hs : (frun _ finit acts).spc <;> simp [finalObs, finalOk, hs] at h2 ⊢ <;> simp_all

/-- every `Refresh` gets the context the context constructor made: from `Start`'s context on
the loop goroutine, from `Shutdown`'s context for the final refresh -/
theorem refresh_ctx_fine (ros : Bool) (acts : List Act) (c : Caller) (ctx : Ctx)
    (h : FEv.refreshCall c ctx ∈ ftrace ros finit acts) : ctx = .cons (callerCtx c) :=
  run_all (stable_true ros) (fun e => e = FEv.refreshCall c ctx → ctx = .cons (callerCtx c))
    (fun hstep _ he => refreshCall_ctx_step (he ▸ hstep)) (frun_spec ros acts finit) trivial _ h rfl

/-! ## The remaining clauses, directly on the fine system (all interleavings) -/

/-- In every execution
  * scheduled `Refresh` calls correspond one-to-one to the armed timers (`After` calls), except
    for the last timer while it is pending / being processed / abandoned by the loop's return
    (`pendT ≤ 1`);
  * every fired timer is used up by exactly one scheduled `Refresh` or by the re-check that saw
    `done` closed, except those still in flight (`pendR`); in particular no refresh without an
    elapsed interval: #scheduled refreshes ≤ #fired timers. -/
theorem refresh_once_per_tick_fine (ros : Bool) (acts : List Act) :
    let tr := ftrace ros finit acts
    let s := frun ros finit acts
    tr.countP isLoopRefreshCall + pendT s = tr.countP isAfterEv ∧ pendT s ≤ 1 ∧
    tr.countP isRefreshOrStop + pendR s = tr.countP isFired ∧
    tr.countP isLoopRefreshCall ≤ tr.countP isFired := by
  intro tr s
  have h1 : tr.countP isLoopRefreshCall + pendT s = tr.countP isAfterEv :=
    run_balance (stable_true ros) isLoopRefreshCall isAfterEv pendT (fun h _ => pendT_step h) (frun_spec ros acts _)
      trivial
  have h2 : tr.countP isRefreshOrStop + pendR s = tr.countP isFired :=
    run_balance (finv_stable ros) isRefreshOrStop isFired pendR pendR_step (frun_spec ros acts _) finv_init
  have h3 : tr.countP isLoopRefreshCall ≤ tr.countP isRefreshOrStop :=
    List.countP_mono_left fun e _ => isRefreshOrStop_of_isLoopRefreshCall e
  exact ⟨h1, pendT_le_one s, h2, by omega⟩

/-- In every execution the errors handed to the `ErrorHandler` are
exactly the non-nil errors returned by scheduled refreshes — each once, in order, nothing else
(not the final refresh's error) — except for at most one that is about to be handed over. -/
theorem error_handled_once_fine (ros : Bool) (acts : List Act) :
    handledErrs (ftrace ros finit acts) ++ pendE (frun ros finit acts) = loopErrs (ftrace ros finit acts) ∧
    (pendE (frun ros finit acts)).length ≤ 1 :=
  ⟨(run_balance_list handledOf loopErrOf pendE pendE_step (frun_spec ros acts finit)).symm, pendE_len _⟩

/-- In every execution `UntilNext` is called once at the
start and exactly once after each completed scheduled refresh (`pendU = 1` while that call is
due), and the durations handed to `clock.After` are, call by call, the schedule's answers (the
last answer may not have been handed over yet). -/
theorem schedule_consulted_after_each_fine (ros : Bool) (acts : List Act) :
    (ftrace ros finit acts).countP isUntilCall + pendU (frun ros finit acts) =
      1 + (ftrace ros finit acts).countP isLoopRefreshRet ∧
    afterVals (ftrace ros finit acts) ++ pendD (frun ros finit acts) = untilVals (ftrace ros finit acts) := by
  have h1 := run_balance (stable_true ros) isUntilCall isLoopRefreshRet pendU (fun h _ => pendU_step h)
    (frun_spec ros acts finit) trivial
  rw [show pendU finit = 1 from rfl] at h1
  exact ⟨by omega, (run_balance_list afterValOf untilValOf pendD pendD_step (frun_spec ros acts finit)).symm⟩

/-! ## The coarse system inside the fine one -/

/-- For every environment, every `RefreshOnShutdown` and every coarse
history `evs` with at most one `Shutdown` call (the fine system models the first call only),
`coarseAsFineActs env ros evs` — `Start`, then for every coarse event its block of script
commands (`expandEv`: e.g. `tick ↦ tick, newL`; `refreshReturns loop e ↦ refL e, hdlL,
untL (dur k) (imm k), newL`; `shutdown ↦ shut, newF`), each followed by running both goroutines
until they are blocked or gone — is an execution of the fine system whose observable events
(`UntilNext`, `After d`, `Refresh ctx`, `Handle e`, `Shutdown returns e`) are exactly, in order,
the outputs of the coarse run.  Hence every theorem of `Theorems/C18.lean` about `run` speaks
about these fine executions. -/
theorem coarse_embeds_in_fine (env : Env) (ros : Bool) (evs : List Ev) (h : evs.count .shutdown ≤ 1) :
    (ftrace ros finit (coarseAsFineActs env ros evs)).filterMap outOf = flat (run env ros evs).2 := by
  obtain ⟨hR, hout⟩ := embed_init env ros
  have hopen : (init env).1.closed = false := closed_of_ne_shutdown (step_spec env ros start startEv) nofun
  have hrest := embed_runFrom env ros evs (init env).1 _ (inv_init env) hR (by rw [hopen]; exact h)
  simp only [coarseAsFineActs, coarseScript, cmdsActs_append, ← List.append_assoc]
  rw [ftrace_append, List.filterMap_append, hout, frun_append]
  rw [frun_append] at hrest
  rw [hrest, run_trace]

/-- the script `coarse_embeds_in_fine` builds for the non-vacuity history of `Theorems/C18.lean`
(two ticks, an error, `Shutdown` during the second refresh, a failing final refresh) -/
example :
    coarseScript { dur := fun k => 5 + k, imm := fun _ => false, pick := fun _ => false } true
      [.tick, .refreshReturns .loop 7, .tick, .shutdown, .refreshReturns .loop 0, .refreshReturns .shutdown 9] =
    [.untL 5 false, .newL, .tick, .newL, .refL 7, .hdlL, .untL 6 false, .newL, .tick, .newL, .shut, .newF,
     .refL 0, .hdlL, .untL 7 false, .newL, .refF 9] := by decide +kernel

/-! ## Non-vacuity and the scripted executor -/

/-- the hypothesis of `at_most_one_late_refresh` is satisfiable both inside the window (the
bound `1` is attained, see `late_refresh_possible`) and outside it -/
example :
    (fstep false (frun false finit [.loop false, .untilRet 1, .loop false, .tick, .loop false, .loop false, .loop false,
      .callShutdown]) .shut).2 = some .closeDone ∧
    win (frun false finit [.loop false, .untilRet 1, .loop false, .tick, .loop false, .loop false, .loop false,
      .callShutdown]) = 1 ∧
    (fstep false (frun false finit [.loop false, .untilRet 1, .loop false, .callShutdown]) .shut).2 = some .closeDone ∧
    win (frun false finit [.loop false, .untilRet 1, .loop false, .callShutdown]) = 0 := by decide +kernel

/-- the window script as the line protocol runs it (`C18.fine 0 untL1,tick,shut,newL 1`):
`Refresh` is entered in the group after the one in which `Shutdown` returned; the drain then
completes the iteration and the loop returns at the outer select -/
example :
    runScript false [.untL 1 false, .tick, .shut, .newL] =
      [[.untilCall], [.untilRet 1, .after 1 false], [.fire, .selTimer, .recheckOpen, .newCall .loop],
       [.shutCall, .closeDone, .shutRet 0], [.newRet .loop, .refreshCall .loop (.cons .start)],
       [.refreshRet .loop 0, .untilCall, .untilRet 1, .after 1 false, .selDone]] := by decide +kernel

/-- an ordinary run: two intervals, an error handled once, `Shutdown` with a failing final
refresh while the loop waits for the timer -/
example :
    runScript true [.untL 5 false, .tick, .newL, .refL 7, .hdlL, .untL 6 true, .newL, .refL 0, .untL 7 false, .shut,
      .newF, .refF 9] =
      [[.untilCall], [.untilRet 5, .after 5 false], [.fire, .selTimer, .recheckOpen, .newCall .loop],
       [.newRet .loop, .refreshCall .loop (.cons .start)], [.refreshRet .loop 7, .handleCall 7],
       [.handleRet, .untilCall], [.untilRet 6, .after 6 true, .selTimer, .recheckOpen, .newCall .loop],
       [.newRet .loop, .refreshCall .loop (.cons .start)], [.refreshRet .loop 0, .untilCall],
       [.untilRet 7, .after 7 false], [.shutCall, .closeDone, .newCall .shutdown, .selDone],
       [.newRet .shutdown, .refreshCall .shutdown (.cons .shutdown)], [.refreshRet .shutdown 9, .shutRet 9], []] := by
  decide +kernel

/-- `done` and the timer both ready at the outer select: whichever case `select` picks, no
refresh starts -/
example :
    ftrace false finit [.loop false, .untilRet 1, .callShutdown, .shut, .shut, .loop true, .loop true, .loop false] =
      [.untilCall, .untilRet 1, .shutCall, .closeDone, .shutRet 0, .after 1 true, .selTimer, .recheckClosed] ∧
    ftrace false finit [.loop false, .untilRet 1, .callShutdown, .shut, .shut, .loop true, .loop false] =
      [.untilCall, .untilRet 1, .shutCall, .closeDone, .shutRet 0, .after 1 true, .selDone] := by decide +kernel

end GolibsVerif.C18
