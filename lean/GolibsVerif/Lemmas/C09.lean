/-
C09 — helper lemmas: list facts, the invariant under the two list edits the sections are made
of, per-section refinement and progress lemmas, traces, the reference, the `OnDelete` scan.
-/
import GolibsVerif.Spec.C09

namespace GolibsVerif.C09

theorem sumSz_append (a b : List Entry) : sumSz (a ++ b) = sumSz a + sumSz b := by
  simp [sumSz, List.map_append, List.sum_append]

theorem sumSz_cons (e : Entry) (l : List Entry) : sumSz (e :: l) = e.sz + sumSz l := by
  simp [sumSz]

theorem lookup_cons (x : Entry) (xs : List Entry) (k : Bytes) :
    lookup (x :: xs) k = if x.key = k then some x else lookup xs k := by
  by_cases h : x.key = k <;> simp [lookup, h]

theorem remove_cons (x : Entry) (xs : List Entry) (k : Bytes) :
    remove (x :: xs) k = if x.key = k then remove xs k else x :: remove xs k := by
  by_cases h : x.key = k <;> simp [remove, h]

theorem lookup_some {l : List Entry} {k : Bytes} {old : Entry}
    (h : lookup l k = some old) : old ∈ l ∧ old.key = k :=
  ⟨List.mem_of_find?_eq_some h, by simpa using List.find?_some h⟩

theorem lookup_none {l : List Entry} {k : Bytes}
    (h : lookup l k = none) : ∀ e ∈ l, e.key ≠ k := by
  simpa [lookup] using h

theorem remove_eq_self {l : List Entry} {k : Bytes} (h : ∀ e ∈ l, e.key ≠ k) : remove l k = l :=
  List.filter_eq_self.2 (by simpa using h)

theorem remove_of_lookup_none {l : List Entry} {k : Bytes}
    (h : lookup l k = none) : remove l k = l := remove_eq_self (lookup_none h)

theorem mem_remove {l : List Entry} {k : Bytes} {e : Entry} :
    e ∈ remove l k ↔ e ∈ l ∧ e.key ≠ k := by
  simp [remove, List.mem_filter]

theorem nodup_push {l : List Entry} {e : Entry} (hn : (l.map Entry.key).Nodup)
    (he : ∀ x ∈ l, x.key ≠ e.key) : ((l ++ [e]).map Entry.key).Nodup := by
  rw [List.map_append, List.nodup_append]
  refine ⟨hn, by simp, ?_⟩
  intro a ha b hb
  obtain ⟨x, hx, rfl⟩ := List.mem_map.1 ha
  rw [List.map_singleton, List.mem_singleton] at hb
  exact hb ▸ he x hx

theorem remove_head {e : Entry} {rest : List Entry}
    (hn : ((e :: rest).map Entry.key).Nodup) : remove (e :: rest) e.key = rest := by
  rw [List.map_cons, List.nodup_cons] at hn
  rw [remove_cons, if_pos rfl]
  exact remove_eq_self fun y hy h => hn.1 (List.mem_map.2 ⟨y, hy, h⟩)

/-- with unique keys, removing key `k` removes exactly the entry found -/
theorem sumSz_remove {l : List Entry} (hn : (l.map Entry.key).Nodup) (k : Bytes) :
    sumSz (remove l k) + ((lookup l k).map Entry.sz).getD 0 = sumSz l := by
  induction l with
  | nil => rfl
  | cons x xs ih =>
    by_cases hx : x.key = k
    · subst hx
      rw [lookup_cons, if_pos rfl, remove_head hn, sumSz_cons]
      exact Nat.add_comm _ _
    · rw [List.map_cons, List.nodup_cons] at hn
      rw [lookup_cons, remove_cons, if_neg hx, if_neg hx, sumSz_cons, sumSz_cons, ← ih hn.2]
      omega

theorem length_remove_lt {l : List Entry} {k : Bytes} {old : Entry} (h : lookup l k = some old) :
    (remove l k).length < l.length :=
  List.length_filter_lt_length_iff_exists.2 ⟨old, (lookup_some h).1, by simp [(lookup_some h).2]⟩

theorem pairs_append (a b : List Entry) : pairs (a ++ b) = pairs a ++ pairs b := by
  simp [pairs]

theorem pairs_remove (l : List Entry) (k : Bytes) : pairs (remove l k) = aRemove (pairs l) k := by
  simp [pairs, remove, aRemove, List.filter_map, Function.comp_def]

theorem aLookup_pairs (l : List Entry) (k : Bytes) :
    aLookup (pairs l) k = (lookup l k).map (·.val) := by
  simp [pairs, aLookup, lookup, List.find?_map, Function.comp_def]

theorem aSize_pairs (l : List Entry) : aSize (pairs l) = sumSz l := by
  simp [aSize, pairs, sumSz, Function.comp_def]
  rfl

@[simp] theorem gom_pure {α} (a : α) : (pure a : GoM α) = .ok a := rfl
@[simp] theorem gom_throw {α} (e : GoPanic) : (throw e : GoM α) = .error e := rfl
@[simp] theorem gom_bind_ok {α β} (a : α) (f : α → GoM β) :
    ((Except.ok a : GoM α) >>= f) = f a := rfl
@[simp] theorem gom_bind_error {α β} (e : GoPanic) (f : α → GoM β) :
    ((Except.error e : GoM α) >>= f) = .error e := rfl
@[simp] theorem gom_map_ok {α β} (a : α) (f : α → β) :
    (f <$> (Except.ok a : GoM α)) = .ok (f a) := rfl
@[simp] theorem gom_map_error {α β} (e : GoPanic) (f : α → β) :
    (f <$> (Except.error e : GoM α)) = .error e := rfl

/-! ### The loop condition and the invariant under the two list edits -/

theorem full_eq_true {c : Conf} {s : St} {add : Nat} :
    full c s add = true ↔ s.size + add > c.maxSize ∨ s.lru.length = c.maxCount := by
  simp [full]

theorem full_eq_false {c : Conf} {s : St} {add : Nat} :
    full c s add = false ↔ s.size + add ≤ c.maxSize ∧ s.lru.length ≠ c.maxCount := by
  simp [full]

theorem Inv.congr {c : Conf} {s s' : St} (h : Inv c s) (hl : s'.lru = s.lru)
    (hs : s'.size = s.size) : Inv c s' :=
  ⟨hl ▸ h.nodup, by rw [hl, hs]; exact h.size_eq, hs ▸ h.size_le, hl ▸ h.count_le, hl ▸ h.linked⟩

/-- The two edits every section is made of: the entry with key `k` leaves the list (and its size
the total), an entry goes to the back.  The invariant and the agreement with the reference are
proved for these two; a section is then its closed form in terms of them (`*_char`). -/
def St.erase (s : St) (k : Bytes) : St :=
  { s with lru := remove s.lru k, size := s.size - ((lookup s.lru k).map Entry.sz).getD 0 }

def St.push (s : St) (e : Entry) : St := { s with lru := s.lru ++ [e], size := s.size + e.sz }

@[simp] theorem St.erase_lru (s : St) (k : Bytes) : (s.erase k).lru = remove s.lru k := rfl
@[simp] theorem St.push_lru (s : St) (e : Entry) : (s.push e).lru = s.lru ++ [e] := rfl

theorem Inv.erase {c : Conf} {s : St} (h : Inv c s) (k : Bytes) : Inv c (s.erase k) :=
  ⟨h.nodup.sublist (List.Sublist.map _ List.filter_sublist),
    Nat.sub_eq_of_eq_add (h.size_eq.trans (sumSz_remove h.nodup k).symm),
    Nat.le_trans (Nat.sub_le _ _) h.size_le,
    Nat.le_trans (List.length_filter_le _ _) h.count_le,
    fun e he => h.linked e (mem_remove.1 he).1⟩

theorem Inv.push {c : Conf} {s : St} (h : Inv c s) (e : Entry) (hk : ∀ x ∈ s.lru, x.key ≠ e.key)
    (hl : e.linked = c.lru) (hsz : s.size + e.sz ≤ c.maxSize) (hc : s.lru.length < c.maxCount) :
    Inv c (s.push e) := by
  refine ⟨nodup_push h.nodup hk, ?_, hsz, by simpa using Nat.succ_le_of_lt hc, ?_⟩
  · show _ + _ = sumSz (s.lru ++ [e])
    rw [sumSz_append, sumSz_cons, h.size_eq]; rfl
  · intro x hx
    rcases List.mem_append.1 hx with hx | hx
    · exact h.linked x hx
    · rw [List.mem_singleton.1 hx, hl]

/-- the edit of a `Get` that hits with LRU (`e` the entry found) and of a storing `Set` (`e`
the new entry) -/
theorem Inv.erase_push {c : Conf} {s : St} (h : Inv c s) {k : Bytes} (e : Entry) (hk : e.key = k)
    (hl : e.linked = c.lru) (hsz : (s.erase k).size + e.sz ≤ c.maxSize)
    (hc : (remove s.lru k).length < c.maxCount) : Inv c ((s.erase k).push e) :=
  (h.erase k).push e (fun _ hx => hk ▸ (mem_remove.1 hx).2) hl hsz hc

theorem Agree.erase {s : St} {a : Abs} (ha : Agree s a) (k : Bytes) :
    Agree (s.erase k) { a with live := aRemove a.live k } :=
  ⟨by rw [← ha.live]; exact pairs_remove _ _, ha.hit, ha.miss⟩

theorem Agree.push {s : St} {a : Abs} (ha : Agree s a) (e : Entry) :
    Agree (s.push e) { a with live := a.live ++ [(e.key, e.val)] } :=
  ⟨by rw [← ha.live]; exact pairs_append _ _, ha.hit, ha.miss⟩

/-- with the invariant, erasing the entry found and pushing it (or one as large) leaves `size` -/
theorem Inv.erase_size {c : Conf} {s : St} (h : Inv c s) {k : Bytes} {old : Entry}
    (hf : lookup s.lru k = some old) : (s.erase k).size + old.sz = s.size := by
  have hsum := sumSz_remove h.nodup k
  rw [hf, ← h.size_eq] at hsum
  show s.size - ((lookup s.lru k).map Entry.sz).getD 0 + old.sz = s.size
  rw [hf]
  exact Nat.sub_add_cancel (hsum ▸ Nat.le_add_left _ _)

theorem evictOne_ok {s s' : St} {e : Entry} (h : evictOne s = .ok (s', e)) :
    s.lru = e :: s'.lru ∧ e.linked = true ∧ s'.size = s.size - e.sz ∧
      s'.hit = s.hit ∧ s'.miss = s.miss := by
  unfold evictOne at h
  cases hs : s.lru with
  | nil => simp [hs] at h
  | cons x rest =>
    simp only [hs, unlink] at h
    by_cases hl : x.linked
    · simp [hl] at h
      obtain ⟨rfl, rfl⟩ := h
      simp [hl]
    · simp [hl] at h

theorem evictOne_total {s : St} (hne : s.lru ≠ []) (hl : ∀ e ∈ s.lru, e.linked = true) :
    ∃ s' e, evictOne s = .ok (s', e) := by
  unfold evictOne
  cases hs : s.lru with
  | nil => exact absurd hs hne
  | cons x rest =>
    have : x.linked = true := hl x (by simp [hs])
    simp [unlink, this]

/-- under the invariant and a normalised configuration the eviction loop never reaches the
list sentinel: if the loop condition holds for a legal element size, the list is non-empty -/
theorem evict_nonempty {c : Conf} (ok : ConfOk c) {s : St} (h : Inv c s) {add : Nat}
    (hadd : add ≤ c.maxElem) (hf : full c s add = true) : s.lru ≠ [] := by
  intro hnil
  have hq := h.size_eq
  have := ok.elem_le; have := ok.count_pos
  rw [full_eq_true, hnil] at hf
  rw [hnil] at hq
  change s.size = 0 at hq
  change _ ∨ 0 = _ at hf
  omega

/-- an eviction erases the key of the list head -/
theorem evictOne_char {c : Conf} {s s' : St} {e : Entry} (h : Inv c s)
    (he : evictOne s = .ok (s', e)) : s' = s.erase e.key := by
  obtain ⟨hl, _, hsz, hh, hm⟩ := evictOne_ok he
  have hn := h.nodup
  rw [hl] at hn
  obtain ⟨l', z', h', m'⟩ := s'
  simp only at hl hsz hh hm hn
  simp only [St.erase, hl, remove_head hn, lookup_cons, if_pos, hsz, hh, hm]
  rfl

theorem evictOne_inv {c : Conf} {s s' : St} {e : Entry} (h : Inv c s)
    (he : evictOne s = .ok (s', e)) : Inv c s' := evictOne_char h he ▸ h.erase e.key

/-- the `listUnlink` of an entry found in the cache runs only with LRU on, and then the entry is
linked: that is what `Inv.linked` is for -/
theorem unlink_found {c : Conf} {s : St} (h : Inv c s) {k : Bytes} {old : Entry}
    (hf : lookup s.lru k = some old) (hc : c.lru = true) : unlink old = .ok () := by
  have := h.linked old (lookup_some hf).1
  simp [unlink, this, hc]

theorem setCommit_char {c : Conf} {s : St} (h : Inv c s) (k v : Bytes) :
    setCommit c s k v = .ok ((s.erase k).push ⟨k, v, c.lru⟩, (lookup s.lru k).isSome) := by
  unfold setCommit setCommitWith
  cases hf : lookup s.lru k with
  | none => simp [St.erase, St.push, hf, remove_of_lookup_none hf]
  | some old =>
    cases hc : c.lru <;> simp [St.erase, St.push, hf, hc, unlink_found h hf]

theorem setCommit_total {c : Conf} {s : St} (h : Inv c s) (k v : Bytes) :
    ∃ s' r, setCommit c s k v = .ok (s', r) := ⟨_, _, setCommit_char h k v⟩

theorem setCommit_inv {c : Conf} {s s' : St} {k v : Bytes} {r : Bool} (h : Inv c s)
    (hnf : full c s (k.length + v.length) = false) (hc : setCommit c s k v = .ok (s', r)) :
    Inv c s' := by
  rw [setCommit_char h] at hc
  cases hc
  obtain ⟨hsz, hcnt⟩ := full_eq_false.1 hnf
  exact h.erase_push ⟨k, v, c.lru⟩ rfl rfl
    (Nat.le_trans (Nat.add_le_add_right (Nat.sub_le _ _) _) hsz)
    (Nat.lt_of_le_of_lt (List.length_filter_le _ _) (Nat.lt_of_le_of_ne h.count_le hcnt))

theorem setCommit_agree {c : Conf} {s s' : St} {k v : Bytes} {r : Bool} {a : Abs} (h : Inv c s)
    (ha : Agree s a) (hc : setCommit c s k v = .ok (s', r)) :
    Agree s' (absStep c.lru a (.commit k v r)) ∧ r = (aLookup a.live k).isSome := by
  rw [setCommit_char h] at hc
  cases hc
  exact ⟨(ha.erase k).push _, by rw [← ha.live, aLookup_pairs]; simp⟩

theorem get_char {c : Conf} {s : St} (h : Inv c s) (k : Bytes) :
    get c s k = .ok
      (match lookup s.lru k with
       | none => ({ s with miss := s.miss + 1 }, none)
       | some e =>
         ({ (if c.lru then (s.erase k).push e else s) with hit := s.hit + 1 }, some e.val)) := by
  unfold get
  cases hf : lookup s.lru k with
  | none => simp
  | some old =>
    cases hc : c.lru
    · simp
    · have := h.erase_size hf
      simp only [St.erase] at this
      simp [St.erase, St.push, unlink_found h hf hc, this]

theorem get_total {c : Conf} {s : St} (h : Inv c s) (k : Bytes) :
    ∃ s' r, get c s k = .ok (s', r) := ⟨_, _, get_char h k⟩

theorem get_inv {c : Conf} {s s' : St} {k : Bytes} {r : Option Bytes} (h : Inv c s)
    (hg : get c s k = .ok (s', r)) : Inv c s' := by
  rw [get_char h] at hg
  cases hf : lookup s.lru k with
  | none => rw [hf] at hg; cases hg; exact h.congr rfl rfl
  | some old =>
    rw [hf] at hg
    cases hg
    cases hc : c.lru
    · exact h.congr rfl rfl
    · obtain ⟨hmem, hkey⟩ := lookup_some hf
      exact (h.erase_push old hkey (h.linked old hmem) (h.erase_size hf ▸ h.size_le)
        (Nat.lt_of_lt_of_le (length_remove_lt hf) h.count_le)).congr rfl rfl

theorem get_agree {c : Conf} {s s' : St} {k : Bytes} {r : Option Bytes} {a : Abs} (h : Inv c s)
    (ha : Agree s a) (hg : get c s k = .ok (s', r)) :
    Agree s' (absStep c.lru a (.get k r)) ∧ r = aLookup a.live k := by
  rw [get_char h] at hg
  have hlk := aLookup_pairs s.lru k
  rw [ha.live] at hlk
  cases hf : lookup s.lru k with
  | none =>
    rw [hf] at hg hlk
    cases hg
    exact ⟨⟨ha.live, ha.hit, congrArg (· + 1) ha.miss⟩, hlk.symm⟩
  | some old =>
    rw [hf] at hg hlk
    cases hg
    refine ⟨?_, hlk.symm⟩
    cases hc : c.lru
    · exact ⟨ha.live, congrArg (· + 1) ha.hit, ha.miss⟩
    · have hp := (ha.erase k).push old
      rw [(lookup_some hf).2] at hp
      exact ⟨by simp only [absStep, hlk]; exact hp.live, congrArg (· + 1) ha.hit, ha.miss⟩

theorem del_char {c : Conf} {s : St} (h : Inv c s) (k : Bytes) : del c s k = .ok (s.erase k) := by
  unfold del delWith
  cases hf : lookup s.lru k with
  | none => simp [St.erase, hf, remove_of_lookup_none hf]
  | some old =>
    cases hc : c.lru <;> simp [St.erase, hf, hc, unlink_found h hf]

theorem Inv.init (c : Conf) : Inv c St.init :=
  ⟨List.nodup_nil, rfl, Nat.zero_le _, Nat.zero_le _, fun _ h => nomatch h⟩

theorem Agree.self (s : St) : Agree s { live := pairs s.lru, hit := s.hit, miss := s.miss } :=
  ⟨rfl, rfl, rfl⟩

theorem Agree.init : Agree St.init Abs.empty := ⟨rfl, rfl, rfl⟩

theorem step_ok {c : Conf} {s s' : St} {ev : Ev} {a : Abs} (hs : CStep c s ev s') (h : Inv c s)
    (ha : Agree s a) : Inv c s' ∧ Agree s' (absStep c.lru a ev) := by
  cases hs with
  | refuse => exact ⟨h, ha⟩
  | evict s' add e _ _ _ he => exact evictOne_char h he ▸ ⟨h.erase _, ha.erase _⟩
  | onDelete => exact ⟨h, ha⟩
  | commit s' k v r _ hnf hc => exact ⟨setCommit_inv h hnf hc, (setCommit_agree h ha hc).1⟩
  | get s' k r hg => exact ⟨get_inv h hg, (get_agree h ha hg).1⟩
  | del s' k hd => exact Except.ok.inj ((del_char h k).symm.trans hd) ▸ ⟨h.erase k, ha.erase k⟩
  | clear => exact ⟨Inv.init c, Agree.init⟩
  | stats => exact ⟨h, ha⟩

theorem trace_ok {c : Conf} {s s' : St} {log : List Rec} (ht : Trace c s log s') :
    ∀ {a : Abs}, Inv c s → Agree s a →
      Inv c s' ∧ Agree s' ((evsOf log).foldl (absStep c.lru) a) ∧ ∀ r ∈ log, Inv c r.after := by
  induction ht with
  | nil s => intro a h ha; exact ⟨h, ha, by simp⟩
  | cons hstep _ ih =>
    intro a h ha
    obtain ⟨h1, ha1⟩ := step_ok hstep h ha
    obtain ⟨h2, ha2, hall⟩ := ih h1 ha1
    refine ⟨h2, by simpa [evsOf] using ha2, ?_⟩
    intro r hr
    rcases List.mem_cons.1 hr with rfl | hr
    · exact h1
    · exact hall r hr

theorem trace_append {c : Conf} {s s1 s2 : St} {l1 l2 : List Rec} (h1 : Trace c s l1 s1)
    (h2 : Trace c s1 l2 s2) : Trace c s (l1 ++ l2) s2 := by
  induction h1 with
  | nil => simpa using h2
  | cons hstep _ ih => exact Trace.cons hstep (ih h2)

theorem trace_single {c : Conf} {s s' : St} {ev : Ev} (h : CStep c s ev s') :
    Trace c s [⟨ev, s'⟩] s' := Trace.cons h (Trace.nil s')

theorem trace_split {c : Conf} {s s' : St} {pre post : List Rec} {ev : Ev} {s1 : St}
    (ht : Trace c s (pre ++ ⟨ev, s1⟩ :: post) s') :
    ∃ s0, Trace c s pre s0 ∧ CStep c s0 ev s1 ∧ Trace c s1 post s' := by
  induction pre generalizing s with
  | nil =>
    cases ht with
    | cons hstep hrest => exact ⟨s, Trace.nil s, hstep, hrest⟩
  | cons x xs ih =>
    cases ht with
    | cons hstep hrest =>
      obtain ⟨s0, h1, h2, h3⟩ := ih hrest
      exact ⟨s0, Trace.cons hstep h1, h2, h3⟩

theorem trace_from_init {c : Conf} {s : St} {log : List Rec} (ht : Trace c St.init log s) :
    Inv c s ∧ Agree s (absOf c.lru (evsOf log)) := by
  obtain ⟨h, ha, _⟩ := trace_ok ht (Inv.init c) Agree.init
  exact ⟨h, ha⟩

theorem Agree.size_count {c : Conf} {s : St} {a : Abs} (ha : Agree s a) (h : Inv c s) :
    aSize a.live = s.size ∧ a.live.length = s.lru.length := by
  rw [← ha.live, aSize_pairs, h.size_eq]
  exact ⟨rfl, List.length_map _⟩

theorem step_in_history {c : Conf} {pre post : List Rec} {ev : Ev} {s1 s : St}
    (ht : Trace c St.init (pre ++ ⟨ev, s1⟩ :: post) s) :
    ∃ s0, Inv c s0 ∧ Agree s0 (absOf c.lru (evsOf pre)) ∧ CStep c s0 ev s1 := by
  obtain ⟨s0, hpre, hstep, _⟩ := trace_split ht
  obtain ⟨h0, ha0⟩ := trace_from_init hpre
  exact ⟨s0, h0, ha0, hstep⟩

theorem absOf_snoc (b : Bool) (evs : List Ev) (e : Ev) :
    absOf b (evs ++ [e]) = absStep b (absOf b evs) e := by
  simp [absOf, List.foldl_append]

theorem find_filter_ne (l : List (Bytes × Bytes)) {k' k : Bytes} (h : k' ≠ k) :
    (l.filter (fun p => p.1 ≠ k')).find? (fun p => p.1 = k) = l.find? (fun p => p.1 = k) := by
  rw [List.find?_filter]
  congr 1
  funext p
  by_cases hk : p.1 = k
  · have : p.1 ≠ k' := fun hh => h (hh ▸ hk)
    simp [hk] at this ⊢; exact this
  · simp [hk]

theorem find_filter_eq (l : List (Bytes × Bytes)) (k : Bytes) :
    (l.filter (fun p => p.1 ≠ k)).find? (fun p => p.1 = k) = none := by
  rw [List.find?_eq_none]
  intro p hp
  simpa using (List.mem_filter.1 hp).2

theorem aLookup_remove_append (l : List (Bytes × Bytes)) (k' k v : Bytes) :
    aLookup (aRemove l k' ++ [(k', v)]) k = if k' = k then some v else aLookup l k := by
  unfold aLookup aRemove
  rw [List.find?_append]
  by_cases h : k' = k
  · subst h; rw [find_filter_eq]; simp
  · rw [find_filter_ne l h]; simp [h]

theorem aLookup_remove (l : List (Bytes × Bytes)) (k' k : Bytes) :
    aLookup (aRemove l k') k = if k' = k then none else aLookup l k := by
  unfold aLookup aRemove
  by_cases h : k' = k
  · subst h; rw [find_filter_eq]; simp
  · rw [find_filter_ne l h]; simp [h]
theorem aLookup_absStep (b : Bool) (a : Abs) (e : Ev) (rest : List Ev) (k : Bytes)
    (ih : aLookup a.live k = lastSurvivingRev rest k) :
    aLookup (absStep b a e).live k = lastSurvivingRev (e :: rest) k := by
  cases e with
  | commit k' v r => simp [absStep, lastSurvivingRev, aLookup_remove_append, ih]
  | evict k' v => simp [absStep, lastSurvivingRev, aLookup_remove, ih]
  | del k' => simp [absStep, lastSurvivingRev, aLookup_remove, ih]
  | clear => simp [absStep, lastSurvivingRev, Abs.empty, aLookup]
  | get k' r =>
    cases r with
    | none => simp [absStep, lastSurvivingRev, ih]
    | some v =>
      cases b
      · simp [absStep, lastSurvivingRev, ih]
      · simp only [absStep, lastSurvivingRev, if_true]
        cases hl : aLookup a.live k' with
        | none => simpa using ih
        | some v' =>
          simp only [aLookup_remove_append]
          by_cases hk : k' = k
          · subst hk; simp [← ih, hl]
          · simp [hk, ih]
  | _ => simpa [absStep, lastSurvivingRev] using ih

/-- looking a key up in the reference = the value of the latest surviving Set -/
theorem aLookup_absOf (b : Bool) (evs : List Ev) (k : Bytes) :
    aLookup (absOf b evs).live k = lastSurviving evs k := by
  unfold lastSurviving
  suffices h : ∀ r : List Ev, aLookup (absOf b r.reverse).live k = lastSurvivingRev r k by
    simpa using h evs.reverse
  intro r
  induction r with
  | nil => simp [absOf, Abs.empty, aLookup, lastSurvivingRev]
  | cons e rest ih =>
    rw [List.reverse_cons, absOf_snoc]
    exact aLookup_absStep b _ e rest k ih

theorem hit_absOf (b : Bool) (evs : List Ev) :
    (absOf b evs).hit = hitsSinceClear evs ∧ (absOf b evs).miss = missesSinceClear evs := by
  unfold hitsSinceClear missesSinceClear
  suffices h : ∀ r : List Ev, (absOf b r.reverse).hit = hitsRev r ∧ (absOf b r.reverse).miss = missesRev r by
    simpa using h evs.reverse
  intro r
  induction r with
  | nil => simp [absOf, Abs.empty, hitsRev, missesRev]
  | cons e rest ih =>
    rw [List.reverse_cons, absOf_snoc]
    cases e with
    | get k' r => cases r <;> simp [absStep, hitsRev, missesRev, ih]
    | clear => simp [absStep, hitsRev, missesRev, Abs.empty]
    | _ => simp [absStep, hitsRev, missesRev, ih]

/-! ### Recency order = last-use stamps -/

theorem lastUseRev_le (b : Bool) (l : List Ev) (k : Bytes) : lastUseRev b l k ≤ l.length := by
  induction l with
  | nil => simp [lastUseRev]
  | cons e rest ih => simp only [lastUseRev]; split <;> simp <;> omega

def SortedBy (f : Bytes → Nat) (l : List (Bytes × Bytes)) : Prop :=
  l.Pairwise (fun p q => f p.1 < f q.1)

theorem sortedBy_remove {f : Bytes → Nat} {l : List (Bytes × Bytes)} (k : Bytes)
    (h : SortedBy f l) : SortedBy f (aRemove l k) :=
  List.Pairwise.sublist List.filter_sublist h

theorem sortedBy_congr {f g : Bytes → Nat} {l : List (Bytes × Bytes)}
    (hfg : ∀ p ∈ l, g p.1 = f p.1) (h : SortedBy f l) : SortedBy g l :=
  List.Pairwise.imp_of_mem (fun ha hb hab => by rw [hfg _ ha, hfg _ hb]; exact hab) h

theorem sortedBy_touch {f g : Bytes → Nat} {l : List (Bytes × Bytes)} (k v : Bytes) (n : Nat)
    (hf : ∀ k', f k' ≤ n) (hg : ∀ k', g k' = if k = k' then n + 1 else f k') (h : SortedBy f l) :
    SortedBy g (aRemove l k ++ [(k, v)]) := by
  unfold SortedBy
  rw [List.pairwise_append]
  refine ⟨?_, by simp, ?_⟩
  · apply sortedBy_congr _ (sortedBy_remove k h)
    intro p hp
    have : p.1 ≠ k := by simpa [aRemove] using (List.mem_filter.1 hp).2
    rw [hg]; simp [Ne.symm this]
  · intro p hp q hq
    simp at hq; subst hq
    have : p.1 ≠ k := by simpa [aRemove] using (List.mem_filter.1 hp).2
    rw [hg, hg]; simp [Ne.symm this]
    have := hf p.1; omega

theorem lastUseRev_cons (b : Bool) (e : Ev) (rest : List Ev) (k : Bytes) :
    lastUseRev b (e :: rest) k = if usesKey b e k then rest.length + 1 else lastUseRev b rest k := rfl

/-- the reference keeps its live entries sorted by last-use stamp -/
theorem live_sorted_rev (b : Bool) (r : List Ev) :
    SortedBy (lastUseRev b r) (absOf b r.reverse).live := by
  induction r with
  | nil => simp [absOf, Abs.empty, SortedBy]
  | cons e rest ih =>
    rw [List.reverse_cons, absOf_snoc]
    have hle := lastUseRev_le b rest
    have same : (∀ k, usesKey b e k = false) →
        SortedBy (lastUseRev b (e :: rest)) (absOf b rest.reverse).live := by
      intro hu
      apply sortedBy_congr _ ih
      intro p _; simp [lastUseRev_cons, hu]
    cases e with
    | commit k v rep =>
      simp only [absStep]
      apply sortedBy_touch k v rest.length hle _ ih
      intro k'; simp [lastUseRev_cons, usesKey]
    | evict k v => exact sortedBy_remove k (same fun _ => rfl)
    | del k => exact sortedBy_remove k (same fun _ => rfl)
    | clear => simp [absStep, Abs.empty, SortedBy]
    | get k r =>
      cases r with
      | none => exact same fun _ => rfl
      | some v =>
        cases b with
        | false => simpa [absStep] using same (by intro k'; simp [usesKey])
        | true =>
          simp only [absStep, if_true]
          cases hl : aLookup (absOf true rest.reverse).live k with
          | some v' =>
            apply sortedBy_touch k v' rest.length hle _ ih
            intro k'; simp [lastUseRev_cons, usesKey]
          | none =>
            apply sortedBy_congr _ ih
            intro p hp
            have : k ≠ p.1 := by
              intro hk
              unfold aLookup at hl
              simp only [Option.map_eq_none_iff] at hl
              have := List.find?_eq_none.1 hl p hp
              simp [hk] at this
            simp [lastUseRev_cons, usesKey, this]
    | _ => exact same fun _ => rfl

theorem live_sorted (b : Bool) (evs : List Ev) :
    SortedBy (lastUse b evs) (absOf b evs).live := by
  have := live_sorted_rev b evs.reverse
  rw [List.reverse_reverse] at this
  exact this

theorem head_min_stamp (b : Bool) (evs : List Ev) (k v : Bytes)
    (hh : (absOf b evs).live.head? = some (k, v)) :
    ∀ p ∈ (absOf b evs).live, lastUse b evs k ≤ lastUse b evs p.1 := by
  have hs := live_sorted b evs
  unfold SortedBy at hs
  cases hl : (absOf b evs).live with
  | nil => simp [hl] at hh
  | cons x xs =>
    rw [hl] at hs hh
    simp at hh; subst hh
    rw [List.pairwise_cons] at hs
    intro p hp
    rcases List.mem_cons.1 hp with rfl | hp
    · exact Nat.le_refl _
    · exact Nat.le_of_lt (hs.1 p hp)

/-- the one cell of memory of `cbScan` after event `e`; `none` when the scan rejects -/
def cbNext (h : Bool) : Option (Bytes × Bytes) → Ev → Option (Option (Bytes × Bytes))
  | some p, .onDelete k v => if p.1 = k ∧ p.2 = v then some none else none
  | some _, _ => none
  | none, .evict k v => some (if h then some (k, v) else none)
  | none, .onDelete .. => none
  | none, _ => some none

/-- the automaton `cbNext` run over a list of events: the cell of memory at the end, `none` when
the scan rejects on the way -/
def cbRun (h : Bool) : Option (Bytes × Bytes) → List Ev → Option (Option (Bytes × Bytes))
  | p, [] => some p
  | p, e :: l => (cbNext h p e).bind (cbRun h · l)

/-- `cbScan` accepts iff the run of `cbNext` goes through and ends with nothing owed -/
theorem cbScan_iff_run (h : Bool) : ∀ (l : List Ev) (p : Option (Bytes × Bytes)),
    cbScan h p l = true ↔ cbRun h p l = some none
  | [], p => by cases p <;> simp [cbScan, cbRun]
  | e :: l, p => by
    -- all but one of the sixteen clauses are the defining equations read backwards
    have step : cbScan h p (e :: l) = (cbNext h p e).elim false (cbScan h · l) := by
      cases p with
      | none => cases e <;> rfl
      | some p =>
        cases e with
        | onDelete k v => by_cases hk : p.1 = k ∧ p.2 = v <;> simp [cbScan, cbNext, hk]
        | _ => rfl
    rw [step, cbRun]
    cases cbNext h p e with
    | none => simp
    | some q => exact cbScan_iff_run h l q

theorem cbRun_append (h : Bool) : ∀ (a b : List Ev) (p : Option (Bytes × Bytes)),
    cbRun h p (a ++ b) = (cbRun h p a).bind (cbRun h · b)
  | [], _, _ => rfl
  | e :: a, b, p => by
    simp only [List.cons_append, cbRun]
    cases cbNext h p e with
    | none => rfl
    | some q => exact cbRun_append h a b q

theorem cbNext_some {h : Bool} {p : Bytes × Bytes} {e : Ev} {q : Option (Bytes × Bytes)}
    (hn : cbNext h (some p) e = some q) : e = .onDelete p.1 p.2 ∧ q = none := by
  cases e <;> simp [cbNext] at hn
  obtain ⟨⟨rfl, rfl⟩, rfl⟩ := hn
  exact ⟨rfl, rfl⟩

theorem cbNext_to_some {h : Bool} {p : Option (Bytes × Bytes)} {e : Ev} {k v : Bytes}
    (hn : cbNext h p e = some (some (k, v))) : e = .evict k v ∧ h = true := by
  cases p with
  | some p => cases (cbNext_some hn).2
  | none =>
    cases e with
    | evict k' v' =>
      cases h <;> simp [cbNext] at hn
      exact ⟨by rw [hn.1, hn.2], rfl⟩
    | _ => simp [cbNext] at hn

theorem cbOK_append (h : Bool) (a b : List Ev) (ha : cbOK h a = true) (hb : cbOK h b = true) :
    cbOK h (a ++ b) = true := by
  rw [cbOK, cbScan_iff_run] at *
  rw [cbRun_append, ha]
  exact hb

theorem evsOf_append (a b : List Rec) : evsOf (a ++ b) = evsOf a ++ evsOf b := by
  simp [evsOf]

theorem cbOK_evictEvents (c : Conf) (e : Entry) (s1 : St) :
    cbOK c.hasCb (evsOf (evictEvents c e s1)) = true := by
  cases h : c.hasCb <;> simp [evictEvents, evsOf, cbOK, cbScan, h]

theorem evictStep {c : Conf} (ok : ConfOk c) {add : Nat} (hadd : add ≤ c.maxElem) {s : St}
    (h : Inv c s) (hl : c.lru = true) (hf : full c s add = true) :
    ∃ s1 e, evictOne s = .ok (s1, e) ∧ Inv c s1 ∧ s1.lru.length + 1 = s.lru.length := by
  have hne := evict_nonempty ok h hadd hf
  obtain ⟨s1, e, he⟩ := evictOne_total hne (fun x hx => (h.linked x hx).trans hl)
  refine ⟨s1, e, he, evictOne_inv h he, ?_⟩
  rw [(evictOne_ok he).1]; rfl

theorem newConf_ok (r : RawConf) : ConfOk (newConf r) := by
  constructor
  · simp only [newConf]
    generalize (if r.maxSize = 0 then maxUint else r.maxSize) = ms
    generalize (if r.maxElem = 0 then ms else r.maxElem) = me
    split <;> omega
  · simp only [newConf, maxUint]; split <;> omega

/-- the loop body is entered with LRU only: without it a full cache has refused the `Set` -/
theorem lru_of_full {c : Conf} {s : St} {add : Nat} (hor : c.lru = true ∨ full c s add = false)
    (hf : full c s add = true) : c.lru = true :=
  hor.resolve_right (by rw [hf]; exact Bool.noConfusion)

theorem setCheck_proceed {c : Conf} {s : St} {k v : Bytes} (h : setCheck c s k v = .proceed) :
    k.length + v.length ≤ c.maxElem ∧ (c.lru = true ∨ full c s (k.length + v.length) = false) := by
  unfold setCheck at h
  by_cases h1 : k.length + v.length > c.maxElem
  · simp [h1] at h
  · simp only [h1, if_false] at h
    refine ⟨by omega, ?_⟩
    cases hl : c.lru
    · cases hf : full c s (k.length + v.length)
      · exact Or.inr rfl
      · simp [hl, hf] at h
    · exact Or.inl rfl

end GolibsVerif.C09
