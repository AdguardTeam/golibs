/-
C06 — lemmas: soundness of the reflective checker `F.check` (DESIGN.md Appendix A); the
checker `F.checkReps`, which computes the same Boolean from a few values of each byte;
correctness of `prefixF` for every prefix; byte/number conversions; dispatch.

Why a few values are enough: every atom of the reified code reads one byte and holds on an
interval of its values (`ip[k] == v`, `ip[k] ≥ c`, `ip[k] & m == v` for a mask of leading
bits).  Two values of byte `k` that lie on the same side of every end of these intervals (the
cuts) make all atoms true or false alike, so substituting either leaves the same residual
formulas; and every byte is on the same side of all cuts as `0` or as the largest cut below
it.  So trying `0` and the cuts covers what `check` sees on all 256 values.
-/
import GolibsVerif.Spec.C06
import GolibsVerif.Lemmas.C12Mask

namespace GolibsVerif.C06

/-- a mask of leading bits tests for an interval: `x &&& m == v` (with `v` on the mask) holds
from `v` up to the next multiple of `256 - m` -/
theorem land_leadMask_iff (r x v : Nat) (hr : r ≤ 8) (hx : x < 256)
    (hv : v &&& leadMask r = v) :
    x &&& leadMask r = v ↔ v ≤ x ∧ x < v + (256 - leadMask r) := by
  have hd : 0 < 2 ^ (8 - r) := Nat.two_pow_pos _
  have hle : 2 ^ (8 - r) ≤ 2 ^ 8 := Nat.pow_le_pow_right (by omega) (by omega)
  have hw : 256 - leadMask r = 2 ^ (8 - r) := by unfold leadMask; omega
  have hv256 : v < 256 := by
    have := Nat.and_le_right (n := v) (m := leadMask r)
    rw [hv] at this
    omega
  -- masking with the `r` leading bits clears the `8 - r` low bits
  rw [show x &&& leadMask r = _ from C12.and_topBits x hx (8 - r) (by omega), hw]
  rw [show v &&& leadMask r = _ from C12.and_topBits v hv256 (8 - r) (by omega)] at hv
  generalize 2 ^ (8 - r) = d at *
  constructor
  · intro h; rw [← h]; exact ⟨Nat.div_mul_le_self x d, Nat.lt_div_mul_add hd⟩
  · rintro ⟨h1, h2⟩
    have : x / d = v / d :=
      Nat.div_eq_of_lt_le (by rw [hv]; exact h1) (by rw [Nat.add_mul, Nat.one_mul, hv]; exact h2)
    rw [this, hv]

/-- the `r` with `m = leadMask r`, if there is one -/
def leadBits (m : Nat) : Nat := 8 - Nat.log2 (256 - m)

namespace F

theorem eval_mkAnd (ip : Nat → Nat) (a b : F) : eval ip (mkAnd a b) = (eval ip a && eval ip b) := by
  unfold mkAnd; split <;> simp [eval]

theorem eval_mkOr (ip : Nat → Nat) (a b : F) : eval ip (mkOr a b) = (eval ip a || eval ip b) := by
  unfold mkOr; split <;> simp [eval]

theorem eval_mkIte (ip : Nat → Nat) (c t e : F) :
    eval ip (mkIte c t e) = (if eval ip c then eval ip t else eval ip e) := by
  unfold mkIte; split
  · simp [eval]
  · simp [eval]
  · split
    · next h => subst h; simp
    · simp [eval]

theorem eval_ofBool (ip : Nat → Nat) (b : Bool) : eval ip (ofBool b) = b := by
  cases b <;> simp [ofBool, eval]

theorem eval_subst (ip : Nat → Nat) (k : Nat) (f : F) :
    eval ip (subst k (ip k) f) = eval ip f := by
  induction f with
  | atom i m v =>
    unfold subst; split
    · next h => subst h; simp [eval, eval_ofBool]
    · rfl
  | ge i c =>
    unfold subst; split
    · next h => subst h; simp [eval, eval_ofBool]
    · rfl
  | and a b iha ihb => simp [subst, eval_mkAnd, eval, iha, ihb]
  | or a b iha ihb => simp [subst, eval_mkOr, eval, iha, ihb]
  | ite c t e ihc iht ihe => simp [subst, eval_mkIte, eval, ihc, iht, ihe]
  | _ => rfl

/-- Soundness of the checker: if `check` answers `true`, the two formulas agree on every
vector of bytes. -/
theorem check_sound : ∀ (n k : Nat) (f g : F), check n k f g = true →
    ∀ ip : Nat → Nat, (∀ i, ip i < 256) → eval ip f = eval ip g := by
  intro n
  induction n with
  | zero => intro k f g h ip _; simp [check] at h; subst h; rfl
  | succ n ih =>
    intro k f g h ip hip
    unfold check at h
    split at h
    · next hfg => subst hfg; rfl
    · split at h
      · exact ih _ _ _ h ip hip
      · rw [List.all_eq_true] at h
        have hmem : (subst k (ip k) f, subst k (ip k) g) ∈
            (((List.range 256).map fun x => (subst k x f, subst k x g)).eraseDups) := by
          rw [List.mem_eraseDups]
          exact List.mem_map.2 ⟨ip k, List.mem_range.2 (hip k), rfl⟩
        simpa [eval_subst] using ih _ _ _ (h _ hmem) ip hip

/-! ### the same check on `0` and the cuts -/

/-- The constants at which an atom reading byte `k` can change its value as the byte grows:
`x ≥ c` at `c`, and `x &&& m == v` for a mask `m` of leading bits (`x == v` has all eight) at
`v` and `v + (256 - m)`.  Any other atom gets every byte as a cut. -/
def cuts (k : Nat) : F → List Nat
  | atom i m v =>
    if i ≠ k then []
    else if m = leadMask (leadBits m) ∧ v &&& m = v then [v, v + (256 - m)]
    else List.range 256
  | ge i c => if i = k then [c] else []
  | and a b => cuts k a ++ cuts k b
  | or a b => cuts k a ++ cuts k b
  | ite c t e => cuts k c ++ cuts k t ++ cuts k e
  | _ => []

theorem subst_eq_of_cuts (k x y : Nat) (hx : x < 256) (hy : y < 256) (f : F)
    (h : ∀ c ∈ cuts k f, c ≤ x ↔ c ≤ y) : subst k x f = subst k y f := by
  induction f with
  | atom i m v =>
    unfold subst
    split
    · next hik =>
      congr 1
      simp only [cuts, hik, ne_eq, not_true_eq_false, ↓reduceIte] at h
      split at h
      · next hlead =>
        have h1 := h v (by simp)
        have h2 := h (v + (256 - m)) (by simp)
        obtain ⟨hmr, hv⟩ := hlead
        have hr : leadBits m ≤ 8 := Nat.sub_le 8 _
        generalize leadBits m = r at hr hmr
        subst hmr
        rw [Bool.eq_iff_iff, beq_iff_eq, beq_iff_eq, land_leadMask_iff r x v hr hx hv,
          land_leadMask_iff r y v hr hy hv]
        omega
      · have h1 := (h x (List.mem_range.2 hx)).1 (Nat.le_refl x)
        have h2 := (h y (List.mem_range.2 hy)).2 (Nat.le_refl y)
        rw [Nat.le_antisymm h1 h2]
    · rfl
  | ge i c =>
    unfold subst
    split
    · next hik =>
      congr 1
      rw [decide_eq_decide]
      exact h c (by simp [cuts, hik])
    · rfl
  | and a b iha ihb =>
    simp only [cuts, List.mem_append] at h
    simp only [subst, iha fun c hc => h c (.inl hc), ihb fun c hc => h c (.inr hc)]
  | or a b iha ihb =>
    simp only [cuts, List.mem_append] at h
    simp only [subst, iha fun c hc => h c (.inl hc), ihb fun c hc => h c (.inr hc)]
  | ite c t e ihc iht ihe =>
    simp only [cuts, List.mem_append] at h
    simp only [subst, ihc fun c hc => h c (.inl (.inl hc)), iht fun c hc => h c (.inl (.inr hc)),
      ihe fun c hc => h c (.inr hc)]
  | _ => rfl

/-- every `x` lies on the same side of all cuts as the largest of `0` and the cuts up to `x` -/
theorem exists_rep (cs : List Nat) (x : Nat) :
    ∃ r, (r = 0 ∨ r ∈ cs) ∧ r ≤ x ∧ ∀ c ∈ cs, c ≤ r ↔ c ≤ x := by
  induction x with
  | zero => exact ⟨0, .inl rfl, Nat.le_refl 0, fun _ _ => Iff.rfl⟩
  | succ x ih =>
    by_cases hx : x + 1 ∈ cs
    · exact ⟨x + 1, .inr hx, Nat.le_refl _, fun _ _ => Iff.rfl⟩
    · obtain ⟨r, hr, hrx, h⟩ := ih
      refine ⟨r, hr, by omega, fun c hc => ?_⟩
      have : c ≠ x + 1 := fun e => hx (e ▸ hc)
      rw [h c hc]
      omega

/-- the byte values `checkReps` tries for byte `k` -/
def reps (k : Nat) (f g : F) : List Nat := ((0 :: cuts k f ++ cuts k g).filter (· < 256)).eraseDups

/-- `check` with `reps k f g` in place of all 256 values of byte `k` -/
def checkReps : Nat → Nat → F → F → Bool
  | 0, _, f, g => decide (f = g)
  | n+1, k, f, g =>
    if f = g then true
    else if !(mentions k f || mentions k g) then checkReps n (k+1) f g
    else (((reps k f g).map fun x => (subst k x f, subst k x g)).eraseDups).all
           fun p => checkReps n (k+1) p.1 p.2

theorem all_eraseDups_congr {α} [BEq α] [LawfulBEq α] {l₁ l₂ : List α} (h : ∀ p, p ∈ l₁ ↔ p ∈ l₂)
    (P : α → Bool) : l₁.eraseDups.all P = l₂.eraseDups.all P := by
  rw [Bool.eq_iff_iff, List.all_eq_true, List.all_eq_true]
  simp only [List.mem_eraseDups, h]

theorem checkReps_eq : ∀ (n k : Nat) (f g : F), checkReps n k f g = check n k f g := by
  intro n
  induction n with
  | zero => intro k f g; rfl
  | succ n ih =>
    intro k f g
    -- the representatives produce exactly the residual pairs that all 256 values produce
    have hmem : ∀ p : F × F, p ∈ (reps k f g).map (fun x => (subst k x f, subst k x g)) ↔
        p ∈ (List.range 256).map (fun x => (subst k x f, subst k x g)) := by
      intro p
      simp only [List.mem_map, reps, List.mem_eraseDups, List.mem_filter, List.mem_range,
        decide_eq_true_eq]
      constructor
      · rintro ⟨r, ⟨-, hr⟩, rfl⟩
        exact ⟨r, hr, rfl⟩
      · rintro ⟨x, hx, rfl⟩
        obtain ⟨r, hr, hrx, h⟩ := exists_rep (cuts k f ++ cuts k g) x
        refine ⟨r, ⟨by simpa using hr, by omega⟩, ?_⟩
        simp only [List.mem_append] at h
        rw [subst_eq_of_cuts k r x (by omega) hx f fun c hc => h c (.inl hc),
          subst_eq_of_cuts k r x (by omega) hx g fun c hc => h c (.inr hc)]
    simp only [checkReps, check, ih]
    rw [all_eraseDups_congr hmem]

theorem eval_anyF (ip : Nat → Nat) (fs : List F) : eval ip (anyF fs) = fs.any (eval ip) := by
  induction fs with
  | nil => rfl
  | cons f fs ih => simp [anyF, eval, ih]

theorem cexVec_sound (w : Nat) (f g : F) (v : List Nat) (h : cexVec w f g = some v) :
    eval (ipOf v) f ≠ eval (ipOf v) g := by
  unfold cexVec at h
  split at h
  · simp at h
  · simp only at h
    split at h
    · next hne =>
      simp at h; subst h
      simpa using hne
    · simp at h

end F

theorem toBytes_length (w n : Nat) : (toBytes w n).length = w := by
  induction w with
  | zero => rfl
  | succ w ih => simp [toBytes, ih]

theorem toBytes_lt (w n : Nat) : ∀ b ∈ toBytes w n, b < 256 := by
  induction w with
  | zero => simp [toBytes]
  | succ w ih =>
    intro b hb
    simp only [toBytes, List.mem_cons] at hb
    rcases hb with rfl | hb
    · exact Nat.mod_lt _ (by decide)
    · exact ih b hb

theorem beNat_toBytes (w n : Nat) : beNat (toBytes w n) = n % 2 ^ (8 * w) := by
  induction w with
  | zero => simp [toBytes, beNat, Nat.mod_one]
  | succ w ih =>
    simp only [toBytes, beNat, toBytes_length, ih]
    have : 2 ^ (8 * (w + 1)) = 2 ^ (8 * w) * 256 := by
      rw [Nat.mul_add, Nat.pow_add]
    rw [this, Nat.mod_mul]
    rw [Nat.mul_comm (n / 2 ^ (8 * w) % 256)]
    omega

/-! ### the formula of a prefix -/

theorem beNat_eq (bs : List Nat) : beNat bs = C12.beNat bs := by
  induction bs with
  | nil => rfl
  | cons b bs ih => rw [beNat, C12.beNat, ih, C12.pow256]

theorem beNat_lt (xs : List Nat) (h : ∀ b ∈ xs, b < 256) : beNat xs < 2 ^ (8 * xs.length) := by
  rw [beNat_eq, ← C12.pow256]; exact C12.beNat_lt xs h

/-- The byte formula of a prefix is the loop of `net.IPNet.Contains` under the canonical mask of
`rem` ones: whole bytes are compared under `0xff`, the byte the prefix ends in under its leading
bits, the rest not at all. -/
theorem prefixFAux_eval (ps : List Nat) : ∀ (xs : List Nat) (i rem : Nat) (ip : Nat → Nat),
    xs.length = ps.length → (∀ b ∈ ps, b < 256) → (∀ j (h : j < xs.length), ip (i + j) = xs[j]) →
    F.eval ip (prefixFAux i ps rem) = C12.maskedEq xs (C12.cidrMask rem ps.length) ps := by
  induction ps with
  | nil =>
    intro xs i rem ip hlen _ _
    obtain rfl : xs = [] := List.length_eq_zero_iff.1 hlen
    rfl
  | cons p ps ih =>
    intro xs i rem ip hlen hps hip
    match xs, hlen with
    | x :: xs, hlen =>
      have hip0 : ip i = x := hip 0 (Nat.succ_pos _)
      unfold prefixFAux
      rw [List.length_cons]
      by_cases h8 : rem ≥ 8
      · have hip' : ∀ j (h : j < xs.length), ip (i + 1 + j) = xs[j] := fun j hj => by
          rw [Nat.add_assoc, Nat.add_comm 1 j]
          exact hip (j + 1) (Nat.succ_lt_succ hj)
        rw [if_pos h8, C12.cidrMask_succ_of_ge _ h8, C12.maskedEq,
          Nat.and_two_pow_sub_one_of_lt_two_pow (n := 8) (hps p (by simp)),
          ← ih xs (i + 1) (rem - 8) ip (Nat.succ.inj hlen) (fun b hb => hps b (by simp [hb])) hip']
        simp only [F.eval, hip0]
      · rw [if_neg h8]
        by_cases h0 : rem = 0
        · rw [if_pos h0, h0, C12.cidrMask_zero, C12.maskedEq_zero]
          rfl
        · rw [if_neg h0, C12.cidrMask_succ_of_lt _ (Nat.lt_of_not_le h8), C12.maskedEq, C12.maskedEq_zero,
            Bool.and_true]
          simp only [F.eval, hip0]
          rfl

/-- **The formula of a prefix is bit-level containment**, for every prefix of either family
and every address: `prefixF p` holds on the bytes of `n` iff the `p.bits` leading bits of the
big-endian number `n` are those of the prefix address. -/
theorem prefixF_correct (w : Nat) (p : Pfx) (n : Nat) (hp : p.wf w = true) (hn : n < 2 ^ (8 * w)) :
    F.eval (ipOf (toBytes w n)) (prefixF p) = p.containsB w n := by
  simp only [Pfx.wf, Bool.and_eq_true, beq_iff_eq, List.all_eq_true, decide_eq_true_eq] at hp
  obtain ⟨⟨hlen, hb⟩, hbits⟩ := hp
  have hl : (toBytes w n).length = p.bytes.length := by rw [toBytes_length, hlen]
  rw [prefixF, prefixFAux_eval p.bytes (toBytes w n) 0 p.bits _ hl hb
      (by intro j hj; simp [ipOf, List.getD_eq_getElem?_getD, hj]),
    ← hl, Bool.eq_iff_iff,
    C12.maskedEq_cidr _ _ p.bits (8 * w - p.bits) hl (toBytes_lt w n) hb (by rw [toBytes_length]; omega),
    ← beNat_eq, ← beNat_eq, beNat_toBytes, Nat.mod_eq_of_lt hn]
  exact decide_eq_true_iff.symm

theorem ipOf_lt (bs : List Nat) (h : ∀ b ∈ bs, b < 256) (i : Nat) : ipOf bs i < 256 := by
  unfold ipOf
  rw [List.getD_eq_getElem?_getD]
  cases hi : bs[i]? with
  | none => simp
  | some b => simpa using h b (List.mem_of_getElem? hi)

theorem containsB_iff (w : Nat) (p : Pfx) (n : Nat) : p.containsB w n = true ↔ p.contains w n := by
  simp [Pfx.containsB, Pfx.contains]

instance (w : Nat) (p : Pfx) (n : Nat) : Decidable (p.contains w n) :=
  decidable_of_iff _ (containsB_iff w p n)

theorem mem_family (w : Nat) (doc : List Pfx) (p : Pfx) :
    p ∈ family w doc ↔ p ∈ doc ∧ p.bytes.length = w := by
  simp [family]

/-- If the checker accepts `f` against the formula of the documented list, then `f` holds on
the bytes of an address exactly when the address lies in one of the documented networks of
that family. -/
theorem eval_iff_of_check (w : Nat) (f : F) (doc : List Pfx)
    (hc : F.check w 0 f (docF w doc) = true) (hwf : (family w doc).all (Pfx.wf w) = true)
    (n : Nat) (hn : n < 2 ^ (8 * w)) :
    f.eval (ipOf (toBytes w n)) = true ↔ ∃ p ∈ doc, p.bytes.length = w ∧ p.contains w n := by
  rw [F.check_sound w 0 f _ hc _ (ipOf_lt _ (toBytes_lt w n))]
  rw [docF, F.eval_anyF, List.any_map, List.any_eq_true]
  rw [List.all_eq_true] at hwf
  constructor
  · rintro ⟨p, hp, he⟩
    have hpd := (mem_family w doc p).1 hp
    refine ⟨p, hpd.1, hpd.2, ?_⟩
    rw [← containsB_iff, ← prefixF_correct w p n (hwf p hp) hn]
    exact he
  · rintro ⟨p, hpd, hl, hcn⟩
    have hp := (mem_family w doc p).2 ⟨hpd, hl⟩
    refine ⟨p, hp, ?_⟩
    show F.eval (ipOf (toBytes w n)) (prefixF p) = true
    rw [prefixF_correct w p n (hwf p hp) hn, containsB_iff]
    exact hcn

theorem Addr.unmap_of_ne (x : Addr) (h : x.kind ≠ .v4in6) : x.unmap = x := by
  cases x with
  | v6 a z =>
    by_cases h' : a.toNat / 2 ^ 32 = 0xffff
    · simp [Addr.kind, h'] at h
    · simp [Addr.unmap, h']
  | _ => rfl

theorem Addr.kind_unmap_of (x : Addr) (h : x.kind = .v4in6) : x.unmap.kind = .v4 := by
  cases x with
  | v6 a z =>
    by_cases h' : a.toNat / 2 ^ 32 = 0xffff
    · simp [Addr.unmap, h', Addr.kind]
    · simp [Addr.kind, h'] at h
  | _ => simp [Addr.kind] at h

theorem D.eval_reach (d : D) : ∀ x : Addr, d.eval x = (d.reach x.kind).eval x := by
  induction d with
  | ite c t e iht ihe =>
    intro x
    simp only [D.eval, D.reach]
    split
    · exact iht x
    · exact ihe x
  | unmap d ih =>
    intro x
    simp only [D.eval, D.reach]
    split
    · next h => rw [D.eval, ih x.unmap, Addr.kind_unmap_of x h]
    · next h => rw [Addr.unmap_of_ne x h]; exact ih x
  | _ => intro x; rfl

/-- the obligations a regenerated dispatcher and its two byte predicates must meet -/
structure Obligations (d : D) (f4 f6 : F) (doc : List Pfx) : Prop where
  invalid : d.reach .invalid = .ret false
  v4 : d.reach .v4 = .on4 f4
  v4in6 : d.reach .v4in6 = .on16 f6
  v6 : d.reach .v6 = .on16 f6
  check4 : F.check 4 0 f4 (docF 4 doc) = true
  check6 : F.check 16 0 f6 (docF 16 doc) = true
  wf4 : (family 4 doc).all (Pfx.wf 4) = true
  wf6 : (family 16 doc).all (Pfx.wf 16) = true

theorem Obligations.eval_eq {d : D} {f4 f6 : F} {doc : List Pfx} (o : Obligations d f4 f6 doc)
    (x : Addr) : ∃ b, d.eval x = .ok b ∧ (b = true ↔ x.InDoc doc) := by
  rw [D.eval_reach d x]
  cases x with
  | invalid => exact ⟨false, by simp [Addr.kind, o.invalid, D.eval], by simp [Addr.InDoc]⟩
  | v4 a =>
    refine ⟨f4.eval (ipOf (toBytes 4 a.toNat)), by simp [Addr.kind, o.v4, D.eval, Addr.as4, Except.map], ?_⟩
    exact eval_iff_of_check 4 f4 doc o.check4 o.wf4 a.toNat a.isLt
  | v6 a z =>
    refine ⟨f6.eval (ipOf (toBytes 16 a.toNat)), ?_, ?_⟩
    · simp only [Addr.kind]
      split <;> simp [o.v4in6, o.v6, D.eval, Addr.as16]
    · exact eval_iff_of_check 16 f6 doc o.check6 o.wf6 a.toNat a.isLt

theorem Obligations.iff {d : D} {f4 f6 : F} {doc : List Pfx} (o : Obligations d f4 f6 doc)
    (x : Addr) : (d.eval x = .ok true ↔ x.InDoc doc) ∧ (d.eval x = .ok false ↔ ¬ x.InDoc doc) := by
  obtain ⟨b, hb, hiff⟩ := o.eval_eq x
  rw [hb]
  cases b <;> simp_all

/-- the zone of an IPv6 address plays no role: `InDoc` does not look at it -/
theorem Obligations.eval_zone {d : D} {f4 f6 : F} {doc : List Pfx} (o : Obligations d f4 f6 doc)
    (a : BitVec 128) (z z' : String) : d.eval (.v6 a z) = d.eval (.v6 a z') := by
  obtain ⟨b, h1, hb⟩ := o.eval_eq (.v6 a z)
  obtain ⟨b', h2, hb'⟩ := o.eval_eq (.v6 a z')
  rw [h1, h2, Bool.eq_iff_iff.2 (hb.trans hb'.symm)]

end GolibsVerif.C06
