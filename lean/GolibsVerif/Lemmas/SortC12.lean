/-
From the array-level specification of the model of `pdqsortCmpFunc` (`Lemmas/SortPdq.lean`) to
`slices.SortFunc` on lists and to the vocabulary of `Spec/C12.lean` (`StrictWeakOrder`, `Sorted`).
-/
import GolibsVerif.Lemmas.SortPdq
import GolibsVerif.Spec.C12

namespace GolibsVerif.Slices

variable {α : Type} {cmp : α → α → Int}

theorem WeakCmp.of_strictWeakOrder
    (h : C12.StrictWeakOrder (fun a b => cmp a b < 0)) : WeakCmp cmp := by
  refine ⟨h.irrefl, h.trans, ?_⟩
  intro a b c hab hbc hca
  -- a ≤ b ≤ c and c < a
  by_cases h1 : cmp a b < 0
  · exact hbc (h.trans c a b hca h1)
  · by_cases h2 : cmp b c < 0
    · exact hab (h.trans b c a h2 hca)
    · exact (h.incomp_trans a b c ⟨h1, hab⟩ ⟨h2, hbc⟩).2 hca

theorem sortFuncArray_spec (cmp : α → α → Int) (d : Array α) :
    ∃ d', sortFuncArray cmp d = .ok d' ∧ d'.size = d.size ∧ d'.toList.Perm d.toList ∧
      (WeakCmp cmp → SortedOn cmp d' 0 d.size) := by
  obtain ⟨d', h1, hf, hw⟩ := pdqsort_spec cmp (d.size + 1) d 0 (d.size : Int) (bitsLen d.size) true true
    (by omega) (Int.le_refl _) (by omega) (Int.le_refl _)
  refine ⟨d', h1, hf.size, hf.perm, fun hw' => (hw hw' ?_).2⟩
  intro h0
  omega

theorem sortedOn_toList {d : Array α} (h : SortedOn cmp d 0 d.size) :
    C12.Sorted cmp d.toList := by
  unfold C12.Sorted
  rw [List.pairwise_iff_getElem]
  intro i j hi hj hij
  simp only [Array.length_toList] at hi hj
  apply h (i : Int) (j : Int) (by omega) (by omega) (by omega)
  · rw [at?_ofNat]; simp [hj]
  · rw [at?_ofNat]; simp [hi]

theorem sortFunc_spec (cmp : α → α → Int) (l : List α) :
    ∃ r, sortFunc cmp l = .ok r ∧ r.Perm l ∧ (WeakCmp cmp → C12.Sorted cmp r) := by
  obtain ⟨d', h1, hsz, hp, hs⟩ := sortFuncArray_spec cmp l.toArray
  refine ⟨d'.toList, by simp [sortFunc, h1, Except.map], by simpa using hp, ?_⟩
  intro hw
  apply sortedOn_toList
  rw [hsz]
  exact hs hw

theorem sortFunc_eq_val (cmp : α → α → Int) (l : List α) : sortFunc cmp l = .ok (sortFuncVal cmp l) := by
  obtain ⟨r, h, _⟩ := sortFunc_spec cmp l
  simp [sortFuncVal, h]

end GolibsVerif.Slices
