/-
C10 — the scheduled-script interpreter (`runSched`, the one tied to the Go code with real
goroutines).  Its executable steps `KSt.inv`, `doSec`, `doRet` are steps of the concurrent
system and are total on reachable states of a normalised configuration (so no call in flight is
stuck: `call_can_step`); for every script the
interpreter returns — no modelled panic, the fuel of its loops always suffices — and what it
returns is a concurrent execution (`runSched_spec`).
-/
import GolibsVerif.Lemmas.C10Progress

namespace GolibsVerif.C10
open GolibsVerif.C09

theorem inv_kstep (c : Conf) (σ : KSt) (op : Call) :
    KStep c σ (.inv σ.calls.length op) (σ.inv op) := by
  cases op with
  | set k v => exact KStep.invSet σ k v _ (FStep.call σ.f k v)
  | get _ | del _ | clear | stats => exact KStep.inv σ _ (by intro k v h; cases h)

theorem frameHead_fstep {c : Conf} {σ σ' : FSt} {i : Nat} {f : Frame} {ev : Ev}
    (hf : σ.frames[i]? = some f) (hh : f.atLoopHead c σ.cache)
    (h : frameHead c σ i f = .ok (σ', ev)) : FStep c σ (.sec (some i) ev) σ' := by
  unfold frameHead at h
  split at h
  · next hfull =>
    split at h
    · next s' e he =>
      cases h
      exact FStep.evict σ i f s' e hf hh hfull he
    · cases h
  · next hfull =>
    split at h
    · next s' r hc =>
      cases h
      exact FStep.commit σ i f s' r hf hh (by simpa using hfull) hc
    · cases h

theorem frameSec_fstep {c : Conf} {σ σ' : FSt} {i : Nat} {ev : Ev}
    (h : frameSec c σ i = .ok (σ', ev)) : FStep c σ (.sec (some i) ev) σ' := by
  unfold frameSec at h
  split at h
  · cases h
  · next f hf =>
    split at h
    · next hp =>
      split at h
      · next hc => exact frameHead_fstep hf (Or.inl ⟨hp, hc⟩) h
      · next hc =>
        cases h
        exact FStep.refuse σ i f hf hp hc
    · next hp => exact frameHead_fstep hf (Or.inr hp) h
    · next k v hp =>
      cases h
      exact FStep.onDelete σ i f k v hf hp
    · cases h

theorem oneSec_fstep {c : Conf} {σ σ' : FSt} {op : Call} {ev : Ev}
    (h : oneSec c σ op = .ok (σ', ev)) : FStep c σ (.sec none ev) σ' ∧ IsSecOf op ev := by
  cases op with
  | set k v => cases h
  | get k =>
    simp only [oneSec] at h
    split at h
    · next s' r hg =>
      cases h
      exact ⟨FStep.get σ s' k r hg, rfl⟩
    · cases h
  | del k =>
    simp only [oneSec] at h
    split at h
    · next s' hd =>
      cases h
      exact ⟨FStep.del σ s' k hd, rfl⟩
    · cases h
  | clear =>
    cases h
    exact ⟨FStep.clear σ, trivial⟩
  | stats =>
    cases h
    exact ⟨FStep.stats σ, trivial⟩

theorem doSec_kstep {c : Conf} {σ σ' : KSt} {id : Nat} {ev : Ev}
    (h : doSec c σ id = .ok (σ', ev)) : KStep c σ (.sec id ev) σ' := by
  unfold doSec at h
  split at h
  · next k v i hc =>
    split at h
    · next f' ev' hf =>
      cases h
      exact KStep.secSet σ id i k v ev f' hc (frameSec_fstep hf)
    · cases h
  · next _ op hc =>
    split at h
    · next f' ev' hf =>
      cases h
      obtain ⟨h1, h2⟩ := oneSec_fstep hf
      exact KStep.secOne σ id op ev f' hc h2 h1
    · cases h
  · cases h

theorem doRet_kstep {c : Conf} {σ σ' : KSt} {id : Nat} {r : Res}
    (h : doRet σ id = .ok (σ', r)) : KStep c σ (.ret id r) σ' := by
  unfold doRet at h
  split at h
  · next op r' hc =>
    cases h
    exact KStep.ret σ id op r hc
  · cases h

/-- the interpreter's log is a concurrent execution from the fresh cache to its state -/
def Sched.Ok (c : Conf) (s : Sched) : Prop := CTrace c KSt.init s.log s.σ

theorem Sched.Ok.init (c : Conf) : Sched.init.Ok c := CTrace.nil _

theorem Sched.Ok.push {c : Conf} {s : Sched} {ev : KEv} {σ' : KSt} (h : s.Ok c)
    (hs : KStep c s.σ ev σ') : (s.push ev σ').Ok c := ctrace_snoc h hs

theorem Sched.Ok.show {c : Conf} {s : Sched} (o : SOut) (h : s.Ok c) : (s.show o).Ok c := h

theorem frameHead_total {c : Conf} (ok : ConfOk c) {σ : FSt} (hinv : Inv c σ.cache)
    (hok : FramesOk c σ) {i : Nat} {f : Frame} (hf : σ.frames[i]? = some f)
    (hh : f.atLoopHead c σ.cache) : ∃ σ' ev, frameHead c σ i f = .ok (σ', ev) := by
  obtain ⟨hadd, hor⟩ := atLoopHead_ok (hok i f hf) hh
  obtain ⟨hev, ⟨s2, r2, hcm⟩, _, _⟩ := sections_total ok hinv f.key f.val
  unfold frameHead
  cases hfull : full c σ.cache f.add with
  | true =>
    have hl : c.lru = true := by
      rcases hor with h1 | h1
      · exact h1
      · rw [hfull] at h1; cases h1
    obtain ⟨s', e, he⟩ := hev f.add hl hadd hfull
    simp [he]
  | false => simp [hcm]

theorem frameSec_total {c : Conf} (ok : ConfOk c) {σ : FSt} (hinv : Inv c σ.cache)
    (hok : FramesOk c σ) {i : Nat} {f : Frame} (hf : σ.frames[i]? = some f)
    (hnd : f.phase ≠ .done) : ∃ σ' ev, frameSec c σ i = .ok (σ', ev) := by
  unfold frameSec
  rw [hf]
  simp only
  cases hp : f.phase with
  | start =>
    simp only
    by_cases hc : setCheck c σ.cache f.key f.val = .proceed
    · simp only [hc, if_true]
      exact frameHead_total ok hinv hok hf (Or.inl ⟨hp, hc⟩)
    · simp [hc]
  | loop => exact frameHead_total ok hinv hok hf (Or.inr hp)
  | cb k v => exact ⟨_, _, rfl⟩
  | done => exact absurd hp hnd

theorem doSec_one {c : Conf} {σ : KSt} {id : Nat} {op : Call} {f' : FSt} {ev : Ev}
    (hc : σ.calls[id]? = some ⟨op, .running none⟩) (h : oneSec c σ.f op = .ok (f', ev)) :
    doSec c σ id = .ok ({ f := f', calls := σ.calls.set id ⟨op, statusAfter none ev⟩ }, ev) := by
  unfold doSec
  rw [hc]
  simp only [h]

theorem doRet_finished {σ : KSt} {id : Nat} {op : Call} {r : Res}
    (hc : σ.calls[id]? = some ⟨op, .finished r⟩) :
    doRet σ id = .ok ({ σ with calls := σ.calls.set id ⟨op, .returned r⟩ }, r) := by
  unfold doRet
  rw [hc]

theorem oneSec_total {c : Conf} (ok : ConfOk c) {σ : FSt} (hinv : Inv c σ.cache) {op : Call}
    (hop : ∀ k v, op ≠ .set k v) :
    ∃ f' ev r, oneSec c σ op = .ok (f', ev) ∧ resOf ev = some r := by
  cases op with
  | set k v => exact absurd rfl (hop k v)
  | get k =>
    obtain ⟨_, _, ⟨sg, rg, hg⟩, _⟩ := sections_total ok hinv k []
    exact ⟨{ σ with cache := sg }, .get k rg, .get rg, by simp only [oneSec, hg], rfl⟩
  | del k =>
    obtain ⟨_, _, _, ⟨sd, hd⟩⟩ := sections_total ok hinv k []
    exact ⟨{ σ with cache := sd }, .del k, .del, by simp only [oneSec, hd], rfl⟩
  | clear => exact ⟨_, _, _, rfl, rfl⟩
  | stats => exact ⟨_, _, _, rfl, rfl⟩

/-- a running call's next section can be computed: the frame of a `Set` has not returned, and
the sections of the cache are total on reachable states -/
theorem doSec_total {c : Conf} (ok : ConfOk c) {log : List KRec} {σ : KSt}
    (ht : CTrace c KSt.init log σ) {id : Nat} {op : Call} {fr : Option Nat}
    (hc : σ.calls[id]? = some ⟨op, .running fr⟩) : ∃ σ1 ev, doSec c σ id = .ok (σ1, ev) := by
  obtain ⟨hinv, hfok⟩ := ctrace_inv ht
  have hcf := callFrames_reachable ht
  cases fr with
  | some i =>
    obtain ⟨f, hf, hnd, rfl⟩ := hcf.own id _ i hc
    obtain ⟨f', ev, hfs⟩ := frameSec_total ok hinv hfok hf hnd
    unfold doSec
    rw [hc]
    simp only [hfs]
    exact ⟨_, _, rfl⟩
  | none =>
    obtain ⟨f', ev, _, hone, _⟩ := oneSec_total ok hinv (hcf.one id op hc)
    exact ⟨_, _, doSec_one hc hone⟩

/-- the next section of a running `Set` on a reachable state: it is computed, and it is what
`FrameSec` says a section of its frame can be -/
theorem doSec_set {c : Conf} (ok : ConfOk c) {log : List KRec} {σ : KSt}
    (ht : CTrace c KSt.init log σ) {id i : Nat} {k v : Bytes}
    (hc : σ.calls[id]? = some ⟨.set k v, .running (some i)⟩) :
    ∃ f p s' ev σ1, σ.f.frames[i]? = some f ∧ FrameSec c σ.f.cache f ev p s' ∧
      doSec c σ id = .ok (σ1, ev) ∧ σ1.f = σ.f.move i f p s' ∧
      σ1.calls[id]? = some ⟨.set k v, statusAfter (some i) ev⟩ := by
  obtain ⟨σ1, ev, hsec⟩ := doSec_total ok ht hc
  have hstep := doSec_kstep hsec
  have hf := kstep_fstep hstep
  simp only [frameOf_set hc] at hf
  obtain ⟨f, p, s', hff, hfs, hmove⟩ := fstep_set_inv hf
  obtain ⟨op', fr', hc', hcalls, _⟩ := kstep_calls hstep
  rw [hc] at hc'
  cases hc'
  exact ⟨f, p, s', ev, σ1, hff, hfs, hsec, hmove, by rw [hcalls]; exact getElem?_set_self' hc⟩

/-- **no call in flight is stuck**: a running call can run its next section -/
theorem call_can_step {c : Conf} (ok : ConfOk c) {log : List KRec} {σ : KSt}
    (ht : CTrace c KSt.init log σ) {id : Nat} {op : Call} {fr : Option Nat}
    (hc : σ.calls[id]? = some ⟨op, .running fr⟩) : ∃ ev σ', KStep c σ (.sec id ev) σ' :=
  (doSec_total ok ht hc).elim fun σ1 ⟨ev, h⟩ => ⟨ev, σ1, doSec_kstep h⟩

def lruLen (s : Sched) : Nat := s.σ.f.cache.lru.length

/-- the fuel the interpreter gives `runSet` and `drain`: one section per entry and two more -/
theorem fuelFor_eq (s : Sched) : fuelFor s = lruLen s + 2 := rfl

/-- is frame `i` between an eviction and the `OnDelete` call -/
def inCb (σ : KSt) (i : Nat) : Prop := ∃ f k v, σ.f.frames[i]? = some f ∧ f.phase = .cb k v

theorem show_eq (s : Sched) (o : SOut) : (s.show o).σ = s.σ ∧ (s.show o).sets = s.sets ∧
    (s.show o).log = s.log := ⟨rfl, rfl, rfl⟩

/-- `runSet` returns when given fuel for one section per entry and two more (every eviction
removes an entry), with a concurrent execution; afterwards the call has returned, or the cache has
shrunk, or (started between an eviction and its callback) the cache is as it was -/
theorem runSet_total {c : Conf} (ok : ConfOk c) {resumed : Bool} {n id i : Nat} {k v : Bytes} :
    ∀ (fuel : Nat) (s : Sched), s.Ok c →
      s.σ.calls[id]? = some ⟨.set k v, .running (some i)⟩ → lruLen s + 2 ≤ fuel →
      ∃ s', runSet c resumed n id fuel s = .ok s' ∧ s'.Ok c ∧ s'.sets = s.sets ∧
        ((∃ r, s'.σ.calls[id]? = some ⟨.set k v, .returned r⟩) ∨ lruLen s' < lruLen s ∨
          (inCb s.σ i ∧ lruLen s' = lruLen s)) := by
  intro fuel
  induction fuel with
  | zero =>
    intro s _ _ hfuel
    omega
  | succ fuel ih =>
    intro s hok hc hfuel
    obtain ⟨f, p, s1, ev, σ1, hf, hfs, hsec, hmove, hc1⟩ := doSec_set ok hok hc
    have hok1 : (s.push (.sec id ev) σ1).Ok c := hok.push (doSec_kstep hsec)
    unfold runSet
    simp only [hsec]
    -- a section that fixes the result: the call returns
    have fin : ∀ b, resOf ev = some (.set b) →
        ∃ σ2, doRet σ1 id = .ok (σ2, .set b) ∧
          σ2.calls[id]? = some ⟨.set k v, .returned (.set b)⟩ := by
      intro b hr
      have : σ1.calls[id]? = some ⟨.set k v, .finished (.set b)⟩ := by
        rw [hc1]; simp [statusAfter, hr]
      exact ⟨_, doRet_finished this, getElem?_set_self' this⟩
    cases hfs with
    | onDelete k' v' hp =>
      -- the frame was between an eviction and its callback
      exact ⟨_, rfl, hok1.show _, rfl,
        .inr (.inr ⟨⟨f, k', v', hf, hp⟩, congrArg (·.cache.lru.length) hmove⟩)⟩
    | evict s' e _ _ he =>
      -- one entry less; the call is still running with frame `i`
      have hlen : lruLen (s.push (.sec id (.evict e.key e.val)) σ1) + 1 = lruLen s := by
        simp [lruLen, Sched.push, hmove, FSt.move, (evictOne_ok he).1]
      obtain ⟨s', hrun, hok', hsets, hpost⟩ := ih _ hok1 hc1 (by omega)
      refine ⟨s', hrun, hok', by rw [hsets]; rfl, ?_⟩
      rcases hpost with h | h | ⟨_, h⟩
      · exact .inl h
      · exact .inr (.inl (by omega))
      · exact .inr (.inl (by omega))
    | refuse =>
      obtain ⟨σ2, hret, hc2⟩ := fin false rfl
      simp only [hret]
      exact ⟨_, rfl, (hok1.push (doRet_kstep hret)).show _, rfl, .inl ⟨_, hc2⟩⟩
    | commit s' rep =>
      obtain ⟨σ2, hret, hc2⟩ := fin rep rfl
      simp only [hret]
      exact ⟨_, rfl, (hok1.push (doRet_kstep hret)).show _, rfl, .inl ⟨_, hc2⟩⟩

theorem inv_calls_one (σ : KSt) {op : Call} (hop : ∀ k v, op ≠ .set k v) :
    (σ.inv op).calls = σ.calls ++ [⟨op, .running none⟩] ∧ (σ.inv op).f = σ.f := by
  cases op with
  | set k v => exact absurd rfl (hop k v)
  | _ => exact ⟨rfl, rfl⟩

theorem runOne_total {c : Conf} (ok : ConfOk c) {op : Call} (hop : ∀ k v, op ≠ .set k v)
    {s : Sched} (hok : s.Ok c) : ∃ s', runOne c op s = .ok s' ∧ s'.Ok c := by
  have hok0 : (s.push (.inv s.σ.calls.length op) (s.σ.inv op)).Ok c := hok.push (inv_kstep c _ _)
  obtain ⟨hinv0, _⟩ := ctrace_inv hok0
  obtain ⟨hcalls, hf⟩ := inv_calls_one s.σ hop
  obtain ⟨f', ev, r, hone, hres⟩ := oneSec_total ok (σ := (s.σ.inv op).f) hinv0 hop
  have hc : (s.σ.inv op).calls[s.σ.calls.length]? = some ⟨op, .running none⟩ := by
    rw [hcalls]; simp
  have hsec := doSec_one hc hone
  have hret := doRet_finished (r := r) (op := op) (id := s.σ.calls.length)
    (σ := ⟨f', (s.σ.inv op).calls.set s.σ.calls.length ⟨op, statusAfter none ev⟩⟩)
    (by rw [getElem?_set_self' hc]; simp [statusAfter, hres])
  unfold runOne
  simp only [Sched.push, hsec, hret]
  exact ⟨_, rfl, ((hok0.push (doSec_kstep hsec)).push (doRet_kstep hret)).show _⟩

theorem parkedId_some {s : Sched} {n id : Nat} (h : parkedId s n = some id) :
    s.sets[n]? = some id ∧ ∃ (op : Call) (i : Nat) (f : Frame),
      s.σ.calls[id]? = some ⟨op, .running (some i)⟩ ∧ s.σ.f.frames[i]? = some f ∧ f.phase = .loop := by
  unfold parkedId at h
  split at h
  · cases h
  · next id' hs =>
    split at h
    · next op i hc =>
      split at h
      · next f hf =>
        split at h
        · next hp =>
          injection h with h; subst h
          exact ⟨hs, op, i, f, hc, hf, hp⟩
        · cases h
      · cases h
    · cases h

theorem parkedId_returned {s : Sched} {n id : Nat} {op : Call} {r : Res}
    (hs : s.sets[n]? = some id) (hc : s.σ.calls[id]? = some ⟨op, .returned r⟩) :
    parkedId s n = none := by
  unfold parkedId
  simp only [hs, hc]

theorem drain_not_parked {c : Conf} {n : Nat} {s : Sched} (h : parkedId s n = none) (fuel : Nat) :
    drain c n fuel s = .ok s := by
  cases fuel <;> simp [drain, h]

theorem parked_running {c : Conf} {s : Sched} (hok : s.Ok c) {n id : Nat}
    (hp : parkedId s n = some id) :
    ∃ (i : Nat) (k v : Bytes), s.sets[n]? = some id ∧
      s.σ.calls[id]? = some ⟨.set k v, .running (some i)⟩ ∧ ¬ inCb s.σ i := by
  obtain ⟨hs, op, i, f, hc, hf, hph⟩ := parkedId_some hp
  obtain ⟨f0, hf0, _, rfl⟩ := (callFrames_reachable hok).own id op i hc
  refine ⟨i, f0.key, f0.val, hs, hc, ?_⟩
  rintro ⟨g, k2, v2, hg, hgp⟩
  rw [hf] at hg; injection hg with hg; subst hg
  rw [hph] at hgp; cases hgp

theorem drain_total {c : Conf} (ok : ConfOk c) {n : Nat} : ∀ (fuel : Nat) (s : Sched),
    s.Ok c → lruLen s + 1 ≤ fuel → ∃ s', drain c n fuel s = .ok s' ∧ s'.Ok c := by
  intro fuel
  induction fuel with
  | zero => intro s _ h; omega
  | succ fuel ih =>
    intro s hok hfuel
    cases hp : parkedId s n with
    | none => exact ⟨s, drain_not_parked hp _, hok⟩
    | some id =>
      obtain ⟨i, k, v, hs, hc, hncb⟩ := parked_running hok hp
      obtain ⟨s1, hrun, hok1, hsets, hpost⟩ :=
        runSet_total (resumed := true) (n := n) ok (fuelFor s) s hok hc (Nat.le_of_eq (fuelFor_eq s).symm)
      unfold drain
      simp only [hp, hrun]
      rcases hpost with ⟨r, hr⟩ | hlt | ⟨hcb, _⟩
      · exact ⟨s1, drain_not_parked (parkedId_returned (by rw [hsets]; exact hs) hr) _, hok1⟩
      · exact ih s1 hok1 (by omega)
      · exact absurd hcb hncb

theorem drainAll_total {c : Conf} (ok : ConfOk c) : ∀ (ns : List Nat) (s : Sched),
    s.Ok c → ∃ s', drainAll c ns s = .ok s' ∧ s'.Ok c := by
  intro ns
  induction ns with
  | nil => intro s hok; exact ⟨s, rfl, hok⟩
  | cons n rest ih =>
    intro s hok
    obtain ⟨s1, h1, hok1⟩ := drain_total (n := n) ok (s.σ.f.cache.lru.length + 2) s hok
      (by show lruLen s + 1 ≤ lruLen s + 2; omega)
    obtain ⟨s2, h2, hok2⟩ := ih s1 hok1
    exact ⟨s2, by simp only [drainAll, h1, h2], hok2⟩

theorem schedStep_total {c : Conf} (ok : ConfOk c) {s : Sched} (hok : s.Ok c) (st : SStep) :
    ∃ s', schedStep c s st = .ok s' ∧ s'.Ok c := by
  cases st with
  | set k v =>
    simp only [schedStep]
    refine (runSet_total (resumed := false) (i := s.σ.f.frames.length) (k := k) (v := v) ok _ _
      ?_ ?_ ?_).elim
      fun s' h => ⟨s', h.1, h.2.1⟩
    · exact hok.push (inv_kstep c _ _)
    · simp [KSt.inv, Sched.push]
    · exact Nat.le_of_eq (fuelFor_eq _).symm
  | resume n =>
    simp only [schedStep]
    cases hp : parkedId s n with
    | none => exact ⟨_, rfl, hok.show _⟩
    | some id =>
      obtain ⟨i, k, v, _, hc, _⟩ := parked_running hok hp
      obtain ⟨s', hrun, hok', _⟩ :=
        runSet_total (resumed := true) (n := n) ok _ _ hok hc (Nat.le_of_eq (fuelFor_eq s).symm)
      exact ⟨s', hrun, hok'⟩
  | get _ | del _ | clear | stats => exact runOne_total ok (by intro k v h; cases h) hok

theorem schedSteps_total {c : Conf} (ok : ConfOk c) : ∀ (steps : List SStep) (s : Sched),
    s.Ok c → ∃ s', schedSteps c steps s = .ok s' ∧ s'.Ok c := by
  intro steps
  induction steps with
  | nil => intro s hok; exact ⟨s, rfl, hok⟩
  | cons st rest ih =>
    intro s hok
    obtain ⟨s1, h1, hok1⟩ := schedStep_total ok hok st
    obtain ⟨s2, h2, hok2⟩ := ih s1 hok1
    exact ⟨s2, by simp only [schedSteps, h1, h2], hok2⟩

theorem runSched_spec (r : RawConf) (steps : List SStep) :
    ∃ s, runSched r steps = .ok s ∧ s.Ok (newConf r) := by
  have ok := newConf_ok r
  obtain ⟨s1, h1, hok1⟩ := schedSteps_total ok steps Sched.init (Sched.Ok.init _)
  obtain ⟨s2, h2, hok2⟩ := drainAll_total ok (List.range s1.sets.length) s1 hok1
  exact ⟨s2, by simp only [runSched, h1, h2], hok2⟩

end GolibsVerif.C10
