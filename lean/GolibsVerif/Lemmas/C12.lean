/-
C12 — helper lemmas: byte facts (`byteOnes` by kernel-evaluated tables), `simpleMaskLength` against
`cidrMask`, masked equality against division of big-endian values, the conversions as
equations, the comparators through their sort key (`prefer · · f` for every family predicate
with `FamSeparates f`), and insertion sort (`insertBy_perm`, `insertBy_sorted`).
-/
import GolibsVerif.Lemmas.C12Mask

set_option linter.unusedSimpArgs false

namespace GolibsVerif.C12

theorem to4_of_length4 {ip : Bytes} (h : ip.length = 4) : to4 ip = some ip :=
  if_pos h

/-- the four kinds of `net.IP` value, with `To4` and `To16` of each -/
theorem ip_cases (ip : Bytes) :
    (ip.length = 4 ∧ to4 ip = some ip ∧ to16 ip = some (v4InV6Prefix ++ ip)) ∨
    (ip.length = 16 ∧ ip.take 12 = v4InV6Prefix ∧ to4 ip = some (ip.drop 12) ∧ to16 ip = some ip) ∨
    (ip.length = 16 ∧ ip.take 12 ≠ v4InV6Prefix ∧ to4 ip = none ∧ to16 ip = some ip) ∨
    (ip.length ≠ 4 ∧ ip.length ≠ 16 ∧ to4 ip = none ∧ to16 ip = none) := by
  unfold to4 to16
  by_cases h4 : ip.length = 4
  · exact .inl ⟨h4, if_pos h4, if_pos h4⟩
  · rw [if_neg h4, if_neg h4]
    by_cases h16 : ip.length = 16
    · by_cases hm : ip.take 12 = v4InV6Prefix
      · exact .inr (.inl ⟨h16, hm, if_pos ⟨h16, hm⟩, if_pos h16⟩)
      · exact .inr (.inr (.inl ⟨h16, hm, if_neg fun h => hm h.2, if_pos h16⟩))
    · exact .inr (.inr (.inr ⟨h4, h16, if_neg fun h => h16 h.1, if_neg h16⟩))

theorem to4_some {ip b4 : Bytes} (h : to4 ip = some b4) : b4.length = 4 ∧ (IsByte ip → IsByte b4) := by
  rcases ip_cases ip with ⟨l, e, -⟩ | ⟨l, -, e, -⟩ | ⟨-, -, e, -⟩ | ⟨-, -, e, -⟩ <;> rw [e] at h <;> cases h
  · exact ⟨l, id⟩
  · exact ⟨by rw [List.length_drop, l], fun hb => hb.drop 12⟩

theorem to4_idem {ip b4 : Bytes} (h : to4 ip = some b4) : to4 b4 = some b4 :=
  to4_of_length4 (to4_some h).1

theorem to16_some {ip b : Bytes} (h : to16 ip = some b) :
    b.length = 16 ∧ (IsByte ip → IsByte b) ∧ to4 b = to4 ip := by
  rcases ip_cases ip with ⟨l, e4, e⟩ | ⟨l, -, -, e⟩ | ⟨l, -, -, e⟩ | ⟨-, -, -, e⟩ <;> rw [e] at h <;> cases h
  · refine ⟨by rw [List.length_append, l]; rfl, isByte_v4InV6Prefix.append, ?_⟩
    rw [e4]
    simp [to4, l, v4InV6Prefix]
  · exact ⟨l, id, rfl⟩
  · exact ⟨l, id, rfl⟩

theorem is4In6_v6 {b : Bytes} (z : Bytes) (h : b.length = 16) : (Addr.v6 b z).is4In6 = (to4 b).isSome := by
  simp [Addr.is4In6, to4, h]
  by_cases hm : b.take 12 = v4InV6Prefix <;> simp [hm]

theorem to16_of_to4_none {b b16 : Bytes} (h4 : to4 b = none) (h16 : to16 b = some b16) : b16 = b := by
  rcases ip_cases b with ⟨-, e, -⟩ | ⟨-, -, e, -⟩ | ⟨-, -, -, e⟩ | ⟨-, -, -, e⟩
  · rw [e] at h4; cases h4
  · rw [e] at h4; cases h4
  · rw [e] at h16; cases h16; rfl
  · rw [e] at h16; cases h16

/-- one level of a lexicographic three-way comparison: decide by `x`, `y`, on a tie answer `r`.
`lexCmp` on two non-empty strings and the three levels of `Addr.compare` are of this form. -/
def cmpThen (x y : Nat) (r : Int) : Int := if x < y then -1 else if x > y then 1 else r

theorem lexCmp_cons (a b : Nat) (as bs : Bytes) : lexCmp (a :: as) (b :: bs) = cmpThen a b (lexCmp as bs) := rfl

theorem compare_eq (a b : Addr) : a.compare b = cmpThen a.bitLen b.bitLen
    (cmpThen (beNat a.bytes) (beNat b.bytes) (if a.is6 then lexCmp a.zoneOf b.zoneOf else 0)) := rfl

theorem cmpThen_lt (x y : Nat) (r : Int) : cmpThen x y r < 0 ↔ x < y ∨ (x = y ∧ r < 0) := by
  unfold cmpThen
  rcases Nat.lt_trichotomy x y with h | rfl | h
  · simp [h]
  · simp
  · simp [Nat.lt_asymm h, h, Nat.ne_of_gt h]

theorem cmpThen_neg (x y : Nat) (r r' : Int) (h : x = y → r = -r') : cmpThen x y r = -cmpThen y x r' := by
  unfold cmpThen
  rcases Nat.lt_trichotomy x y with h1 | rfl | h1
  · simp [h1, Nat.lt_asymm h1]
  · simp [h rfl]
  · simp [h1, Nat.lt_asymm h1]

/-- `lexCmp` is the three-way comparison of the lexicographic order `<` of lists -/
theorem lexCmp_eq (a b : Bytes) : lexCmp a b = if a < b then -1 else if b < a then 1 else 0 := by
  induction a generalizing b with
  | nil => cases b <;> simp [lexCmp]
  | cons x t ih =>
    cases b with
    | nil => simp [lexCmp]
    | cons y u =>
      rw [lexCmp_cons, ih u, cmpThen]
      simp only [List.cons_lt_cons_iff]
      rcases Nat.lt_trichotomy x y with h | rfl | h
      · simp [h]
      · simp
      · simp [h, Nat.lt_asymm h, Nat.ne_of_gt h]

theorem lexCmp_lt {a b : Bytes} : lexCmp a b < 0 ↔ a < b := by
  rw [lexCmp_eq]
  by_cases h : a < b
  · simp [h]
  · rw [if_neg h]; split <;> simp [h]

theorem lexCmp_refl (a : Bytes) : lexCmp a a = 0 := by
  simp [lexCmp_eq, List.lt_irrefl]

theorem lexCmp_antisymm (a b : Bytes) : lexCmp a b = - lexCmp b a := by
  rw [lexCmp_eq, lexCmp_eq]
  by_cases h1 : a < b
  · simp [h1, List.lt_asymm h1]
  · by_cases h2 : b < a <;> simp [h1, h2]

theorem lexCmp_eq_zero {a b : Bytes} (h : lexCmp a b = 0) : a = b := by
  rw [lexCmp_eq] at h
  by_cases h1 : a < b
  · simp [h1] at h
  · by_cases h2 : b < a
    · simp [h1, h2] at h
    · exact List.le_antisymm (List.not_lt.1 h2) (List.not_lt.1 h1)

theorem lexCmp_trans {a b c : Bytes} (h1 : lexCmp a b < 0) (h2 : lexCmp b c < 0) : lexCmp a c < 0 :=
  lexCmp_lt.2 (List.lt_trans (lexCmp_lt.1 h1) (lexCmp_lt.1 h2))

theorem lexCmp_range (a b : Bytes) : lexCmp a b = -1 ∨ lexCmp a b = 0 ∨ lexCmp a b = 1 := by
  rw [lexCmp_eq]
  split
  · simp
  · split <;> simp

theorem is6_eq_of_bitLen {a b : Addr} (h : a.bitLen = b.bitLen) : a.is6 = b.is6 := by
  cases a <;> cases b <;> first | rfl | cases h

theorem compare_lt_iff (a b : Addr) (hbl : a.bitLen = b.bitLen) :
    a.compare b < 0 ↔ beNat a.bytes < beNat b.bytes ∨
      (beNat a.bytes = beNat b.bytes ∧ a.is6 = true ∧ lexCmp a.zoneOf b.zoneOf < 0) := by
  rw [compare_eq, cmpThen_lt, cmpThen_lt]
  cases a.is6 <;> simp [hbl]

theorem compare_antisymm (a b : Addr) : a.compare b = - b.compare a := by
  refine cmpThen_neg _ _ _ _ fun hbl => cmpThen_neg _ _ _ _ fun _ => ?_
  rw [← is6_eq_of_bitLen hbl, lexCmp_antisymm]
  split <;> rfl

theorem ipToAddr_v4 (b : Bytes) :
    ipToAddr (some b) famV4 =
      .ok (match to4 b with | some b4 => .ok (.v4 b4) | none => .error .bad4) := by
  rw [ipToAddr, if_pos rfl]
  cases h : to4 b with
  | none => rfl
  | some b4 => simp [fromSlice, orNil, addrFromSlice, (to4_some h).1, pure, Except.pure]

theorem ipToAddr_v6 (b : Bytes) :
    ipToAddr (some b) famV6 =
      .ok (match to16 b with | some b16 => .ok (.v6 b16 []) | none => .error .badIP) := by
  rw [ipToAddr, if_neg (by decide), if_pos rfl]
  cases h : to16 b with
  | none => rfl
  | some b16 => simp [fromSlice, orNil, addrFromSlice, (to16_some h).1, pure, Except.pure]

theorem ipToAddr_total (ip : Option Bytes) (fam : Nat) (hf : fam = famV4 ∨ fam = famV6) :
    ∃ r, ipToAddr ip fam = .ok r := by
  cases ip with
  | none => exact ⟨_, rfl⟩
  | some b =>
    rcases hf with rfl | rfl
    · exact ⟨_, ipToAddr_v4 b⟩
    · exact ⟨_, ipToAddr_v6 b⟩

theorem ipToAddr_ok_shape {ip : Option Bytes} {fam : Nat} {a : Addr} (h : ipToAddr ip fam = .ok (.ok a)) :
    (fam = famV4 ∧ ∃ b4, to4 (orNil ip) = some b4 ∧ a = .v4 b4) ∨
    (fam = famV6 ∧ ∃ b16, to16 (orNil ip) = some b16 ∧ a = .v6 b16 []) := by
  cases ip with
  | none => cases h
  | some b =>
    by_cases hf4 : fam = famV4
    · subst hf4
      rw [ipToAddr_v4] at h
      split at h
      · next b4 h4 => cases h; exact Or.inl ⟨rfl, b4, h4, rfl⟩
      · cases h
    · by_cases hf6 : fam = famV6
      · subst hf6
        rw [ipToAddr_v6] at h
        split at h
        · next b16 h16 => cases h; exact Or.inr ⟨rfl, b16, h16, rfl⟩
        · cases h
      · rw [ipToAddr, if_neg hf4, if_neg hf6] at h; cases h

/-- what a successful conversion returns, whatever the family: a valid zone-less address, well formed if
the input was bytes, and IPv4-mapped exactly when IPv6 was asked for a value that has an IPv4 form -/
theorem ipToAddr_ok {ip : Option Bytes} {fam : Nat} {a : Addr} (h : ipToAddr ip fam = .ok (.ok a)) :
    a.isValid = true ∧ a.withoutZone = a ∧ (IsByte (orNil ip) → a.WF) ∧
      a.is4In6 = (decide (fam = famV6) && (to4 (orNil ip)).isSome) := by
  obtain ⟨rfl, b4, h4, rfl⟩ | ⟨rfl, b16, h16, rfl⟩ := ipToAddr_ok_shape h
  · exact ⟨rfl, rfl, fun hb => ⟨(to4_some h4).1, (to4_some h4).2 hb⟩, rfl⟩
  · obtain ⟨l, hb16, e⟩ := to16_some h16
    exact ⟨rfl, rfl, fun hb => ⟨l, hb16 hb⟩, by rw [is4In6_v6 [] l, e]; rfl⟩

theorem ipNetToPrefix_of_addr {n : IPNet} {fam : Nat} {addr : Addr} (hc : ipToAddr n.ip fam = .ok (.ok addr)) :
    ipNetToPrefix (some n) fam = .ok
      (match simpleMaskLength (orNil n.mask) with
       | none => .error .badMask
       | some ones =>
         if orNil n.mask = [] then .error .badMask
         else if ones ≤ addr.bitLen then .ok ⟨addr.withoutZone, ones + 1⟩
         else .error .badSubnet) := by
  have hvalid := (ipToAddr_ok hc).1
  cases hs : simpleMaskLength (orNil n.mask) with
  | none => simp only [ipNetToPrefix, hc, bind, Except.bind, maskSize, hs]; rfl
  | some ones =>
    simp only [ipNetToPrefix, hc, bind, Except.bind, pure, Except.pure, maskSize, hs, prefixFrom,
      Prefix.isValid, hvalid]
    by_cases hm : orNil n.mask = []
    · simp [hm]
    · have : (orNil n.mask).length * 8 ≠ 0 := fun h0 => hm (List.eq_nil_of_length_eq_zero (by omega))
      by_cases hv : ones ≤ addr.bitLen <;> simp [hm, this, hv]

theorem ipNetToPrefix_ok {n : IPNet} {fam : Nat} {p : Prefix}
    (h : ipNetToPrefix (some n) fam = .ok (.ok p)) :
    ∃ addr ones, ipToAddr n.ip fam = .ok (.ok addr) ∧
      simpleMaskLength (orNil n.mask) = some ones ∧ orNil n.mask ≠ [] ∧
      ones ≤ addr.bitLen ∧ p = ⟨addr.withoutZone, ones + 1⟩ := by
  cases hc : ipToAddr n.ip fam with
  | error e => simp [ipNetToPrefix, hc, bind, Except.bind] at h
  | ok r =>
    cases r with
    | error e => simp [ipNetToPrefix, hc, bind, Except.bind, pure, Except.pure] at h
    | ok addr =>
      rw [ipNetToPrefix_of_addr hc] at h
      split at h
      · cases h
      · next ones hs =>
        split at h
        · cases h
        · next hne =>
          split at h
          · next hv => cases h; exact ⟨addr, ones, rfl, hs, hne, hv, rfl⟩
          · cases h

theorem ipNetToPrefix_is4In6 {n : IPNet} {fam : Nat} {p : Prefix} (h : ipNetToPrefix (some n) fam = .ok (.ok p)) :
    p.addr.is4In6 = (decide (fam = famV6) && (to4 (orNil n.ip)).isSome) := by
  obtain ⟨a, k, hc, -, -, -, rfl⟩ := ipNetToPrefix_ok h
  obtain ⟨-, hz, -, h46⟩ := ipToAddr_ok hc
  show a.withoutZone.is4In6 = _
  rw [hz, h46]

theorem ipNetToPrefix_total (n : Option IPNet) (fam : Nat) (hf : fam = famV4 ∨ fam = famV6) :
    ∃ r, ipNetToPrefix n fam = .ok r := by
  cases n with
  | none => exact ⟨_, rfl⟩
  | some n =>
    obtain ⟨r, hr⟩ := ipToAddr_total n.ip fam hf
    cases r with
    | error e => exact ⟨_, by simp only [ipNetToPrefix, hr, bind, Except.bind]; rfl⟩
    | ok addr => exact ⟨_, ipNetToPrefix_of_addr hr⟩

theorem nnm_to4 {n : IPNet} {b4 : Bytes} (h : to4 (orNil n.ip) = some b4) :
    networkNumberAndMask n =
      if (orNil n.mask).length = 4 then (b4, orNil n.mask)
      else if (orNil n.mask).length = 16 then (b4, (orNil n.mask).drop 12) else ([], []) := by
  simp [networkNumberAndMask, h, (to4_some h).1]

theorem ipNetContains_v4 {n : IPNet} {b4 xb : Bytes} (h : to4 (orNil n.ip) = some b4)
    (hm : (orNil n.mask).length = 4) (hx : xb.length = 4) :
    ipNetContains n xb = maskedEq b4 (orNil n.mask) xb := by
  simp [ipNetContains, nnm_to4 h, hm, to4_of_length4 hx, hx, (to4_some h).1]

theorem ipNetContains_v6 {n : IPNet} {xb : Bytes} (h : to4 (orNil n.ip) = none)
    (hl : (orNil n.ip).length = 16) (hm : (orNil n.mask).length = 16) (hx4 : to4 xb = none)
    (hx : xb.length = 16) : ipNetContains n xb = maskedEq (orNil n.ip) (orNil n.mask) xb := by
  simp [ipNetContains, networkNumberAndMask, h, hl, hm, hx4, hx]

theorem ipNetContains_mapped {n : IPNet} {b4 xb : Bytes} (h : to4 (orNil n.ip) = some b4)
    (hx4 : to4 xb = none) (hx : xb.length = 16) : ipNetContains n xb = false := by
  have hl := (to4_some h).1
  simp only [ipNetContains, nnm_to4 h, hx4]
  by_cases h4 : (orNil n.mask).length = 4
  · simp [h4, hx, hl]
  · by_cases h16 : (orNil n.mask).length = 16 <;> simp [h4, h16, hx, hl]

theorem Addr.WF.bitLen {a : Addr} (h : a.WF) : a.bitLen = 8 * a.bytes.length := by
  cases a with
  | zero => rfl
  | v4 b => rw [Addr.bytes, h.1]; rfl
  | v6 b z => rw [Addr.bytes, h.1]; rfl

theorem Addr.WF.isByte {a : Addr} (h : a.WF) : IsByte a.bytes := by
  cases a with
  | zero => intro x hx; cases hx
  | v4 b => exact h.2
  | v6 b z => exact h.2

theorem Addr.WF.length_eq {a x : Addr} (ha : a.WF) (hx : x.WF) (h : x.bitLen = a.bitLen) :
    x.bytes.length = a.bytes.length :=
  Nat.eq_of_mul_eq_mul_left (Nat.succ_pos 7) (by rw [← hx.bitLen, ← ha.bitLen, h])

/-- `Prefix.Contains` compares the leading `k` bits, which is what the loop of `IPNet.Contains`
does under the canonical mask with `k` ones -/
theorem contains_cidr {a x : Addr} {k : Nat} (ha : a.WF) (hx : x.WF) (hv : a.isValid = true)
    (hb : x.bitLen = a.bitLen) (hz : x.zoneOf = []) (hk : k ≤ a.bitLen) :
    (Prefix.mk a (k + 1)).contains x = maskedEq a.bytes (cidrMask k a.bytes.length) x.bytes := by
  have h0 : a.bitLen ≠ 0 := by
    cases a with
    | zero => cases hv
    | _ => simp [Addr.bitLen]
  rw [Bool.eq_iff_iff, maskedEq_cidr a.bytes x.bytes k (a.bitLen - k) (ha.length_eq hx hb).symm ha.isByte hx.isByte
    (by rw [Nat.sub_add_cancel hk, ha.bitLen])]
  simp [Prefix.contains, Prefix.isValid, Addr.hasZone, hz, hb, h0, Nat.shiftRight_eq_div_pow]
  exact eq_comm

/-- `IPNet.Contains` against the converted network number `a`, for an argument of `a`'s family as the
membership claim has it: the same loop over `a`'s bytes, unless `a` is IPv4-mapped — then `IPNet` holds
the network number as IPv4 and contains no 16-byte value that is not IPv4-mapped itself -/
theorem ipNetContains_conv {n : IPNet} {fam : Nat} {a x : Addr} (hc : ipToAddr n.ip fam = .ok (.ok a))
    (hm : (orNil n.mask).length = a.bytes.length) (hx : x.WF) (hfam : x.bitLen = a.bitLen)
    (hx46 : x.is4In6 = false) :
    ipNetContains n x.bytes = (!a.is4In6 && maskedEq a.bytes (orNil n.mask) x.bytes) := by
  rcases ipToAddr_ok_shape hc with ⟨-, b4, h4, rfl⟩ | ⟨-, b16, h16, rfl⟩
  · cases x with
    | v4 xb => exact ipNetContains_v4 h4 (hm.trans (to4_some h4).1) hx.1
    | _ => cases hfam
  · cases x with
    | v6 xb z =>
      obtain ⟨l16, -, e⟩ := to16_some h16
      have hx4 : to4 xb = none := by
        rw [is4In6_v6 z hx.1] at hx46
        exact Option.not_isSome_iff_eq_none.1 (by rw [hx46]; decide)
      rw [is4In6_v6 [] l16, e]
      cases h4 : to4 (orNil n.ip) with
      | none =>
        obtain rfl := to16_of_to4_none h4 h16
        exact ipNetContains_v6 h4 l16 (hm.trans l16) hx4 hx.1
      | some b4 => exact ipNetContains_mapped h4 hx4 hx.1
    | _ => cases hfam

/-- `keyLt` is the lexicographic order `<` of lists of numbers, on the key written out as a list -/
theorem keyLt_iff (k1 k2 : Nat × Nat × Bytes) :
    keyLt k1 k2 ↔ k1.1 :: k1.2.1 :: k1.2.2 < k2.1 :: k2.2.1 :: k2.2.2 := by
  simp only [keyLt, List.cons_lt_cons_iff, lexCmp_lt]

/-- comparing by a key that is a list of numbers is a strict weak order: `<` of lists is a strict total
order, so incomparable elements have equal keys -/
theorem StrictWeakOrder.of_listKey {α : Type} (k : α → List Nat) : StrictWeakOrder (fun a b => k a < k b) := by
  refine ⟨fun a => List.lt_irrefl _, fun a b c => List.lt_trans, fun a b c ⟨h1, h2⟩ ⟨h3, h4⟩ => ?_⟩
  rw [List.le_antisymm (List.not_lt.1 h2) (List.not_lt.1 h1), List.le_antisymm (List.not_lt.1 h4) (List.not_lt.1 h3)]
  exact ⟨List.lt_irrefl _, List.lt_irrefl _⟩

/-- a family predicate that separates bit lengths among valid addresses (`Is4`, `Is6`) -/
def FamSeparates (f : Addr → Bool) : Prop :=
  ∀ a b : Addr, a.isValid = true → b.isValid = true → f a = f b → a.bitLen = b.bitLen

theorem famSeparates_is4 : FamSeparates Addr.is4 := by
  intro a b ha hb h
  cases a <;> cases b <;> simp_all [Addr.is4, Addr.bitLen, Addr.isValid]

theorem famSeparates_is6 : FamSeparates Addr.is6 := by
  intro a b ha hb h
  cases a <;> cases b <;> simp_all [Addr.is6, Addr.bitLen, Addr.isValid]

theorem cls_lt_three (f : Addr → Bool) (a : Addr) : cls f a = 0 ∨ cls f a = 1 ∨ cls f a = 2 := by
  unfold cls; split
  · simp
  · split <;> simp

theorem cls_eq_two {f : Addr → Bool} {a : Addr} : cls f a = 2 ↔ a = .zero := by
  cases a <;> simp [cls, Addr.isValid] <;> split <;> omega

theorem cls_eq_cls {f : Addr → Bool} {a b : Addr} (ha : a ≠ .zero) (h : cls f a = cls f b) :
    a.isValid = true ∧ b.isValid = true ∧ f a = f b := by
  have hb : b ≠ .zero := fun e => ha (cls_eq_two.1 (h.trans (cls_eq_two.2 e)))
  have va : a.isValid = true := by cases a <;> first | rfl | exact absurd rfl ha
  have vb : b.isValid = true := by cases b <;> first | rfl | exact absurd rfl hb
  refine ⟨va, vb, ?_⟩
  simp only [cls, va, vb] at h
  cases hfa : f a <;> cases hfb : f b <;> simp_all

/-- `prefer` orders by class, and inside a class of valid addresses by `Addr.Compare` -/
theorem prefer_lt_iff (f : Addr → Bool) (a b : Addr) :
    prefer a b f < 0 ↔ cls f a < cls f b ∨ (cls f a = cls f b ∧ cls f a ≠ 2 ∧ a.compare b < 0) := by
  unfold prefer cls
  cases a.isValid
  · cases b.isValid <;> cases f b <;> simp
  · cases b.isValid
    · cases f a <;> simp
    · cases f a <;> cases f b <;> simp

theorem prefer_key_gen (f : Addr → Bool) (hf : FamSeparates f) (a b : Addr) :
    prefer a b f < 0 ↔ keyLt (key f a) (key f b) := by
  rw [prefer_lt_iff]
  refine or_congr Iff.rfl (and_congr_right fun hc => ?_)
  show _ ↔ beNat a.bytes < beNat b.bytes ∨ (beNat a.bytes = beNat b.bytes ∧
    lexCmp (if a.is6 then a.zoneOf else []) (if b.is6 then b.zoneOf else []) < 0)
  by_cases h2 : a = .zero
  · -- both invalid: equal keys
    obtain rfl : b = .zero := cls_eq_two.1 (hc.symm.trans (cls_eq_two.2 h2))
    subst h2
    simp [cls, Addr.isValid, Addr.bytes, Addr.is6, lexCmp]
  · obtain ⟨va, vb, hfab⟩ := cls_eq_cls h2 hc
    have hbl := hf a b va vb hfab
    rw [compare_lt_iff a b hbl, ← is6_eq_of_bitLen hbl]
    have : cls f a ≠ 2 := fun h => h2 (cls_eq_two.1 h)
    cases a.is6 <;> simp [this, lexCmp]

/-- for an `f` that separates the families, `prefer · · f < 0` compares the keys (`prefer_key_gen`), which
are lists of numbers (`keyLt_iff`) -/
theorem prefer_strict_weak_gen (f : Addr → Bool) (hf : FamSeparates f) :
    StrictWeakOrder (fun a b => prefer a b f < 0) := by
  simp only [prefer_key_gen f hf, keyLt_iff]
  exact .of_listKey _

theorem sorted_stated (f : Addr → Bool) (l : List Addr)
    (h : Sorted (fun a b => prefer a b f) l) : StatedOrder f l := by
  refine List.Pairwise.imp (fun {a b} hba => ?_) h
  rw [prefer_lt_iff, compare_antisymm] at hba
  omega

theorem insertBy_perm (cmp : Addr → Addr → Int) (x : Addr) (l : List Addr) :
    (insertBy cmp x l).Perm (x :: l) := by
  induction l with
  | nil => exact List.Perm.refl _
  | cons y ys ih =>
    unfold insertBy
    split
    · exact List.Perm.refl _
    · exact (List.Perm.cons y ih).trans (List.Perm.swap x y ys)

theorem insertBy_sorted (cmp : Addr → Addr → Int) (hw : StrictWeakOrder (fun a b => cmp a b < 0))
    (x : Addr) (l : List Addr) (hl : Sorted cmp l) : Sorted cmp (insertBy cmp x l) := by
  induction l with
  | nil => simp [insertBy, Sorted]
  | cons y ys ih =>
    unfold Sorted at hl ih ⊢
    rw [List.pairwise_cons] at hl
    unfold insertBy
    by_cases hxy : cmp x y < 0
    · simp only [hxy, if_true]
      rw [List.pairwise_cons]
      refine ⟨?_, List.pairwise_cons.mpr hl⟩
      intro z hz
      rcases List.mem_cons.mp hz with rfl | hz
      · intro hzx; exact hw.irrefl _ (hw.trans _ _ _ hzx hxy)
      · intro hzx
        exact hl.1 z hz (hw.trans _ _ _ hzx hxy)
    · simp only [hxy, if_false]
      rw [List.pairwise_cons]
      refine ⟨?_, ih hl.2⟩
      intro z hz
      have := (insertBy_perm cmp x ys).mem_iff.mp hz
      rcases List.mem_cons.mp this with rfl | hz'
      · exact hxy
      · exact hl.1 z hz'

end GolibsVerif.C12
