/-
`net/netip` formatter model: closed forms of `appendDecimal`, `appendHex`,
`appendTo4`, the zero-run search and the emitting loop of `appendTo6`.
-/
import GolibsVerif.Go.NetipFmt
import GolibsVerif.Lemmas.C04V4
import GolibsVerif.Lemmas.C02IPv6

namespace GolibsVerif.Netip
open GolibsVerif GolibsVerif.Str GolibsVerif.C04 GolibsVerif.Netutil

theorem hexVal_digitAt : ∀ k < 16, hexVal (digitAt k) = some k := by decide

theorem digitAt_dec (k : Nat) (h : k < 10) : digitAt k = 48 + k := by simp [digitAt, h]

/-- the text `appendHex` appends -/
def hexStr (x : Nat) : Bytes := appendHex [] x

theorem appendHex_eq (ret : Bytes) (x : Nat) : appendHex ret x = ret ++ hexStr x := by
  unfold hexStr appendHex
  by_cases h1 : x ≥ 0x1000 <;> by_cases h2 : x ≥ 0x100 <;> by_cases h3 : x ≥ 0x10 <;> simp [h1, h2, h3]

theorem appendDecimal_eq (ret : Bytes) (x : Nat) (hx : x < 256) : appendDecimal ret x = ret ++ dec x := by
  rw [← itoa_eq_dec x (by omega)]
  unfold appendDecimal itoa
  by_cases h1 : x < 10
  · have : ¬ x ≥ 100 := by omega
    have h10 : ¬ x ≥ 10 := by omega
    simp [h1, this, h10, digitAt_dec (x % 10) (by omega)]
  · by_cases h2 : x < 100
    · have : ¬ x ≥ 100 := by omega
      have h10 : x ≥ 10 := by omega
      simp [h1, h2, this, h10, digitAt_dec (x % 10) (by omega), digitAt_dec (x / 10 % 10) (by omega)]; omega
    · have : x ≥ 100 := by omega
      have h10 : x ≥ 10 := by omega
      simp [h1, h2, this, h10, digitAt_dec (x % 10) (by omega), digitAt_dec (x / 10 % 10) (by omega),
        digitAt_dec (x / 100) (by omega)]

theorem hexStr_spec (x : Nat) (hx : x < 65536) :
    (∀ c ∈ hexStr x, (hexVal c).isSome = true) ∧ 1 ≤ (hexStr x).length ∧ (hexStr x).length ≤ 4 ∧
    C02.accOf (hexStr x) = x := by
  have hv := hexVal_digitAt
  have e0 := hv (x % 16) (by omega)
  have e1 := hv (x / 16 % 16) (by omega)
  have e2 := hv (x / 256 % 16) (by omega)
  have e3 := hv (x / 4096) (by omega)
  unfold hexStr appendHex C02.accOf
  by_cases h1 : x ≥ 0x1000 <;> by_cases h2 : x ≥ 0x100 <;> by_cases h3 : x ≥ 0x10 <;>
    simp [h1, h2, h3, e0, e1, e2, e3] <;> omega

theorem hexStr_fieldOK (x : Nat) (hx : x < 65536) (r : Bytes)
    (hr : ∀ c, r.head? = some c → hexVal c = none) : C02.FieldOK (hexStr x) r :=
  let ⟨h1, h2, h3, _⟩ := hexStr_spec x hx
  ⟨h1, h2, h3, hr⟩

def HexHead (t : Bytes) : Prop := ∃ c r, t = c :: r ∧ (hexVal c).isSome = true

theorem hexStr_head (x : Nat) (hx : x < 65536) (t : Bytes) : HexHead (hexStr x ++ t) := by
  obtain ⟨h1, h2, _, _⟩ := hexStr_spec x hx
  cases hs : hexStr x with
  | nil => rw [hs] at h2; simp at h2
  | cons c r => exact ⟨c, r ++ t, rfl, h1 c (by rw [hs]; simp)⟩

theorem zeroRunEnd_spec (g : Nat → Nat) : ∀ fuel j,
    j ≤ zeroRunEnd g fuel j ∧ (j ≤ 8 → zeroRunEnd g fuel j ≤ 8) ∧
    ∀ k, j ≤ k → k < zeroRunEnd g fuel j → g k = 0 := by
  intro fuel
  induction fuel with
  | zero => intro j; simp only [zeroRunEnd]; exact ⟨Nat.le_refl _, fun h => h, fun k h1 h2 => by omega⟩
  | succ fuel ih =>
    intro j
    unfold zeroRunEnd
    by_cases h : j < 8 ∧ g j = 0
    · simp only [h, and_self, if_true]
      obtain ⟨h1, h2, h3⟩ := ih (j + 1)
      refine ⟨by omega, fun _ => h2 (by omega), ?_⟩
      intro k hk1 hk2
      by_cases hkj : k = j
      · rw [hkj]; exact h.2
      · exact h3 k (by omega) hk2
    · simp only [h, if_false]
      exact ⟨Nat.le_refl _, fun h => h, fun k h1 h2 => by omega⟩

/-- what the round trip needs of `(zeroStart, zeroEnd)`: either no run was selected, or the
selected groups are all zero (that the run is the first longest one is irrelevant here) -/
def RunOK (g : Nat → Nat) (z : Nat × Nat) : Prop :=
  8 ≤ z.1 ∨ (z.1 < z.2 ∧ z.2 ≤ 8 ∧ ∀ k, z.1 ≤ k → k < z.2 → g k = 0)

theorem findZeroRun_ok (g : Nat → Nat) : ∀ fuel i z, RunOK g z → RunOK g (findZeroRun g fuel i z) := by
  intro fuel
  induction fuel with
  | zero => intro i z h; exact h
  | succ fuel ih =>
    intro i z h
    unfold findZeroRun
    by_cases hi : i < 8
    · simp only [hi, if_true]
      apply ih
      obtain ⟨h1, h2, h3⟩ := zeroRunEnd_spec g 8 i
      by_cases hl : zeroRunEnd g 8 i - i ≥ 2 ∧ zeroRunEnd g 8 i - i > z.2 - z.1
      · simp only [hl, and_self, if_true]
        exact Or.inr ⟨by omega, h2 (by omega), h3⟩
      · simp only [hl, if_false]; exact h
    · simp only [hi, if_false]; exact h

/-- `:x` for every group -/
def sepGroups (xs : List Nat) : Bytes := xs.flatMap (fun x => 58 :: hexStr x)

/-- groups joined by `':'` -/
def colonJoin : List Nat → Bytes
  | [] => []
  | x :: xs => hexStr x ++ sepGroups xs

theorem sepGroups_cons (x : Nat) (xs : List Nat) : sepGroups (x :: xs) = 58 :: (hexStr x ++ sepGroups xs) := by
  simp [sepGroups]

theorem sepGroups_cons' (x : Nat) (xs : List Nat) : sepGroups (x :: xs) = 58 :: colonJoin (x :: xs) := by
  simp [sepGroups, colonJoin]

theorem emit6_stop (g : Nat → Nat) (zs ze k i : Nat) (ret : Bytes) (h : 8 ≤ i) :
    emit6 g zs ze k i ret = ret := by
  cases k with
  | zero => rfl
  | succ k => unfold emit6; simp [show ¬ i < 8 by omega]

/-- `n` iterations that do not meet `zeroStart` write `n` groups: joined by colons when the
text starts here (`i = 0`), each behind a colon otherwise -/
theorem emit6_run (g : Nat → Nat) (zs ze : Nat) : ∀ n k i ret, (∀ j, i ≤ j → j < i + n → j ≠ zs) → i + n ≤ 8 →
    emit6 g zs ze (n + k) i ret =
      emit6 g zs ze k (i + n) (ret ++ (if i = 0 then colonJoin else sepGroups) ((List.range' i n).map g)) := by
  intro n
  induction n with
  | zero => intro k i ret _ _; by_cases h : i = 0 <;> simp [h, colonJoin, sepGroups]
  | succ n ih =>
    intro k i ret hz h8
    rw [show n + 1 + k = (n + k) + 1 by omega, emit6]
    have hi8 : i < 8 := by omega
    have hne : i ≠ zs := hz i (Nat.le_refl _) (by omega)
    simp only [hi8, hne, if_true, if_false, appendHex_eq]
    rw [ih k (i + 1) _ (fun j h1 h2 => hz j (by omega) (by omega)) (by omega), List.range'_succ, List.map_cons,
      show i + 1 + n = i + (n + 1) by omega]
    by_cases h0 : i = 0
    · simp [h0, colonJoin]
    · simp [h0, Nat.pos_of_ne_zero h0, sepGroups_cons]

theorem emit6_after (g : Nat → Nat) (zs ze k : Nat) (ret : Bytes) (hz : zs < 8) (hze : zs < ze) (h8 : ze ≤ 8)
    (hk : 8 - zs ≤ k + 1) :
    emit6 g zs ze (k + 1) zs ret = ret ++ [58, 58] ++ colonJoin ((List.range' ze (8 - ze)).map g) := by
  rw [emit6]
  simp only [hz, if_true, appendHex_eq]
  by_cases h : ze ≥ 8
  · have : 8 - ze = 0 := by omega
    simp [h, this, colonJoin]
  · simp only [h, if_false]
    obtain ⟨k', hk'⟩ : ∃ k', k = (7 - ze) + k' := ⟨k - (7 - ze), by omega⟩
    rw [hk', emit6_run g zs ze (7 - ze) k' (ze + 1) _ (fun j h1 _ => by omega) (by omega),
      emit6_stop _ _ _ _ _ _ (by omega)]
    rw [show 8 - ze = (7 - ze) + 1 by omega, List.range'_succ]
    simp [colonJoin]

/-- **closed form of the second loop of `appendTo6`** -/
theorem emit6_eq (g : Nat → Nat) (z : Nat × Nat) (ret : Bytes) (hz : RunOK g z) :
    emit6 g z.1 z.2 8 0 ret =
      if 8 ≤ z.1 then ret ++ colonJoin ((List.range' 0 8).map g)
      else ret ++ colonJoin ((List.range' 0 z.1).map g) ++ [58, 58] ++
        colonJoin ((List.range' z.2 (8 - z.2)).map g) := by
  obtain ⟨zs, ze⟩ := z
  simp only
  by_cases h8 : 8 ≤ zs
  · rw [if_pos h8, emit6_run g zs ze 8 0 0 ret (fun j _ _ => by omega) (by omega)]
    rfl
  · rw [if_neg h8]
    rcases hz with hz | ⟨h1, h2, _⟩
    · exact absurd hz h8
    · simp only at h1 h2
      have run := emit6_run g zs ze zs (7 - zs + 1) 0 ret (fun j _ _ => by omega) (by omega)
      rw [show zs + (7 - zs + 1) = 8 by omega, Nat.zero_add] at run
      rw [run, emit6_after g zs ze _ _ (by omega) h1 h2 (by omega)]
      rfl

end GolibsVerif.Netip
