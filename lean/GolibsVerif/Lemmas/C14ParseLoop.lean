/-
C14 — the loop of `time.ParseDuration`: every round consumes at least one byte, so the fuel
`len(s)` of `parseLoop` never runs out (`parseLoop_fuel`); stepping lemmas for the round
trip; the sign.
-/
import GolibsVerif.Model.C14Parse
import GolibsVerif.Lemmas.C14ParseGroup
import GolibsVerif.Lemmas.C14ParseLex

namespace GolibsVerif.C14

/-! ### every round consumes at least one byte -/

theorem parseGroup_length (s : Bytes) (v : Nat) (r : Bytes) (h : parseGroup s = some (v, r)) :
    r.length < s.length := (parseGroup_rest h).2

theorem parseLoop_fuel : ∀ (n : Nat) (s : Bytes) (d : Nat), s.length ≤ n →
    parseLoop n s d = parseLoop s.length s d := by
  intro n
  induction n using Nat.strongRecOn with
  | _ n ih =>
    intro s d hn
    cases s with
    | nil => cases n <;> rfl
    | cons c t =>
      cases n with
      | zero => simp at hn
      | succ n =>
        simp only [List.length_cons, parseLoop]
        cases hg : parseGroup (c :: t) with
        | none => rfl
        | some p =>
          obtain ⟨v, r⟩ := p
          have hr := parseGroup_length _ _ _ hg
          simp only [List.length_cons] at hr hn
          simp only []
          split
          · rfl
          · rw [ih n (by omega) r _ (by omega), ih t.length (by omega) r _ (by omega)]

/-- one more unit of fuel than `len(s)` gives the same result -/
theorem parseLoop_none_or_done (s : Bytes) (d : Nat) :
    parseLoop s.length s d = parseLoop (s.length + 1) s d :=
  (parseLoop_fuel (s.length + 1) s d (by omega)).symm

theorem parseLoop_nil (d : Nat) : parseLoop ([] : Bytes).length [] d = some d := rfl

theorem parseLoop_succ (n : Nat) (s : Bytes) (hs : s ≠ []) (d : Nat) :
    parseLoop (n + 1) s d = (parseGroup s).bind fun vr =>
      if (d + vr.1) % 18446744073709551616 > two63 then none
      else parseLoop n vr.2 ((d + vr.1) % 18446744073709551616) := by
  cases s with
  | nil => exact absurd rfl hs
  | cons c t =>
    simp only [parseLoop]
    cases parseGroup (c :: t) <;> rfl

/-- one round: the group parses to `v`, `d + v` passes the test `d > 1<<63` -/
theorem parseLoop_step (s rest : Bytes) (d v : Nat) (hg : parseGroup s = some (v, rest))
    (hsum : d + v ≤ two63) :
    parseLoop s.length s d = parseLoop rest.length rest (d + v) := by
  have hr := parseGroup_length _ _ _ hg
  cases s with
  | nil => simp [parseGroup] at hg
  | cons c t =>
    simp only [List.length_cons] at hr
    have hm : (d + v) % 18446744073709551616 = d + v :=
      Nat.mod_eq_of_lt (by unfold two63 at hsum; omega)
    have hc : ¬ (d + v > two63) := by omega
    simp only [List.length_cons, parseLoop, hg, hm, hc, if_false]
    exact parseLoop_fuel _ _ _ (by omega)

/-- a text `[-]t` whose loop ends with `|d|` parses to `d` -/
theorem parseDuration_of_loop (d : Int) (hd : inInt64 d) (t : Bytes) (ht : t ≠ [])
    (hl : parseLoop t.length t 0 = some d.natAbs) :
    parseDuration (signBytes d ++ t) = some d := by
  obtain ⟨c, t, rfl⟩ := List.exists_cons_of_ne_nil ht
  -- the loop got through its first round: `t` begins with `.` or a digit and is not `"0"`
  have hc : c = 46 ∨ (48 ≤ c ∧ c ≤ 57) := by
    apply Classical.byContradiction
    intro h0
    simp [parseLoop, parseGroup, h0] at hl
  have hne48 : c :: t ≠ [48] := by
    intro h
    have h48 : parseLoop [48].length [48] 0 = none := by decide
    rw [h, h48] at hl
    cases hl
  unfold inInt64 at hd
  unfold signBytes
  by_cases hneg : d < 0
  · simp only [hneg, if_true]
    show parseDuration (45 :: (c :: t)) = some d
    unfold parseDuration
    simp only [true_or, if_true, beq_self_eq_true]
    unfold parseAfterSign
    simp only [hne48, if_false, hl, reduceCtorEq, if_true, Option.some.injEq]
    unfold wrap64; omega
  · simp only [hneg, if_false, List.nil_append]
    have h45 : ¬ (c = 45 ∨ c = 43) := by omega
    have hle : ¬ (d.natAbs > two63 - 1) := by unfold two63; omega
    unfold parseDuration
    simp only [h45, if_false]
    unfold parseAfterSign
    simp only [hne48, if_false, hl, reduceCtorEq, Bool.false_eq_true, hle, Option.some.injEq]
    omega

end GolibsVerif.C14
