/-
C14 — lemmas about the `float64` operations of the model of `time.ParseDuration`
(`Model/C14Parse.lean`): an operation whose exact result is a natural number below 2^53
returns that number (it is representable, so rounding does nothing).  This is all the round
trip needs: `time.Duration.String` prints at most 9 fraction digits for a unit `10^p`,
`p ≤ 9`, so `float64(unit)/scale = 10^(p-k)` and `float64(f) * 10^(p-k) < 10^9` are exact.
-/
import GolibsVerif.Model.C14Parse

namespace GolibsVerif.C14

theorem roundHalfEven_exact (k d : Nat) (hd : 0 < d) : roundHalfEven (k * d) d = k := by
  unfold roundHalfEven
  simp only [Nat.mul_div_cancel k hd, Nat.mul_mod_left]
  rw [if_pos (by omega)]

/-- the `float64` `x` is the natural number `k` (in some representation `k·2^j / 2^j`) -/
def F64.IsNat (x : F64) (k : Nat) : Prop := ∃ j, x = ⟨k * 2 ^ j, 2 ^ j⟩

theorem F64.round_exact (k d : Nat) (hk : 0 < k) (hk' : k < 2 ^ 53) (hd : 0 < d) :
    F64.IsNat (F64.round (k * d) d) k := by
  unfold F64.round
  have hn : k * d ≠ 0 := Nat.mul_ne_zero (by omega) (by omega)
  have hle : d ≤ k * d := Nat.le_mul_of_pos_left d hk
  have hlg : Nat.log2 k ≤ 52 := by
    have := (Nat.log2_lt (n := k) (k := 53) (by omega)).2 hk'
    omega
  simp only [hn, if_false, hle, if_true, Nat.mul_div_cancel k hd, hlg]
  refine ⟨52 - Nat.log2 k, ?_⟩
  have e : k * d * 2 ^ (52 - Nat.log2 k) = (k * 2 ^ (52 - Nat.log2 k)) * d := by ac_rfl
  rw [e, roundHalfEven_exact _ _ hd]

theorem F64.ofNat_isNat (k : Nat) (hk : 0 < k) (hk' : k < 2 ^ 53) : F64.IsNat (F64.ofNat k) k := by
  have := F64.round_exact k 1 hk hk' (by omega)
  rwa [Nat.mul_one] at this

theorem F64.mul_isNat {x y : F64} {a b : Nat} (hx : F64.IsNat x a) (hy : F64.IsNat y b)
    (h0 : 0 < a * b) (h1 : a * b < 2 ^ 53) : F64.IsNat (F64.mul x y) (a * b) := by
  obtain ⟨i, rfl⟩ := hx
  obtain ⟨j, rfl⟩ := hy
  unfold F64.mul
  have e : a * 2 ^ i * (b * 2 ^ j) = (a * b) * (2 ^ i * 2 ^ j) := by ac_rfl
  show F64.IsNat (F64.round (a * 2 ^ i * (b * 2 ^ j)) (2 ^ i * 2 ^ j)) (a * b)
  rw [e]
  exact F64.round_exact _ _ h0 h1 (Nat.mul_pos (Nat.two_pow_pos i) (Nat.two_pow_pos j))

/-- `x = c·b`, `y = b`: `x / y = c` -/
theorem F64.div_isNat {x y : F64} {c b : Nat} (hx : F64.IsNat x (c * b)) (hy : F64.IsNat y b)
    (hb : 0 < b) (h0 : 0 < c) (h1 : c < 2 ^ 53) : F64.IsNat (F64.div x y) c := by
  obtain ⟨i, rfl⟩ := hx
  obtain ⟨j, rfl⟩ := hy
  unfold F64.div
  have e : c * b * 2 ^ i * 2 ^ j = c * (2 ^ i * (b * 2 ^ j)) := by ac_rfl
  show F64.IsNat (F64.round (c * b * 2 ^ i * 2 ^ j) (2 ^ i * (b * 2 ^ j))) c
  rw [e]
  exact F64.round_exact _ _ h0 h1
    (Nat.mul_pos (Nat.two_pow_pos i) (Nat.mul_pos hb (Nat.two_pow_pos j)))

theorem F64.trunc_isNat {x : F64} {k : Nat} (hx : F64.IsNat x k) : F64.trunc x = k := by
  obtain ⟨j, rfl⟩ := hx
  exact Nat.mul_div_cancel k (Nat.two_pow_pos j)

/-- The float expression of `ParseDuration` for a fraction of `k ≤ p` digits and the unit
`10^p`: `uint64(float64(f) * (float64(10^p) / scale)) = f · 10^(p-k)` when `scale` is `10^k`. -/
theorem F64.frac_exact (f k p : Nat) (scale : F64) (hs : F64.IsNat scale (10 ^ k))
    (hkp : k ≤ p) (hp : p ≤ 9) (hf0 : 0 < f) (hf : f < 10 ^ k) :
    F64.trunc (F64.mul (F64.ofNat f) (F64.div (F64.ofNat (10 ^ p)) scale)) = f * 10 ^ (p - k) := by
  have hpk : 10 ^ p = 10 ^ (p - k) * 10 ^ k := by rw [← Nat.pow_add]; congr 1; omega
  have b9 : (10 : Nat) ^ 9 < 2 ^ 53 := by decide
  have hp9 : (10 : Nat) ^ p ≤ 10 ^ 9 := Nat.pow_le_pow_right (by omega) hp
  have hpos : ∀ n : Nat, 0 < (10 : Nat) ^ n := fun n => Nat.pow_pos (by omega)
  have hk9 : (10 : Nat) ^ k ≤ 10 ^ p := Nat.pow_le_pow_right (by omega) hkp
  have hpk9 : (10 : Nat) ^ (p - k) ≤ 10 ^ p := Nat.pow_le_pow_right (by omega) (by omega)
  have h1 : F64.IsNat (F64.ofNat f) f := F64.ofNat_isNat f hf0 (by omega)
  have h2 : F64.IsNat (F64.ofNat (10 ^ p)) (10 ^ (p - k) * 10 ^ k) := by
    rw [← hpk]; exact F64.ofNat_isNat _ (hpos p) (by omega)
  have h3 := F64.div_isNat h2 hs (hpos k) (hpos (p - k)) (by omega)
  have hlt : f * 10 ^ (p - k) < 10 ^ p := by
    rw [hpk]; exact Nat.mul_lt_mul_of_pos_right hf (hpos _) |> fun h => by
      rw [Nat.mul_comm (10 ^ (p - k))]; exact h
  have h4 := F64.mul_isNat h1 h3 (Nat.mul_pos hf0 (hpos _)) (by omega)
  exact F64.trunc_isNat h4

/-- `scale *= 10` keeps `scale` an exact power of ten (up to `10^15`) -/
theorem F64.scale_step (scale : F64) (k : Nat) (hs : F64.IsNat scale (10 ^ k)) (hk : k < 15) :
    F64.IsNat (F64.mul scale F64.ten) (10 ^ (k + 1)) := by
  have hle : (10 : Nat) ^ (k + 1) ≤ 10 ^ 15 := Nat.pow_le_pow_right (by omega) (by omega)
  have b : (10 : Nat) ^ 15 < 2 ^ 53 := by decide
  have := F64.mul_isNat hs ⟨0, rfl⟩ (by rw [← Nat.pow_succ]; exact Nat.pow_pos (by omega))
    (by rw [← Nat.pow_succ]; omega)
  rwa [← Nat.pow_succ] at this

end GolibsVerif.C14
