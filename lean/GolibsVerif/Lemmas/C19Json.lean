/-
C19 — the executable model of `encoding/json`'s string encoder (`goJsonEncode`) satisfies
contract JSON-RT against the reference reader `parseLine`, for every byte string:
the output is one line, reads back as exactly two members, and the message read back is the
input with every ill-formed byte replaced by U+FFFD (so: the input itself when it is valid
UTF-8).
-/
import GolibsVerif.Spec.C19
import GolibsVerif.Lemmas.GoM

namespace GolibsVerif.C19

/-- The three shapes of what `appendString` writes for an ASCII byte: a two-character escape,
`\u00XX` for the other control bytes, the byte itself. -/
theorem escAscii_cases (b : Nat) :
    (∃ c, escAscii b = [92, c] ∧ c ≠ 117 ∧ simpleEsc c = some b) ∨
    (escAscii b = [92, 117, 48, 48, hexDigit (b / 16), hexDigit (b % 16)] ∧ b < 32) ∨
    (escAscii b = [b] ∧ b ≠ 34 ∧ b ≠ 92 ∧ ¬ b < 32) := by
  by_cases hs : b = 34 ∨ b = 92 ∨ b = 8 ∨ b = 12 ∨ b = 10 ∨ b = 13 ∨ b = 9
  · rcases hs with rfl | rfl | rfl | rfl | rfl | rfl | rfl <;>
      exact .inl ⟨_, rfl, by decide, by decide⟩
  · simp only [not_or] at hs
    obtain ⟨h1, h2, h3, h4, h5, h6, h7⟩ := hs
    have e : escAscii b =
        if b < 32 then [92, 117, 48, 48, hexDigit (b / 16), hexDigit (b % 16)] else [b] := by
      simp only [escAscii, h1, h2, h3, h4, h5, h6, h7, or_self, if_false]
    by_cases hlt : b < 32
    · exact .inr (.inl ⟨by rw [e, if_pos hlt], hlt⟩)
    · exact .inr (.inr ⟨by rw [e, if_neg hlt], h1, h2, hlt⟩)

theorem hexDigit_ge (n : Nat) : 48 ≤ hexDigit n := by
  unfold hexDigit
  split <;> omega

theorem escAscii_no_nl (b : Nat) : 10 ∉ escAscii b := by
  rcases escAscii_cases b with ⟨c, e, _, hc⟩ | ⟨e, _⟩ | ⟨e, _, _, h⟩ <;> rw [e]
  · have : c ≠ 10 := fun h => by rw [h] at hc; cases hc
    simp [this.symm]
  · have h1 := hexDigit_ge (b / 16)
    have h2 := hexDigit_ge (b % 16)
    simp only [List.mem_cons, List.not_mem_nil, or_false, not_or]
    omega
  · simp only [List.mem_singleton]
    omega

theorem isCont_ge {b : Nat} (h : isCont b = true) : 128 ≤ b := by
  simp only [isCont, Bool.and_eq_true, decide_eq_true_eq] at h
  exact h.1

theorem utf8SeqLen_cont (s : Bytes) : ∀ x ∈ s.tail.take (utf8SeqLen s - 1), 128 ≤ x := by
  fun_cases utf8SeqLen s
  case case1 b0 b1 rest _ h =>
    intro x hx
    simp only [List.tail_cons, Nat.add_one_sub_one, List.take_succ_cons, List.take_zero,
      List.mem_singleton] at hx
    exact hx ▸ isCont_ge h
  case case3 b0 b1 _ _ lo hi b2 tail h =>
    intro x hx
    have h1 : 128 ≤ b1 := Nat.le_trans (by simp only [lo]; split <;> omega) h.1
    simp at hx
    rcases hx with rfl | rfl
    · exact h1
    · exact isCont_ge h.2.2
  case case6 b0 b1 _ _ _ lo hi b2 b3 tail h =>
    intro x hx
    have h1 : 128 ≤ b1 := Nat.le_trans (by simp only [lo]; split <;> omega) h.1
    simp at hx
    rcases hx with rfl | rfl | rfl
    · exact h1
    · exact isCont_ge h.2.2.1
    · exact isCont_ge h.2.2.2
  -- the other branches return 0: nothing is taken
  all_goals nofun

/-! unfolding equations of `jsonBody` and `sanitize`, one per branch -/

theorem jsonBody_ascii (b : Nat) (rest : Bytes) (hb : b < 128) :
    jsonBody (b :: rest) = escAscii b ++ jsonBody rest := by
  rw [jsonBody.eq_2, if_pos hb]

theorem jsonBody_bad (b : Nat) (rest : Bytes) (hb : ¬ b < 128) (hn : utf8SeqLen (b :: rest) = 0) :
    jsonBody (b :: rest) = [92, 117, 102, 102, 102, 100] ++ jsonBody rest := by
  rw [jsonBody.eq_2, if_neg hb]; simp only [hn, if_true]

theorem jsonBody_2028 (b : Nat) (rest : Bytes) (hb : ¬ b < 128) (hn : ¬ utf8SeqLen (b :: rest) = 0)
    (h : b = 226 ∧ rest.take 2 = [128, 168]) :
    jsonBody (b :: rest) = [92, 117, 50, 48, 50, 56] ++ jsonBody (rest.drop 2) := by
  rw [jsonBody.eq_2, if_neg hb]; simp only [hn, if_false]; rw [if_pos h]

theorem jsonBody_2029 (b : Nat) (rest : Bytes) (hb : ¬ b < 128) (hn : ¬ utf8SeqLen (b :: rest) = 0)
    (h1 : ¬ (b = 226 ∧ rest.take 2 = [128, 168])) (h : b = 226 ∧ rest.take 2 = [128, 169]) :
    jsonBody (b :: rest) = [92, 117, 50, 48, 50, 57] ++ jsonBody (rest.drop 2) := by
  rw [jsonBody.eq_2, if_neg hb]; simp only [hn, if_false]; rw [if_neg h1, if_pos h]

theorem jsonBody_raw (b : Nat) (rest : Bytes) (hb : ¬ b < 128) (hn : ¬ utf8SeqLen (b :: rest) = 0)
    (h1 : ¬ (b = 226 ∧ rest.take 2 = [128, 168])) (h2 : ¬ (b = 226 ∧ rest.take 2 = [128, 169])) :
    jsonBody (b :: rest) = (b :: rest.take (utf8SeqLen (b :: rest) - 1)) ++
      jsonBody (rest.drop (utf8SeqLen (b :: rest) - 1)) := by
  rw [jsonBody.eq_2, if_neg hb]; simp only [hn, if_false]; rw [if_neg h1, if_neg h2]

theorem sanitize_ascii (b : Nat) (rest : Bytes) (hb : b < 128) :
    sanitize (b :: rest) = b :: sanitize rest := by
  rw [sanitize, if_pos hb]

theorem sanitize_bad (b : Nat) (rest : Bytes) (hb : ¬ b < 128) (hn : utf8SeqLen (b :: rest) = 0) :
    sanitize (b :: rest) = [0xEF, 0xBF, 0xBD] ++ sanitize rest := by
  rw [sanitize, if_neg hb]; simp only [hn, if_true]

theorem sanitize_raw (b : Nat) (rest : Bytes) (hb : ¬ b < 128) (hn : ¬ utf8SeqLen (b :: rest) = 0) :
    sanitize (b :: rest) = (b :: rest.take (utf8SeqLen (b :: rest) - 1)) ++
      sanitize (rest.drop (utf8SeqLen (b :: rest) - 1)) := by
  rw [sanitize, if_neg hb]; simp only [hn, if_false]

theorem jsonBody_no_nl (s : Bytes) : 10 ∉ jsonBody s := by
  induction s using jsonBody.induct with
  | case1 => simp [jsonBody]
  | case2 b rest hb ih =>
    rw [jsonBody_ascii b rest hb]; simp only [List.mem_append, not_or]
    exact ⟨escAscii_no_nl b, ih⟩
  | case3 b rest hb n hn ih =>
    rw [jsonBody_bad b rest hb hn]; simp only [List.mem_append, not_or]
    exact ⟨by decide, ih⟩
  | case4 b rest hb n hn h28 ih =>
    rw [jsonBody_2028 b rest hb hn h28]; simp only [List.mem_append, not_or]
    exact ⟨by decide, ih⟩
  | case5 b rest hb n hn h28 h29 ih =>
    rw [jsonBody_2029 b rest hb hn h28 h29]; simp only [List.mem_append, not_or]
    exact ⟨by decide, ih⟩
  | case6 b rest hb n hn h28 h29 ih =>
    rw [jsonBody_raw b rest hb hn h28 h29]; simp only [List.mem_append, not_or, List.mem_cons]
    refine ⟨⟨by omega, ?_⟩, ih⟩
    intro hx
    have := utf8SeqLen_cont (b :: rest) 10 hx
    omega

theorem jsonString_no_nl (s : Bytes) : 10 ∉ jsonString s := by
  simp only [jsonString, List.mem_append, List.mem_cons, List.not_mem_nil, or_false, not_or]
  exact ⟨⟨by decide, jsonBody_no_nl s⟩, by decide⟩

theorem goJsonEncode_oneLine (sev msg : Bytes) :
    ∃ body, goJsonEncode sev msg = body ++ [10] ∧ 10 ∉ body := by
  refine ⟨ascii "{\"severity\":" ++ jsonString sev ++ ascii ",\"message\":" ++ jsonString msg ++ ascii "}", ?_, ?_⟩
  · rw [goJsonEncode, List.append_assoc _ (ascii "}")]
    rfl
  · simp only [List.mem_append, not_or]
    refine ⟨⟨⟨⟨?_, jsonString_no_nl sev⟩, ?_⟩, jsonString_no_nl msg⟩, ?_⟩ <;>
      rw [ascii_ofList] <;> decide

theorem unq_raw (b : Nat) (t : Bytes) (h1 : b ≠ 34) (h2 : b ≠ 92) (h3 : ¬ b < 32) :
    unquoteBody (b :: t) = (unquoteBody t).map fun p => (b :: p.1, p.2) := by
  rw [unquoteBody.eq_def]; simp [h1, h2, h3]

theorem unq_raws (c t : Bytes) (h : ∀ x ∈ c, 128 ≤ x) :
    unquoteBody (c ++ t) = (unquoteBody t).map fun p => (c ++ p.1, p.2) := by
  induction c with
  | nil => simp
  | cons x c ih =>
    have hx : 128 ≤ x := h x (List.mem_cons_self ..)
    rw [List.cons_append, unq_raw x _ (by omega) (by omega) (by omega),
      ih (fun y hy => h y (List.mem_cons_of_mem _ hy))]
    simp [Option.map_map, Function.comp_def]

theorem unq_simple (c x : Nat) (t : Bytes) (hc : c ≠ 117) (hs : simpleEsc c = some x) :
    unquoteBody (92 :: c :: t) = (unquoteBody t).map fun p => (x :: p.1, p.2) := by
  rw [unquoteBody.eq_def]; simp [hc, hs]

theorem unq_u (h1 h2 h3 h4 x1 x2 x3 x4 : Nat) (t : Bytes)
    (e1 : hexVal h1 = some x1) (e2 : hexVal h2 = some x2) (e3 : hexVal h3 = some x3)
    (e4 : hexVal h4 = some x4) :
    unquoteBody (92 :: 117 :: h1 :: h2 :: h3 :: h4 :: t) =
      (unquoteBody t).map fun p => (utf8Enc (((x1 * 16 + x2) * 16 + x3) * 16 + x4) ++ p.1, p.2) := by
  rw [unquoteBody.eq_def]; simp [e1, e2, e3, e4]

theorem hexVal_hexDigit : ∀ n, n < 16 → hexVal (hexDigit n) = some n := by decide

theorem unq_escAscii (b : Nat) (t : Bytes) (hb : b < 128) :
    unquoteBody (escAscii b ++ t) = (unquoteBody t).map fun p => (b :: p.1, p.2) := by
  rcases escAscii_cases b with ⟨c, e, hc, hs⟩ | ⟨e, hlt⟩ | ⟨e, h1, h2, h3⟩ <;> rw [e]
  · exact unq_simple c b t hc hs
  · have e1 : hexVal 48 = some 0 := by decide
    have e3 := hexVal_hexDigit (b / 16) (by omega)
    have e4 := hexVal_hexDigit (b % 16) (by omega)
    have hv : ((0 * 16 + 0) * 16 + b / 16) * 16 + b % 16 = b := by omega
    have hu : utf8Enc b = [b] := if_pos hb
    exact (unq_u 48 48 _ _ 0 0 (b / 16) (b % 16) t e1 e1 e3 e4).trans (by rw [hv, hu]; rfl)
  · exact unq_raw b t h1 h2 h3

/-- U+2028 and U+2029 (`d` = 8, 9) are written `\u202d` and read back as their three bytes. -/
theorem unq_lineSep (d : Nat) (hd : d = 8 ∨ d = 9) (rest t : Bytes)
    (ht : rest.take 2 = [128, 160 + d])
    (ih : unquoteBody (jsonBody (rest.drop 2) ++ 34 :: t) = some (sanitize (rest.drop 2), t)) :
    unquoteBody (92 :: 117 :: 50 :: 48 :: 50 :: (48 + d) :: (jsonBody (rest.drop 2) ++ 34 :: t)) =
      some ((226 :: rest.take (utf8SeqLen (226 :: rest) - 1)) ++
        sanitize (rest.drop (utf8SeqLen (226 :: rest) - 1)), t) := by
  obtain ⟨hx, henc⟩ : hexVal (48 + d) = some d ∧
      utf8Enc (((2 * 16 + 0) * 16 + 2) * 16 + d) = [226, 128, 160 + d] := by
    rcases hd with rfl | rfl <;> decide
  have hrest : rest = 128 :: (160 + d) :: rest.drop 2 := by
    have := List.take_append_drop 2 rest
    rw [ht] at this
    exact this.symm
  have hlen : utf8SeqLen (226 :: rest) = 3 := by
    rw [hrest]
    rcases hd with rfl | rfl <;> simp [utf8SeqLen, isCont]
  rw [unq_u 50 48 50 (48 + d) 2 0 2 d _ (by decide) (by decide) (by decide) hx, ih, hlen, henc]
  simp only [Option.map_some, Nat.add_one_sub_one, ht]

/-- Reading back the encoder's string body yields the sanitized input. -/
theorem unq_jsonBody (s t : Bytes) :
    unquoteBody (jsonBody s ++ 34 :: t) = some (sanitize s, t) := by
  induction s using jsonBody.induct with
  | case1 => rw [unquoteBody.eq_def]; simp [jsonBody, sanitize]
  | case2 b rest hb ih =>
    rw [jsonBody_ascii b rest hb, sanitize_ascii b rest hb, List.append_assoc,
      unq_escAscii b _ hb, ih]; rfl
  | case3 b rest hb n hn ih =>
    rw [jsonBody_bad b rest hb hn, sanitize_bad b rest hb hn, List.append_assoc]
    simp only [List.cons_append, List.nil_append]
    rw [unq_u 102 102 102 100 15 15 15 13 _ (by decide) (by decide) (by decide) (by decide), ih]
    rfl
  | case4 b rest hb n hn h28 ih =>
    rw [jsonBody_2028 b rest hb hn h28, sanitize_raw b rest hb hn, List.append_assoc]
    obtain ⟨rfl, ht⟩ := h28
    exact unq_lineSep 8 (.inl rfl) rest t ht ih
  | case5 b rest hb n hn h28 h29 ih =>
    rw [jsonBody_2029 b rest hb hn h28 h29, sanitize_raw b rest hb hn, List.append_assoc]
    obtain ⟨rfl, ht⟩ := h29
    exact unq_lineSep 9 (.inr rfl) rest t ht ih
  | case6 b rest hb n hn h28 h29 ih =>
    rw [jsonBody_raw b rest hb hn h28 h29, sanitize_raw b rest hb hn, List.append_assoc]
    have hall : ∀ x ∈ b :: List.take (utf8SeqLen (b :: rest) - 1) rest, 128 ≤ x := by
      intro x hx
      rcases List.mem_cons.mp hx with hx | hx
      · omega
      · exact utf8SeqLen_cont (b :: rest) x hx
    rw [unq_raws _ _ hall, ih]
    rfl

theorem sanitize_valid (s : Bytes) (h : validUtf8 s = true) : sanitize s = s := by
  induction s using sanitize.induct with
  | case1 => simp [sanitize]
  | case2 b rest hb ih =>
    rw [validUtf8, if_pos hb] at h
    rw [sanitize_ascii b rest hb, ih h]
  | case3 b rest hb n hn ih =>
    have hn' : utf8SeqLen (b :: rest) = 0 := hn
    rw [validUtf8, if_neg hb] at h
    simp [hn'] at h
  | case4 b rest hb n hn ih =>
    have hn' : ¬ utf8SeqLen (b :: rest) = 0 := hn
    rw [validUtf8, if_neg hb] at h
    simp only [hn', ne_eq, not_false_eq_true, decide_true, Bool.true_and] at h
    rw [sanitize_raw b rest hb hn, ih h]
    show b :: (List.take (utf8SeqLen (b :: rest) - 1) rest ++
      List.drop (utf8SeqLen (b :: rest) - 1) rest) = b :: rest
    rw [List.take_append_drop]

theorem stripPrefix_append (p s : Bytes) : stripPrefix p (p ++ s) = some s := by
  induction p with
  | nil => simp [stripPrefix]
  | cons x p ih => simp [stripPrefix, ih]

theorem parseLine_goJsonEncode (sev msg : Bytes) :
    parseLine (goJsonEncode sev msg) = some (sanitize sev, sanitize msg) := by
  have h1 : ascii "{\"severity\":\"" = ascii "{\"severity\":" ++ [34] := by
    rw [ascii_ofList, ascii_ofList]; rfl
  have h2 : ascii ",\"message\":\"" = ascii ",\"message\":" ++ [34] := by
    rw [ascii_ofList, ascii_ofList]; rfl
  have e : goJsonEncode sev msg =
      ascii "{\"severity\":\"" ++ (jsonBody sev ++ 34 ::
        (ascii ",\"message\":\"" ++ (jsonBody msg ++ 34 :: ascii "}\n"))) := by
    simp only [goJsonEncode, jsonString, h1, h2, List.append_assoc, List.cons_append, List.nil_append]
  rw [e]
  unfold parseLine
  simp only [stripPrefix_append, unq_jsonBody, Option.bind_eq_bind, Option.bind_some, if_true]

/-- JSON-RT holds for the model of the encoder. -/
theorem goJson_contract : JsonContract goJsonEncode where
  oneLine := goJsonEncode_oneLine
  roundTrip := by
    intro sev msg h1 h2
    rw [parseLine_goJsonEncode, sanitize_valid sev h1, sanitize_valid msg h2]

end GolibsVerif.C19
