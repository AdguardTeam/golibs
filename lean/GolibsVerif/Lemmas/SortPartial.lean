/-
`partialInsertionSortCmpFunc` of `Go/Sort.lean`.

For an arbitrary comparator its left shifting loop (`for j := i - 1; j >= 1; j--`, bounded by the
literal 1, not by `a`) may move elements of `[0, a)`: it succeeds and permutes `[0, b)`.
For a strict weak order, if `data[a-1]` is a lower bound of `[a, b)` (the invariant `LB` of
pdqsort) the loop stops at `a`, only `[a, b)` is permuted, and the answer `true` means that
`[a, b)` is sorted.
-/
import GolibsVerif.Lemmas.SortInsertion

namespace GolibsVerif.Slices

variable {α : Type} {cmp : α → α → Int}

theorem SortedOn.frame_out {d d' : Array α} {a b lo hi : Int} (h : SortedOn cmp d a b)
    (hf : Frame d d' lo hi) (hd : b ≤ lo ∨ hi ≤ a) : SortedOn cmp d' a b :=
  fun p q hp hpq hq => (h p q hp hpq hq).congr (hf.out q (by omega)) (hf.out p (by omega))

theorem scanSorted_spec (cmp : α → α → Int) (a b : Int) (d : Array α) (i : Int)
    (ha : 0 ≤ a) (hai : a < i) (hib : i ≤ b) (hb : b ≤ d.size) :
    ∃ i', scanSorted cmp d i b = .ok i' ∧ i ≤ i' ∧ i' ≤ b ∧
      (WeakCmp cmp → SortedOn cmp d a i → SortedOn cmp d a i') := by
  fun_induction scanSorted cmp d i b with
  | case2 i hlt => exact ⟨i, rfl, Int.le_refl _, hib, fun _ h => h⟩
  | case1 i hlt ih =>
    obtain ⟨x, hx⟩ := at?_eq_some d i (by omega)
    obtain ⟨y, hy⟩ := at?_eq_some d (i - 1) (by omega)
    simp only [get_ok hx, get_ok hy, ok_bind]
    split
    · rename_i hc
      obtain ⟨i', h1, h2, h3, h5⟩ := ih (by omega) (by omega)
      refine ⟨i', h1, by omega, h3, fun hw hs => h5 hw ?_⟩
      have hinv : InsInv cmp d a i i := fun p q hp hpq hq hne => hs p q hp hpq (by omega)
      exact hinv.sorted hw (fun _ => NotLess.of_get hx hy (by simpa using hc)) ha (by omega)
    · exact ⟨i, rfl, Int.le_refl _, hib, fun _ h => h⟩

/-- the left shifting loop is the inner loop of `insertionSort` with the lower bound 0 -/
theorem shiftLeft_eq (cmp : α → α → Int) (d : Array α) (j : Int) :
    shiftLeft cmp d j = insertionInner cmp d 0 j := by
  fun_induction shiftLeft cmp d j with
  | case2 d j hj => rw [insertionInner, if_neg (by omega)]
  | case1 d j hj ih =>
    rw [insertionInner, if_pos (by omega)]
    refine bind_congr fun x => bind_congr fun y => ?_
    by_cases hc : cmp x y < 0
    · simp only [hc, decide_true, Bool.not_true, Bool.false_eq_true, if_false, if_true]
      exact bind_congr fun d1 => ih d1
    · simp only [hc, decide_false, Bool.not_false, if_true, if_false]

theorem shiftRight_spec (cmp : α → α → Int) (d : Array α) (lo j b : Int) (hlo : 0 ≤ lo) (hj : lo < j)
    (hb : b ≤ d.size) : ∃ d', shiftRight cmp d j b = .ok d' ∧ Frame d d' lo b := by
  fun_induction shiftRight cmp d j b with
  | case2 d j hlt => exact ⟨d, rfl, Frame.refl ..⟩
  | case1 d j hlt ih =>
    obtain ⟨x, hx⟩ := at?_eq_some d j (by omega)
    obtain ⟨y, hy⟩ := at?_eq_some d (j - 1) (by omega)
    simp only [get_ok hx, get_ok hy, ok_bind]
    split
    · exact ⟨d, rfl, Frame.refl ..⟩
    · obtain ⟨d1, hs, hf1, _⟩ := swap_frame d j (j - 1) lo b hlo hb (by omega) (by omega)
      obtain ⟨d2, h2, hf2⟩ := ih d1 (by omega) (hf1.size_le hb)
      exact ⟨d2, by rw [hs]; exact h2, hf1.trans hf2⟩

theorem partialInsertionLoop_spec (cmp : α → α → Int) (a b : Int) (d : Array α) (i j : Int)
    (ha : 0 ≤ a) (hai : a < i) (hib : i ≤ b) (hb : b ≤ d.size) :
    ∃ d' r, partialInsertionLoop cmp d a b i j = .ok (d', r) ∧ Frame d d' 0 b ∧
      (WeakCmp cmp → LB cmp d a b → SortedOn cmp d a i →
        Frame d d' a b ∧ (r = true → SortedOn cmp d' a b)) := by
  fun_induction partialInsertionLoop cmp d a b i j with
  | case2 d i j hlt =>
    exact ⟨d, false, rfl, Frame.refl .., fun _ _ _ => ⟨Frame.refl .., by intro h; cases h⟩⟩
  | case1 d i j hlt ih =>
    obtain ⟨i', h1, hi1, hi2, hi4⟩ := scanSorted_spec cmp a b d i ha hai hib hb
    simp only [h1, ok_bind]
    split
    · rename_i hib'
      subst hib'
      exact ⟨d, true, rfl, Frame.refl .., fun hw _ hs => ⟨Frame.refl .., fun _ => hi4 hw hs⟩⟩
    · rename_i hne
      split
      · exact ⟨d, false, rfl, Frame.refl .., fun _ _ _ => ⟨Frame.refl .., by intro h; cases h⟩⟩
      · have hi'b : i' < b := by omega
        obtain ⟨d1, hs1, hf1, hat1⟩ := swap_frame d i' (i' - 1) a b
          ha hb (by omega) (by omega)
        have hb1 := hf1.size_le hb
        have hL : ∃ d2, (if i' - a ≥ 2 then shiftLeft cmp d1 (i' - 1) else pure d1) = .ok d2 ∧
            Frame d1 d2 0 i' ∧
            (WeakCmp cmp → LB cmp d a b → SortedOn cmp d a i → Frame d1 d2 a i' ∧ SortedOn cmp d2 a i') := by
          have hinv1 : WeakCmp cmp → SortedOn cmp d a i → InsInv cmp d1 a (i' - 1) (i' - 1) :=
            fun hw hs p q hp hpq hq hne => (hi4 hw hs p q hp hpq (by omega)).congr
              (hat1.other q (by omega)) (hat1.other p (by omega))
          split
          · obtain ⟨d2, h2, hf2, hw2⟩ := insertionInner_spec cmp (i' - 1) d1 0 (i' - 1) (Int.le_refl _)
              (by omega) (Int.le_refl _) (by omega)
            rw [show i' - 1 + 1 = i' by omega] at hf2 hw2
            refine ⟨d2, (shiftLeft_eq cmp d1 _).trans h2, hf2, fun hw hlb hs => ?_⟩
            exact hw2 hw a ha (by omega) (fun _ => (hlb.frame hf1 ha).sub (by omega)) (hinv1 hw hs)
          · exact ⟨d1, rfl, Frame.refl .., fun _ _ _ => ⟨Frame.refl .., .short (by omega)⟩⟩
        obtain ⟨d2, h2, hf2, hw2⟩ := hL
        have hb2 := hf2.size_le hb1
        have hR : ∃ d3, (if b - i' ≥ 2 then shiftRight cmp d2 (i' + 1) b else pure d2) = .ok d3 ∧
            Frame d2 d3 i' b := by
          split
          · exact shiftRight_spec cmp d2 i' (i' + 1) b (by omega) (by omega) hb2
          · exact ⟨d2, rfl, Frame.refl ..⟩
        obtain ⟨d3, h3, hf3⟩ := hR
        have hb3 := hf3.size_le hb2
        obtain ⟨d4, r, h4, hf4, hw4⟩ := ih i' d3 (by omega) hi2 hb3
        simp only [hs1, h2, h3, h4, ok_bind]
        refine ⟨d4, r, rfl, ?_, ?_⟩
        · exact (hf1.mono ha (Int.le_refl _)).trans ((hf2.mono (Int.le_refl _) (by omega)).trans
            ((hf3.mono (by omega) (Int.le_refl _)).trans hf4))
        · intro hw hlb hs
          obtain ⟨hf2', hs2⟩ := hw2 hw hlb hs
          have hf13 : Frame d d3 a b :=
            hf1.trans ((hf2'.mono (Int.le_refl _) (by omega)).trans (hf3.mono (by omega) (Int.le_refl _)))
          obtain ⟨hf4', hs4⟩ := hw4 hw (hlb.frame hf13 ha) (hs2.frame_out hf3 (Or.inl (Int.le_refl _)))
          exact ⟨hf13.trans hf4', hs4⟩

theorem partialInsertionSort_spec (cmp : α → α → Int) (d : Array α) (a b : Int) (ha : 0 ≤ a) (hab : a < b)
    (hb : b ≤ d.size) :
    ∃ d' r, partialInsertionSort cmp d a b = .ok (d', r) ∧ Frame d d' 0 b ∧
      (WeakCmp cmp → LB cmp d a b → Frame d d' a b ∧ (r = true → SortedOn cmp d' a b)) := by
  obtain ⟨d', r, h1, hf, hw⟩ := partialInsertionLoop_spec cmp a b d (a + 1) 0 ha (by omega) (by omega) hb
  exact ⟨d', r, h1, hf, fun hw' hlb => hw hw' hlb (.short (Int.le_refl _))⟩

end GolibsVerif.Slices
