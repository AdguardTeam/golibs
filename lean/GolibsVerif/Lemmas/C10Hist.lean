/-
C10 — soundness of the certificate checker of `Model/C10Hist.lean`: a checked certificate is a
linearization in the sense of `Spec/C10.lean`.
-/
import GolibsVerif.Model.C10Hist
import GolibsVerif.Lemmas.C10

namespace GolibsVerif.C10
open GolibsVerif.C09

theorem nodup_aRemove {l : AReg} (k : Bytes) (hn : (l.map (·.1)).Nodup) :
    ((aRemove l k).map (·.1)).Nodup :=
  hn.sublist (List.Sublist.map _ List.filter_sublist)

theorem nodup_aRemove_append {l : AReg} (k v : Bytes) (hn : (l.map (·.1)).Nodup) :
    ((aRemove l k ++ [(k, v)]).map (·.1)).Nodup := by
  simp only [List.map_append, List.map_cons, List.map_nil]
  rw [List.nodup_append]
  refine ⟨nodup_aRemove k hn, by simp, ?_⟩
  intro a ha b hb
  simp only [List.mem_singleton] at hb; subst hb
  obtain ⟨x, hx, rfl⟩ := List.mem_map.1 ha
  simpa [aRemove] using (List.mem_filter.1 hx).2

theorem applyOp_sound {c : Conf} {m m' : AReg} {x : LinOp} {st : Bool}
    (hn : (m.map (·.1)).Nodup) (h : applyOp c m x st = some m') :
    (m'.map (·.1)).Nodup ∧ SeqStep c (regOf m) x.op x.res (regOf m') := by
  obtain ⟨id, op, res⟩ := x
  simp only [applyOp] at h
  split at h
  · next k v b =>
    split at h
    · split at h
      · next hb =>
        injection h with h; subst h
        refine ⟨nodup_aRemove_append k v hn, ?_⟩
        rw [regOf_put, hb]
        exact SeqStep.store _ _ _
      · cases h
    · split at h
      · next hb =>
        injection h with h; subst h; subst hb
        exact ⟨hn, SeqStep.refuse _ _ _⟩
      · cases h
  · next k r =>
    split at h
    · next hr =>
      injection h with h; subst h; subst hr
      exact ⟨hn, SeqStep.get _ _⟩
    · cases h
  · next k =>
    injection h with h; subst h
    refine ⟨nodup_aRemove k hn, ?_⟩
    rw [regOf_remove]; exact SeqStep.del _ _
  · injection h with h; subst h
    exact ⟨by simp, SeqStep.clear _⟩
  · next stt =>
    split at h
    · next hs =>
      injection h with h; subst h
      exact ⟨hn, SeqStep.stats _ m _ ⟨hn, mem_iff_aLookup hn⟩ hs.1 hs.2.1 hs.2.2.1 hs.2.2.2⟩
    · cases h
  · cases h

theorem runCert_sound {c : Conf} : ∀ (cert : List CertStep) {m m' : AReg},
    (m.map (·.1)).Nodup → runCert c m cert = some m' → Run c (regOf m) (linOf cert) (regOf m') := by
  intro cert
  induction cert with
  | nil => intro m m' _ h; simp only [runCert] at h; injection h with h; subst h; exact Run.nil _
  | cons st rest ih =>
    intro m m' hn h
    cases st with
    | drop k =>
      simp only [runCert] at h
      have := ih (nodup_aRemove k hn) h
      rw [regOf_remove] at this
      exact Run.drop k this
    | op x stored =>
      simp only [runCert] at h
      split at h
      · next m1 h1 =>
        obtain ⟨hn1, hstep⟩ := applyOp_sound hn h1
        exact Run.op hstep (ih hn1 h)
      · cases h

theorem beforeB_sound : ∀ {l : List Nat} {a b : Nat}, beforeB l a b = true → Before l a b := by
  intro l
  induction l with
  | nil => intro a b h; simp [beforeB] at h
  | cons x rest ih =>
    intro a b h
    simp only [beforeB] at h
    split at h
    · next hx =>
      subst hx
      have hb : b ∈ rest := by simpa using h
      obtain ⟨l2, l3, rfl⟩ := List.append_of_mem hb
      exact ⟨[], l2, l3, by simp⟩
    · obtain ⟨l1, l2, l3, rfl⟩ := ih h
      exact ⟨x :: l1, l2, l3, by simp⟩

theorem rtPairs_complete {h : History} {a b : Nat} (hr : RtBefore h a b) : (a, b) ∈ rtPairs h := by
  obtain ⟨h1, h2, h3, r, op, rfl⟩ := hr
  induction h1 with
  | nil =>
    simp only [List.nil_append, List.cons_append, rtPairs]
    apply List.mem_append_left
    rw [List.mem_filterMap]
    exact ⟨.inv b op, by simp, rfl⟩
  | cons e rest ih =>
    cases e with
    | inv id op' => simpa [rtPairs] using ih
    | ret id r' =>
      simp only [List.cons_append, rtPairs]
      exact List.mem_append_right _ (by simpa using ih)

theorem checkCert_sound {c : Conf} {h : History} {cert : List CertStep}
    (hc : checkCert c h cert = true) : Linearizable c h := by
  simp only [checkCert, Bool.and_eq_true, decide_eq_true_eq, List.all_eq_true] at hc
  obtain ⟨⟨⟨⟨hnd, hlin⟩, hret⟩, hrt⟩, hrun⟩ := hc
  refine ⟨linOf cert, hnd, ?_, ?_, ?_, ?_⟩
  · intro x hx
    obtain ⟨h1, h2⟩ := hlin x hx
    refine ⟨by simpa using h1, ?_⟩
    intro r hr
    have := h2 _ hr
    simpa [retOk] using this
  · intro id r hr
    have := hret _ hr
    simpa [retIn] using this
  · intro a b hab hb
    have := hrt _ (rtPairs_complete hab)
    simp only [Bool.or_eq_true, Bool.not_eq_true'] at this
    rcases this with h1 | h1
    · have : (List.map (fun x => x.id) (linOf cert)).contains b = true := by simpa using hb
      rw [this] at h1; cases h1
    · exact beforeB_sound h1
  · cases hm : runCert c [] cert with
    | none => rw [hm] at hrun; cases hrun
    | some m' =>
      have := runCert_sound cert (m := []) (by simp) hm
      have he : regOf [] = Reg.empty := rfl
      rw [he] at this
      exact ⟨regOf m', this⟩

theorem acceptHist_checks {c : Conf} {h : History} (ha : acceptHist c h = true) :
    ∃ cert, checkCert c h cert = true := by
  unfold acceptHist at ha
  simp only at ha
  split at ha
  · next cert _ => exact ⟨cert, ha⟩
  · cases ha

end GolibsVerif.C10
