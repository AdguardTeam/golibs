/-
C05, IPv6 family: nibble labels (`dotted`, `undot`, `V6Accepts`), the loops of
`ipv6NetFromReversed` and `ipv6FromReversed` (`ipv6NetLoop_spec`, `ipv6FromReversedLoop_spec`),
and `subnetFromReversedV6` against the reference decoder (`subnetV6_spec`; a prefix it returns
has `V6Shape`).
-/
import GolibsVerif.Lemmas.C05V4
import GolibsVerif.Lemmas.C04V6

namespace GolibsVerif.C05
open GolibsVerif.Netutil GolibsVerif.Str GolibsVerif.Netip GolibsVerif GolibsVerif.Gen.Consts
open GolibsVerif.C04 (NoUpper)

/-- a lower-case hexadecimal digit is the spelling of its value -/
theorem nibbleVal_of_hex (c : Nat) (h : fromHexByte c ≠ 255) (hu : ¬ (65 ≤ c ∧ c ≤ 90)) :
    nibbleVal [c] = some (fromHexByte c) := by
  obtain ⟨hlt, hc⟩ := C04.fromHexByte_inv c hu h
  exact (nibbleVal_iff _ _).2 ⟨hlt, by rw [← hc]⟩

theorem hex_ne_dot (c : Nat) (h : fromHexByte c ≠ 255) : c ≠ 46 := by
  intro e; subst e; simp [fromHexByte, hexVal] at h

/-- every byte followed by a dot -/
def dotted : List Nat → Bytes
  | [] => []
  | c :: fs => c :: 46 :: dotted fs

theorem length_dotted (fs : List Nat) : (dotted fs).length = 2 * fs.length := by
  induction fs with
  | nil => rfl
  | cons c fs ih => simp [dotted, ih]; omega

theorem frontOf_singles (fs : List Nat) : frontOf (fs.map fun c => [c]).reverse = dotted fs := by
  induction fs with
  | nil => rfl
  | cons c fs ih => simp [frontOf_append, frontOf, dotted, ih]

theorem mem_dotted (fs : List Nat) (c : Nat) (h : c ∈ fs) : c ∈ dotted fs := by
  induction fs with
  | nil => cases h
  | cons x fs ih =>
    simp only [List.mem_cons] at h
    rcases h with rfl | h
    · simp [dotted]
    · simp [dotted, ih h]

/-- the bytes of a string of hexadecimal digits each followed by a dot (what both IPv6 loops
read), `none` for any other string -/
def undot : Bytes → Option (List Nat)
  | c :: d :: rest => if d = 46 ∧ fromHexByte c ≠ 255 then (undot rest).map (c :: ·) else none
  | [] => some []
  | [_] => none

theorem undot_eq_some : ∀ (pre : Bytes) (fs : List Nat),
    undot pre = some fs ↔ pre = dotted fs ∧ ∀ c ∈ fs, fromHexByte c ≠ 255
  | [], fs => by cases fs <;> simp [undot, dotted]
  | [_], fs => by
    cases fs with
    | nil => simp [undot, dotted]
    | cons c fs => simp [undot, dotted]
  | c :: d :: rest, fs => by
    rw [undot]
    by_cases h : d = 46 ∧ fromHexByte c ≠ 255
    · rw [if_pos h]
      cases fs with
      | nil => simp [dotted]
      | cons x fs =>
        simp only [Option.map_eq_some_iff, List.cons.injEq, dotted, List.mem_cons, forall_eq_or_imp]
        constructor
        · rintro ⟨gs, hg, rfl, rfl⟩
          obtain ⟨h1, h2⟩ := (undot_eq_some rest gs).1 hg
          exact ⟨⟨rfl, h.1, h1⟩, h.2, h2⟩
        · rintro ⟨⟨rfl, _, h1⟩, _, h2⟩
          exact ⟨fs, (undot_eq_some rest fs).2 ⟨h1, h2⟩, rfl, rfl⟩
    · rw [if_neg h]
      cases fs with
      | nil => simp [dotted]
      | cons x fs =>
        simp only [dotted, List.cons.injEq, List.mem_cons, forall_eq_or_imp, false_iff, reduceCtorEq]
        rintro ⟨⟨rfl, rfl, _⟩, hc, _⟩
        exact h ⟨rfl, hc⟩

/-- `undot` read from the back -/
theorem undot_snoc (m : Nat) : ∀ (a : Bytes), a.length = 2 * m → ∀ c d,
    undot (a ++ [c, d]) =
      if d = 46 ∧ fromHexByte c ≠ 255 then (undot a).map (· ++ [c]) else none := by
  induction m with
  | zero =>
    intro a h c d
    have : a = [] := List.length_eq_zero_iff.1 (by omega)
    subst this
    simp [undot]
  | succ m ih =>
    intro a h c d
    match a, h with
    | x :: y :: a', h =>
      rw [List.cons_append, List.cons_append, undot, undot, ih a' (by simp at h; omega)]
      by_cases h1 : y = 46 ∧ fromHexByte x ≠ 255
      · by_cases h2 : d = 46 ∧ fromHexByte c ≠ 255
        · simp only [if_pos h1, if_pos h2, Option.map_map]; rfl
        · simp only [if_neg h2, Option.map_none, ite_self]
      · simp only [if_neg h1, Option.map_none, ite_self]

theorem undot_length (pre : Bytes) (fs : List Nat) (h : undot pre = some fs) :
    pre.length = 2 * fs.length := by
  rw [((undot_eq_some pre fs).1 h).1, length_dotted]

/-- what the byte strings before `"ip6.arpa"` are that the reference decoder accepts, and what
it reads off them -/
def V6Accepts (pre : Bytes) (p : Prefix) : Prop :=
  ∃ fs : List Nat, undot pre = some fs ∧ fs.length ≤ 32 ∧ p = v6Prefix (fs.reverse.map fromHexByte)

theorem V6Accepts.length {pre : Bytes} {p : Prefix} (h : V6Accepts pre p) :
    pre.length % 2 = 0 ∧ pre.length ≤ 64 := by
  obtain ⟨fs, hfs, hl, _⟩ := h
  rw [undot_length pre fs hfs]; omega

theorem ipv6NetLoop_spec (m : Nat) : ∀ (q t : Bytes) (fuel : Nat) (nibs : List Nat),
    q.length = 2 * m → m + 1 ≤ fuel → nibs.length + m ≤ 32 →
    ∃ r, ipv6NetLoop (q.reverse ++ t) fuel ((q.length : Int) - 2) nibs = .ok r ∧
      okVal r = (undot q.reverse).map fun fs => nibs ++ fs.reverse.map fromHexByte := by
  induction m with
  | zero =>
    intro q t fuel nibs hq hf _
    obtain ⟨f, rfl⟩ : ∃ f, fuel = f + 1 := ⟨fuel - 1, by omega⟩
    have : q = [] := List.length_eq_zero_iff.1 (by omega)
    subst this
    exact ⟨.ok nibs, by simp [ipv6NetLoop, pure, Except.pure], by simp [okVal, undot]⟩
  | succ m ih =>
    intro q t fuel nibs hq hf hn
    obtain ⟨f, rfl⟩ : ∃ f, fuel = f + 1 := ⟨fuel - 1, by omega⟩
    match q, hq with
    | d :: c :: rest, hq =>
      have hrl : rest.length = 2 * m := by simp at hq; omega
      have h0 : ¬ (((d :: c :: rest).length : Int) - 2 < 0) := by simp; omega
      have harpa : (d :: c :: rest).reverse = rest.reverse ++ [c, d] := by simp
      have hd1 : GoM.idx (rest.reverse ++ [c, d] ++ t) (((d :: c :: rest).length : Int) - 2 + 1) = .ok d := by
        have e1 : rest.reverse ++ [c, d] ++ t = (rest.reverse ++ [c]) ++ d :: t := by simp
        rw [e1, idx_app (rest.reverse ++ [c]) t d _ (by simp; omega)]
      have hc0 : GoM.idx (rest.reverse ++ [c, d] ++ t) (((d :: c :: rest).length : Int) - 2) = .ok c := by
        have e1 : rest.reverse ++ [c, d] ++ t = rest.reverse ++ c :: (d :: t) := by simp
        rw [e1, idx_app rest.reverse (d :: t) c _ (by simp; omega)]
      unfold ipv6NetLoop
      rw [if_neg h0, harpa, hd1, GoM.ok_bind, hc0, undot_snoc m _ (by simpa using hrl)]
      by_cases hd : d = 46
      · subst hd
        rw [if_neg (by simp), GoM.ok_bind]
        by_cases hc : fromHexByte c = 255
        · exact ⟨_, if_pos hc, by rw [if_neg (fun h => h.2 hc)]; rfl⟩
        · have hov : ¬ (nibs.length / 2 ≥ 16) := by omega
          obtain ⟨r, hr1, hr2⟩ := ih rest (c :: 46 :: t) f (nibs ++ [fromHexByte c]) hrl (by omega)
            (by simp; omega)
          have e2 : ((46 :: c :: rest).length : Int) - 2 - 2 = (rest.length : Int) - 2 := by
            simp; omega
          have e3 : rest.reverse ++ [c, 46] ++ t = rest.reverse ++ c :: 46 :: t := by simp
          rw [if_neg hc, if_neg hov, e2, e3, hr1]
          refine ⟨r, rfl, ?_⟩
          rw [hr2, if_pos ⟨rfl, hc⟩, Option.map_map]
          congr 1; funext fs; simp
      · exact ⟨_, if_pos hd, by rw [if_neg (fun h => hd h.1)]; rfl⟩

theorem nib_snoc2 (n : Nat) : ∀ (xs : List Nat), xs.length = 2 * n → ∀ a b,
    nibblesToBytes (xs ++ [a, b]) = nibblesToBytes xs ++ [a * 16 + b] := by
  induction n with
  | zero =>
    intro xs h a b
    have : xs = [] := List.length_eq_zero_iff.1 (by omega)
    subst this; simp [nibblesToBytes]
  | succ n ih =>
    intro xs h a b
    match xs, h with
    | x :: y :: xs', h =>
      simp only [List.cons_append, nibblesToBytes]
      rw [ih xs' (by simp at h; omega)]

theorem nib_length : ∀ (ns : List Nat), (nibblesToBytes ns).length = (ns.length + 1) / 2
  | [] => rfl
  | [_] => by simp [nibblesToBytes]
  | _ :: _ :: rest => by
    simp only [nibblesToBytes, List.length_cons, nib_length rest]; omega

theorem nib_getD : ∀ (ns : List Nat) (i : Nat),
    (nibblesToBytes ns).getD i 0 = 16 * ns.getD (2 * i) 0 + ns.getD (2 * i + 1) 0
  | [], i => by simp [nibblesToBytes]
  | [hi], i => by
    cases i with
    | zero => simp [nibblesToBytes]; omega
    | succ i => simp [nibblesToBytes]
  | hi :: lo :: rest, i => by
    cases i with
    | zero => simp [nibblesToBytes]; omega
    | succ i =>
      have := nib_getD rest i
      simp only [nibblesToBytes, List.getD_cons_succ, this]
      have e1 : 2 * (i + 1) = (2 * i + 1) + 1 := by omega
      rw [e1]
      simp only [List.getD_cons_succ]

theorem v6_model_prefix (ns : List Nat) (h : ns.length ≤ 32) :
    ({ addr := .v6 (pad 16 (nibblesToBytes ns)) [], bits := ns.length * 4 } : Prefix) = v6Prefix ns := by
  unfold v6Prefix
  have h1 : pad 16 (nibblesToBytes ns) =
      (List.range 16).map fun i => 16 * ns.getD (2 * i) 0 + ns.getD (2 * i + 1) 0 := by
    rw [pad_eq_range 16 _ (by rw [nib_length]; omega)]
    apply List.map_congr_left
    intro i _
    exact nib_getD ns i
  have h2 : ns.length * 4 = 4 * ns.length := by omega
  rw [h1, h2]

theorem pad_self (n : Nat) (l : List Nat) (h : l.length = n) : pad n l = l := by
  simp [pad, h]

theorem ipv6FromReversedLoop_spec (n : Nat) : ∀ (done pre t : Bytes) (i : Nat) (ip : List Nat),
    done.length = 4 * i → pre.length = 4 * n →
    ∃ r, ipv6FromReversedLoop (done ++ (pre ++ t)) n i ip = .ok r ∧
      okVal r = (undot pre).map fun fs => nibblesToBytes (fs.reverse.map fromHexByte) ++ ip := by
  induction n with
  | zero =>
    intro done pre t i ip _ hp
    have : pre = [] := List.length_eq_zero_iff.1 (by omega)
    subst this
    exact ⟨.ok ip, by simp [ipv6FromReversedLoop, pure, Except.pure], by simp [okVal, undot, nibblesToBytes]⟩
  | succ n ih =>
    intro done pre t i ip hd hp
    match pre, hp with
    | c0 :: d0 :: c1 :: d1 :: pre', hp =>
      rw [C04.loop_step _ n i ip c0 d0 c1 d1 (pre' ++ t) (by rw [← hd, List.drop_left]; rfl), undot, undot]
      by_cases hc : fromHexByte c0 ≠ 255 ∧ fromHexByte c1 ≠ 255 ∧ d0 = 46 ∧ d1 = 46
      · rw [(C04.group_ok_iff c0 d0 c1 d1 _).2 ⟨hc.1, hc.2.1, hc.2.2.1, hc.2.2.2, rfl⟩]
        obtain ⟨r, hr1, hr2⟩ := ih (done ++ [c0, d0, c1, d1]) pre' t (i + 1)
          ((fromHexByte c1 * 16 + fromHexByte c0) :: ip) (by simp; omega) (by simp at hp; omega)
        rw [List.append_assoc] at hr1
        refine ⟨r, hr1, ?_⟩
        rw [hr2, if_pos ⟨hc.2.2.1, hc.1⟩, if_pos ⟨hc.2.2.2, hc.2.1⟩]
        cases hu : undot pre' with
        | none => rfl
        | some fs =>
          have hfl : (fs.reverse.map fromHexByte).length = 2 * n := by
            have := undot_length pre' fs hu; simp at hp ⊢; omega
          have : (c0 :: c1 :: fs).reverse.map fromHexByte =
              fs.reverse.map fromHexByte ++ [fromHexByte c1, fromHexByte c0] := by simp
          simp only [Option.map_some, this, nib_snoc2 n _ hfl]
          simp
      · cases hg : C04.group c0 d0 c1 d1 with
        | ok b =>
          obtain ⟨h0, h1, hd0, hd1, _⟩ := (C04.group_ok_iff c0 d0 c1 d1 b).1 hg
          exact absurd ⟨h0, h1, hd0, hd1⟩ hc
        | error e =>
          refine ⟨_, rfl, ?_⟩
          by_cases hA : d0 = 46 ∧ fromHexByte c0 ≠ 255
          · rw [if_pos hA, if_neg (fun hB => hc ⟨hA.2, hB.2, hA.1, hB.1⟩)]; rfl
          · rw [if_neg hA]; rfl
theorem tmod_lemma (x : Nat) : (((x : Int) - 2).tmod 2 ≠ 0) ↔ x % 2 = 1 := by
  match x with
  | 0 => decide
  | 1 => decide
  | x + 2 =>
    rw [Int.tmod_eq_emod_of_nonneg (by omega)]
    omega

theorem dotfree_singles (gs : List Nat) (hx : ∀ c ∈ gs, fromHexByte c ≠ 255) :
    ∀ x ∈ gs.map (fun c => [c]), DotFree x := by
  intro x hx'
  simp only [List.mem_map] at hx'
  obtain ⟨c, hc, rfl⟩ := hx'
  have := hex_ne_dot c (hx c hc)
  simp [DotFree]; omega

theorem spec_v6 (R : List Bytes) (l : Bytes) (hR : ∀ x ∈ R, DotFree x) (hl : DotFree l) :
    arpaPrefixSpec (splitOn 46 (frontOf R ++ l ++ v6tail)) =
      if l = [] then famSpec nibbleVal 32 v6Prefix R else none := by
  unfold v6tail
  rw [spec_of_rev _ _ _ (labels_tail R l lblIp6 hR hl dotfree_ip6)]
  simp only [List.append_left_eq_self, show l ++ lblIp6 ≠ lblInAddr from fun h => inaddr_ne_ip6 [] l h.symm,
    if_false]

theorem spec_v6_iff (pre : Bytes) (hu : NoUpper pre) (p : Prefix) :
    arpaPrefixSpec (splitOn 46 (pre ++ v6tail)) = some p ↔ V6Accepts pre p := by
  unfold V6Accepts
  simp only [undot_eq_some]
  constructor
  · intro h
    obtain ⟨l, R, hl, hR, rfl, _⟩ := exists_frontOf pre
    rw [spec_v6 R l hR hl] at h
    split at h
    · rename_i hl0
      subst hl0
      obtain ⟨vs, hn, hB, rfl, rfl⟩ := (famSpec_eq_some nibbleVal_iff 32 v6Prefix R p).1 h
      have hval : ∀ v ∈ vs, fromHexByte (C04.hexChar v) = v := fun v hv => (C04.hexChar_table v (hB v hv)).2.1
      refine ⟨(vs.map C04.hexChar).reverse, ⟨?_, ?_⟩, by simpa using hn, ?_⟩
      · rw [List.append_nil, ← frontOf_singles, List.map_reverse, List.reverse_reverse, List.map_map]; rfl
      · intro c hc
        obtain ⟨v, hv, rfl⟩ := List.mem_map.1 (List.mem_reverse.1 hc)
        rw [hval v hv]; have := hB v hv; omega
      · rw [List.reverse_reverse, List.map_map, List.map_congr_left (f := fromHexByte ∘ C04.hexChar) (g := id) hval, List.map_id]
    · cases h
  · rintro ⟨fs, ⟨rfl, hx⟩, hlen, hp⟩
    have hinv : ∀ c ∈ fs.reverse, fromHexByte c < 16 ∧ c = C04.hexChar (fromHexByte c) := fun c hc =>
      C04.fromHexByte_inv c (hu c (mem_dotted fs c (List.mem_reverse.1 hc))) (hx c (List.mem_reverse.1 hc))
    have hspec := spec_v6 (fs.reverse.map fun c => [c]) [] (dotfree_singles fs.reverse (by simpa using hx))
      (by simp [DotFree])
    rw [show frontOf (fs.reverse.map fun c => [c]) = dotted fs by rw [← frontOf_singles fs]; simp,
      List.append_nil] at hspec
    rw [hspec, if_pos rfl, famSpec_eq_some nibbleVal_iff]
    refine ⟨fs.reverse.map fromHexByte, by simpa using hlen, ?_, ?_, hp⟩
    · intro v hv
      obtain ⟨c, hc, rfl⟩ := List.mem_map.1 hv
      exact (hinv c hc).1
    · rw [List.map_map]
      exact List.map_congr_left fun c hc => by rw [Function.comp, ← (hinv c hc).2]

theorem v6tail_length : v6tail.length = 8 := rfl

/-- a loop result that is `g` of the digits of `pre`, packed by `mk`, is accepted exactly when the
reference decoder accepts `pre` -/
theorem v6Accepts_of_okVal {α : Type} (pre : Bytes) (r : Except Err α) (g : List Nat → α)
    (mk : α → Prefix) (hr : okVal r = (undot pre).map g)
    (hmk : ∀ fs, undot pre = some fs →
      fs.length ≤ 32 ∧ mk (g fs) = v6Prefix (fs.reverse.map fromHexByte)) (p : Prefix) :
    r.map mk = .ok p ↔ V6Accepts pre p := by
  cases hu : undot pre with
  | none =>
    rw [hu] at hr
    cases r with
    | ok a => cases hr
    | error e => exact ⟨fun h => (nomatch h), fun ⟨fs, hfs, _⟩ => by rw [hu] at hfs; cases hfs⟩
  | some fs =>
    rw [hu] at hr
    obtain ⟨hl, hpf⟩ := hmk fs hu
    cases r with
    | error e => cases hr
    | ok a =>
      simp only [okVal, Option.map_some, Option.some.injEq] at hr
      subst hr
      constructor
      · intro h; cases h; exact ⟨fs, hu, hl, hpf⟩
      · rintro ⟨fs', hfs', _, rfl⟩
        rw [hu] at hfs'; cases hfs'
        exact congrArg Except.ok hpf

/-- the fixed-length walk of `ipv6FromReversed` on a 72-byte name -/
theorem ipv6FromReversed_model (pre : Bytes) (h64 : pre.length = 64) :
    ∃ r, ipv6FromReversed (pre ++ v6tail) = .ok r ∧
      ∀ p, mapAddr (fun a => { addr := a, bits := 128 }) r = .ok p ↔ V6Accepts pre p := by
  obtain ⟨r, hr1, hr2⟩ := ipv6FromReversedLoop_spec 16 [] pre v6tail 0 [] rfl h64
  unfold ipv6FromReversed
  rw [List.nil_append] at hr1
  rw [hr1, GoM.ok_bind]
  refine ⟨r.map fun ip => .v6 ip [], by cases r <;> rfl, fun p => ?_⟩
  have := v6Accepts_of_okVal pre r _ (fun ip => { addr := .v6 ip [], bits := 128 }) hr2
    (fun fs hu => by
      have hnl : (fs.reverse.map fromHexByte).length = 32 := by
        have := undot_length pre fs hu; simp; omega
      refine ⟨by simp at hnl; omega, ?_⟩
      rw [List.append_nil, ← v6_model_prefix _ (by omega), hnl,
        pad_self 16 _ (by rw [nib_length, hnl])]) p
  cases r <;> exact this

/-- the nibble loop of `ipv6NetFromReversed` on a name shorter than 72 bytes -/
theorem ipv6NetFromReversed_model (pre : Bytes) (hlt : pre.length < 64) :
    ∃ r, ipv6NetFromReversed (pre ++ v6tail) = .ok r ∧ ∀ p, r = .ok p ↔ V6Accepts pre p := by
  unfold ipv6NetFromReversed
  have hidx : (((pre ++ v6tail).length : Int) - (arpaV6Suffix.length : Int) + 1 - 2) = (pre.length : Int) - 2 := by
    simp [v6tail_length, arpaV6Suffix]; omega
  rw [hidx]
  by_cases hodd : pre.length % 2 = 1
  · rw [if_pos ((tmod_lemma pre.length).2 hodd)]
    exact ⟨_, rfl, fun p => ⟨fun h => (nomatch h), fun h => by have := h.length; omega⟩⟩
  · rw [if_neg fun h => hodd ((tmod_lemma pre.length).1 h)]
    obtain ⟨r, hr1, hr2⟩ := ipv6NetLoop_spec (pre.length / 2) pre.reverse v6tail
      ((pre ++ v6tail).length + 1) [] (by simp; omega) (by simp; omega) (by simp; omega)
    rw [List.reverse_reverse, List.length_reverse] at hr1
    rw [List.reverse_reverse] at hr2
    rw [hr1, GoM.ok_bind]
    refine ⟨r.map fun nibs => { addr := .v6 (pad 16 (nibblesToBytes nibs)) [], bits := nibs.length * 4 },
      by cases r <;> rfl, v6Accepts_of_okVal pre r _ _ hr2 fun fs hu => ?_⟩
    have hfl : fs.length ≤ 32 := by have := undot_length pre fs hu; omega
    exact ⟨hfl, by rw [List.nil_append]; exact v6_model_prefix _ (by simpa using hfl)⟩

theorem subnetV6_model (pre : Bytes) :
    ∃ r, subnetFromReversedV6 (pre ++ v6tail) = .ok r ∧ ∀ p, r = .ok p ↔ V6Accepts pre p := by
  unfold subnetFromReversedV6
  have hlen : (pre ++ v6tail).length = pre.length + 8 := by simp [v6tail_length]
  by_cases h64 : pre.length = 64
  · obtain ⟨r, hr, hiff⟩ := ipv6FromReversed_model pre h64
    rw [if_pos (by rw [hlen, h64]; rfl), hr, GoM.ok_bind]
    exact ⟨_, rfl, hiff⟩
  · rw [if_neg (by rw [hlen]; show ¬ pre.length + 8 = 72; omega)]
    by_cases hgt : pre.length > 64
    · rw [if_pos (by rw [hlen]; show pre.length + 8 > 72; omega)]
      exact ⟨_, rfl, fun p => ⟨fun h => (nomatch h), fun h => by have := h.length; omega⟩⟩
    · rw [if_neg (by rw [hlen]; show ¬ pre.length + 8 > 72; omega)]
      exact ipv6NetFromReversed_model pre (by omega)

/-- shape of an accepted IPv6 prefix -/
def V6Shape (p : Prefix) : Prop :=
  ∃ ns : List Nat, ns.length ≤ 32 ∧ (∀ v ∈ ns, v < 16) ∧ p = v6Prefix ns

theorem subnetV6_spec (pre : Bytes) (hu : NoUpper pre) :
    ∃ r, subnetFromReversedV6 (pre ++ v6tail) = .ok r ∧
      okVal r = arpaPrefixSpec (splitOn 46 (pre ++ v6tail)) ∧ (∀ p, r = .ok p → V6Shape p) := by
  obtain ⟨r, hr, hiff⟩ := subnetV6_model pre
  refine ⟨r, hr, Option.ext fun p => ?_, fun p hp => ?_⟩
  · rw [spec_v6_iff pre hu p, ← hiff p]
    cases r <;> simp [okVal]
  · obtain ⟨fs, hfs, hl, rfl⟩ := (hiff p).1 hp
    refine ⟨_, by simpa using hl, ?_, rfl⟩
    intro v hv
    simp only [List.mem_map, List.mem_reverse] at hv
    obtain ⟨c, hc, rfl⟩ := hv
    obtain ⟨hpre, hx⟩ := (undot_eq_some pre fs).1 hfs
    exact (C04.fromHexByte_inv c (hu c (hpre ▸ mem_dotted fs c hc)) (hx c hc)).1

end GolibsVerif.C05
