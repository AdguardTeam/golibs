/-
C19 — the heap model of handlers/records refines the heap-free reference semantics
(`Spec/C19.lean`), for every growth policy.
-/
import GolibsVerif.Spec.C19
import GolibsVerif.Lemmas.GoM

namespace GolibsVerif.C19

theorem render_eq_specLine (text : Int → Nat → List Attr → Bytes) (encode : Bytes → Bytes → Bytes)
    (hp : Heap) (r : Record) :
    render text encode hp r = specLine text encode r.level r.rid (r.attrs hp) := rfl

theorem specLine_of_line {text : Int → Nat → List Attr → Bytes} {lvl : Int} {rid : Nat}
    {as : List Attr} {msg : Bytes} (h : text lvl rid as = msg ++ [10])
    (encode : Bytes → Bytes → Bytes) :
    specLine text encode lvl rid as = .ok (encode (severity lvl) msg) := by
  simp only [specLine, h]
  have hcut : GoM.sliceTo (msg ++ [10]) ((msg ++ [10]).length - 1) = .ok msg :=
    GoM.sliceTo_length_sub msg [10]
  rw [hcut]
  rfl

theorem handle_eq_specLine (pol : Policy) (text : Int → Nat → List Attr → Bytes)
    (encode : Bytes → Bytes → Bytes) (hp : Heap) (h : Handler) (r : Record) (hr : r.wf hp) :
    ∃ ext, h.handle pol text encode hp r =
      (specLine text encode r.level r.rid (r.attrs hp ++ keep (view hp h.attrs))).map
        fun out => (hp ++ ext, out) := by
  obtain ⟨ext, h1, hl, hrid, hf, hb⟩ := addAttrs_clone pol hp r (view hp h.attrs) hr.back
  refine ⟨ext, ?_⟩
  unfold Handler.handle
  simp only [render_eq_specLine]
  generalize r.clone.addAttrs pol hp (view hp h.attrs) = a at h1 hl hrid hf hb
  have hattrs : a.2.attrs a.1 = r.attrs hp ++ keep (view hp h.attrs) := by
    unfold Record.attrs
    rw [h1, hb, hf]
    rcases hr.full with h0 | hfull
    · have hv : view hp r.back = [] := by simp [view, h0]
      rw [hv, List.nil_append, List.append_nil, fillFront_concat]
    · rw [fillFront_full _ _ hfull, List.append_assoc]
  rw [hattrs, hl, hrid, h1]
  cases specLine text encode r.level r.rid (r.attrs hp ++ keep (view hp h.attrs)) <;> rfl

theorem Record.wf_ext {hp : Heap} {r : Record} (h : r.wf hp) (ext : Heap) : r.wf (hp ++ ext) :=
  ⟨Slice.wf_ext h.back ext, h.full⟩

theorem Record.attrs_ext {hp : Heap} {r : Record} (h : r.wf hp) (ext : Heap) :
    r.attrs (hp ++ ext) = r.attrs hp := by
  rw [Record.attrs, view_ext h.back, Record.attrs]

/-- The abstract tree a world represents: what each handler reads now. -/
def World.abs (w : World) : SpecWorld :=
  { paths := w.handlers.map fun h => view w.heap h.attrs, lvar := w.lvar }

/-- What a script preserves in a world grown from a root that stores the `slog.Leveler` `lvl0`
over the heap `hp0` of the records: arrays are only added (so the records read as in `hp0`),
every handler still stores `lvl0`, and its slice is meaningful. -/
structure Grown (lvl0 : Leveler) (hp0 : Heap) (w : World) : Prop where
  ext : ∃ e, w.heap = hp0 ++ e
  node : ∀ h ∈ w.handlers, h.level = lvl0 ∧ h.attrs.wf w.heap

variable {lvl0 : Leveler} {hp0 : Heap} {w : World}

/-- New arrays and new handlers: the old handlers read what they read. -/
theorem Grown.grow (hg : Grown lvl0 hp0 w) (ext : Heap) (hs : List Handler)
    (hn : ∀ h ∈ hs, h.level = lvl0 ∧ h.attrs.wf (w.heap ++ ext)) :
    Grown lvl0 hp0 { w with heap := w.heap ++ ext, handlers := w.handlers ++ hs } ∧
    World.abs { w with heap := w.heap ++ ext, handlers := w.handlers ++ hs } =
      { w.abs with paths := w.abs.paths ++ hs.map fun h => view (w.heap ++ ext) h.attrs } := by
  obtain ⟨e, he⟩ := hg.ext
  refine ⟨⟨⟨e ++ ext, by simp [he]⟩, fun h hm => ?_⟩, ?_⟩
  · rcases List.mem_append.mp hm with hm | hm
    · exact ⟨(hg.node h hm).1, Slice.wf_ext (hg.node h hm).2 ext⟩
    · exact hn h hm
  · simp only [World.abs, List.map_append]
    rw [List.map_congr_left fun h hm => view_ext (hg.node h hm).2 ext]

variable {pol : Policy} {text : Int → Nat → List Attr → Bytes} {encode : Bytes → Bytes → Bytes}
  {recs : List Record}

/-- A step of the reference semantics on the abstraction is the abstraction of the model's step
(both are undefined together), and the world stays `Grown`. -/
theorem step_abs (hrecs : ∀ r ∈ recs, r.wf hp0) (hg : Grown lvl0 hp0 w) (op : Op) :
    match w.step pol text encode recs op with
    | none => specStep text encode lvl0 (recs.map (Record.info hp0)) w.abs op = none
    | some (w', o) => specStep text encode lvl0 (recs.map (Record.info hp0)) w.abs op = some (w'.abs, o) ∧
        Grown lvl0 hp0 w' := by
  obtain ⟨e0, he0⟩ := hg.ext
  have hl : ∀ n, w.abs.paths[n]? = (w.handlers[n]?).map fun (h : Handler) => view w.heap h.attrs :=
    fun n => List.getElem?_map
  cases op with
  | withAttrs p as =>
    simp only [World.step, specStep, hl]
    cases hh : w.handlers[p]? with
    | none => rfl
    | some h =>
      have ⟨hlv, hwf⟩ := hg.node h (List.mem_of_getElem? hh)
      obtain ⟨ext, a1, a2, a3⟩ := append_clip pol w.heap h.attrs as hwf
      have hgr := hg.grow ext [(h.withAttrs pol w.heap as).2] (List.forall_mem_singleton.mpr ⟨hlv, a2⟩)
      simp only [Handler.withAttrs, a1, List.map_cons, List.map_nil, a3] at hgr
      simp only [Handler.withAttrs, a1, Option.map_some, Option.bind_eq_bind, Option.bind_some, Option.pure_def,
        hgr.2, true_and]
      exact hgr.1
  | handle n ri =>
    simp only [World.step, specStep, hl, List.getElem?_map]
    cases hh : w.handlers[n]? with
    | none => rfl
    | some h =>
      cases hr : recs[ri]? with
      | none => rfl
      | some r =>
        have hrw : r.wf hp0 := hrecs r (List.mem_of_getElem? hr)
        obtain ⟨ext, hs⟩ := handle_eq_specLine pol text encode w.heap h r (he0 ▸ Record.wf_ext hrw e0)
        have hinfo : r.attrs w.heap = r.attrs hp0 := he0 ▸ Record.attrs_ext hrw e0
        have hgr := hg.grow ext [] nofun
        simp only [List.append_nil, List.map_nil] at hgr
        simp only [Option.map_some, Option.bind_eq_bind, Option.bind_some, Option.pure_def, hs,
          hinfo, Record.info]
        cases specLine text encode r.level r.rid (r.attrs hp0 ++ keep (view w.heap h.attrs)) with
        | error p => exact ⟨rfl, hg⟩
        | ok out => exact ⟨congrArg some (Prod.ext hgr.2.symm rfl), hgr.1⟩
  | enabled n l =>
    simp only [World.step, specStep, hl]
    cases hh : w.handlers[n]? with
    | none => rfl
    | some h =>
      simp only [Option.map_some, Option.bind_eq_bind, Option.bind_some, Option.pure_def,
        Handler.enabled, (hg.node h (List.mem_of_getElem? hh)).1]
      exact ⟨rfl, hg⟩
  | setLevel l =>
    exact ⟨rfl, hg.ext, hg.node⟩

theorem run_abs (hrecs : ∀ r ∈ recs, r.wf hp0) (ops : List Op) (hg : Grown lvl0 hp0 w) :
    match World.run pol text encode recs w ops with
    | none => specRun text encode lvl0 (recs.map (Record.info hp0)) w.abs ops = none
    | some (w', outs) =>
      specRun text encode lvl0 (recs.map (Record.info hp0)) w.abs ops = some (w'.abs, outs) ∧
        Grown lvl0 hp0 w' := by
  induction ops generalizing w with
  | nil => exact ⟨rfl, hg⟩
  | cons op ops ih =>
    have h1 := step_abs (pol := pol) (text := text) (encode := encode) hrecs hg op
    simp only [World.run, specRun]
    cases hs : w.step pol text encode recs op with
    | none => rw [hs] at h1; rw [h1]; rfl
    | some p1 =>
      rw [hs] at h1
      have h2 := ih h1.2
      rw [h1.1]
      cases hr : World.run pol text encode recs p1.1 ops with
      | none => rw [hr] at h2; simp only [Option.bind_eq_bind, Option.bind_some, hr, h2]; rfl
      | some p2 =>
        rw [hr] at h2; simp only [Option.bind_eq_bind, Option.bind_some, hr, h2.1]; exact ⟨rfl, h2.2⟩

theorem run_cons {op : Op} {ops : List Op} {w w' : World} {outs : List Out}
    (h : World.run pol text encode recs w (op :: ops) = some (w', outs)) :
    ∃ w1 o os, w.step pol text encode recs op = some (w1, o) ∧
      World.run pol text encode recs w1 ops = some (w', os) ∧ outs = o :: os := by
  unfold World.run at h
  cases h1 : w.step pol text encode recs op with
  | none => simp [h1] at h
  | some pr =>
    obtain ⟨w1, o⟩ := pr
    cases h3 : World.run pol text encode recs w1 ops with
    | none => simp [h1, h3] at h
    | some pr2 =>
      obtain ⟨w2, os⟩ := pr2
      simp only [h1, h3, Option.bind_eq_bind, Option.bind_some, Option.pure_def, Option.some.injEq,
        Prod.mk.injEq] at h
      obtain ⟨rfl, rfl⟩ := h
      exact ⟨w1, o, os, rfl, h3, rfl⟩

theorem step_lvar {op : Op} {w w1 : World} {o : Out}
    (h : w.step pol text encode recs op = some (w1, o)) (ops : List Op) :
    lastLevel w.lvar (op :: ops) = lastLevel w1.lvar ops := by
  cases op with
  | withAttrs p as =>
    cases hh : w.handlers[p]? with
    | none => simp [World.step, hh] at h
    | some hd =>
      simp only [World.step, hh, Option.bind_eq_bind, Option.bind_some, Option.pure_def, Option.some.injEq,
        Prod.mk.injEq] at h
      rw [← h.1]; rfl
  | handle n ri =>
    cases hh : w.handlers[n]? with
    | none => simp [World.step, hh] at h
    | some hd =>
      cases hr : recs[ri]? with
      | none => simp [World.step, hh, hr] at h
      | some r =>
        simp only [World.step, hh, hr, Option.bind_eq_bind, Option.bind_some] at h
        split at h <;> cases h <;> rfl
  | enabled n l =>
    cases hh : w.handlers[n]? with
    | none => simp [World.step, hh] at h
    | some hd =>
      simp only [World.step, hh, Option.bind_eq_bind, Option.bind_some, Option.pure_def, Option.some.injEq,
        Prod.mk.injEq] at h
      rw [← h.1]; rfl
  | setLevel l =>
    cases h
    rfl

/-- The world's `*slog.LevelVar` holds what the script last stored into it; no other operation
(`WithAttrs`, `Handle`, `Enabled`) changes it. -/
theorem run_lvar {ops : List Op} {w w' : World} {outs : List Out}
    (h : World.run pol text encode recs w ops = some (w', outs)) :
    w'.lvar = lastLevel w.lvar ops := by
  induction ops generalizing w outs with
  | nil =>
    cases h
    rfl
  | cons op ops ih =>
    obtain ⟨w1, o, os, h1, h3, _⟩ := run_cons h
    rw [ih h3, step_lvar h1]

theorem run_snoc (op' : Op) {ops : List Op} {w w' : World} {outs : List Out}
    (h : World.run pol text encode recs w ops = some (w', outs)) :
    World.run pol text encode recs w (ops ++ [op']) =
      (w'.step pol text encode recs op').map fun p => (p.1, outs ++ [p.2]) := by
  induction ops generalizing w outs with
  | nil =>
    cases h
    simp only [List.nil_append, World.run]
    cases w'.step pol text encode recs op' <;> rfl
  | cons op ops ih =>
    obtain ⟨w1, o, os, h1, h3, rfl⟩ := run_cons h
    simp only [List.cons_append, World.run, h1, ih h3, Option.bind_eq_bind, Option.bind_some]
    cases w'.step pol text encode recs op' <;> rfl

/-- a world with one handler without attributes that *stores* the leveler `lvl0` (the
constructor `newHandlerDyn`), at a moment when the `*slog.LevelVar` holds `lv0` -/
def rootWorldDyn (hp0 : Heap) (lvl0 : Leveler) (lv0 : Int) : World :=
  { heap := hp0, handlers := [newHandlerDyn lvl0], lvar := lv0 }

/-- the root world of the code: `NewJSONHybridHandler` with the leveler `lvl0` in the options,
called when the `*slog.LevelVar` holds `lv0` -/
def rootWorld (hp0 : Heap) (lvl0 : Leveler) (lv0 : Int) : World :=
  { heap := hp0, handlers := [newHandler lvl0 lv0], lvar := lv0 }

/-- the code's root stores the constant its leveler reported at construction -/
theorem rootWorld_eq (hp0 : Heap) (lvl0 : Leveler) (lv0 : Int) :
    rootWorld hp0 lvl0 lv0 = rootWorldDyn hp0 (.const (lvl0.get lv0)) lv0 := rfl

/-- the abstract root: one node without attributes -/
def rootSpec (lv0 : Int) : SpecWorld := { paths := [[]], lvar := lv0 }

/-- From a root that stores `lvl0`: the reference run is the abstraction of the model's run (so
the outputs are the same, and each handler reads its path), and every handler of the world
reached stores `lvl0`.  The form in which the theorems use the simulation. -/
theorem root_abs (pol : Policy) (text : Int → Nat → List Attr → Bytes) (encode : Bytes → Bytes → Bytes)
    (lvl0 : Leveler) (lv0 : Int) (hrecs : ∀ r ∈ recs, r.wf hp0) (ops : List Op) :
    match World.run pol text encode recs (rootWorldDyn hp0 lvl0 lv0) ops with
    | none => specRun text encode lvl0 (recs.map (Record.info hp0)) (rootSpec lv0) ops = none
    | some (w', outs) =>
      specRun text encode lvl0 (recs.map (Record.info hp0)) (rootSpec lv0) ops = some (w'.abs, outs) ∧
        Grown lvl0 hp0 w' :=
  run_abs (w := rootWorldDyn hp0 lvl0 lv0) hrecs ops
    ⟨⟨[], (List.append_nil _).symm⟩, fun _ hm => List.mem_singleton.mp hm ▸ ⟨rfl, Slice.wf_nil _⟩⟩

end GolibsVerif.C19
