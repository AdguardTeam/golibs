/-
C05: every prefix the reference decoder can produce has all host bits zero (`Masked`):
`masked_v4Prefix`, `masked_v6Prefix`, and for both shapes `masked_of_shape`.
-/
import GolibsVerif.Lemmas.C05Top

namespace GolibsVerif.C05
open GolibsVerif.Netutil GolibsVerif.Str GolibsVerif.Netip GolibsVerif

theorem getD_range_map (n : Nat) (f : Nat → Nat) (i : Nat) :
    ((List.range n).map f).getD i 0 = if i < n then f i else 0 := by
  by_cases h : i < n
  · simp [List.getD_eq_getElem?_getD, h]
  · simp [List.getD_eq_getElem?_getD, h]

theorem getD_le_of_all (l : List Nat) (k i : Nat) (h : ∀ v ∈ l, v ≤ k) : l.getD i 0 ≤ k := by
  rw [List.getD_eq_getElem?_getD]
  cases hi : l[i]? with
  | none => simp
  | some v => simpa using h v (List.mem_of_getElem? hi)

theorem getD_zero_of_ge (l : List Nat) (i : Nat) (h : l.length ≤ i) : l.getD i 0 = 0 := by
  simp [List.getD_eq_getElem?_getD, List.getElem?_eq_none h]

theorem masked_v4Prefix (os : List Nat) (hl : os.length ≤ 4) (hv : ∀ v ∈ os, v ≤ 255) :
    Masked (v4Prefix os) := by
  refine ⟨Or.inl ⟨_, rfl, by simp, by simp [v4Prefix]; omega, by simp [v4Prefix]⟩, ?_, ?_⟩
  · intro x hx
    simp only [v4Prefix, addrBytes, List.mem_map] at hx
    obtain ⟨i, _, rfl⟩ := hx
    have := getD_le_of_all os 255 i hv
    omega
  · intro j hj
    simp only [v4Prefix, addrBytes, bitAt, getD_range_map] at hj ⊢
    split
    · rw [getD_zero_of_ge os (j / 8) (by omega)]; simp
    · simp

/-- the low four bits of a byte whose low nibble is zero -/
theorem low_bits_zero (hi k : Nat) (hk : k ≤ 3) : 16 * hi / 2 ^ k % 2 = 0 := by
  have h16 : 16 = 2 ^ k * (2 * 2 ^ (3 - k)) := by
    rw [← Nat.pow_succ', ← Nat.pow_add, show k + (3 - k + 1) = 4 by omega]
  rw [h16, Nat.mul_assoc, Nat.mul_div_cancel_left _ (Nat.pow_pos (by omega)), Nat.mul_assoc,
    Nat.mul_mod_right]

theorem masked_v6Prefix (ns : List Nat) (hl : ns.length ≤ 32) (hv : ∀ v ∈ ns, v < 16) :
    Masked (v6Prefix ns) := by
  refine ⟨Or.inr ⟨_, rfl, by simp, by simp [v6Prefix]; omega, by simp [v6Prefix]⟩, ?_, ?_⟩
  · intro x hx
    simp only [v6Prefix, addrBytes, List.mem_map] at hx
    obtain ⟨i, _, rfl⟩ := hx
    have h1 := getD_le_of_all ns 15 (2 * i) (fun v h => by have := hv v h; omega)
    have h2 := getD_le_of_all ns 15 (2 * i + 1) (fun v h => by have := hv v h; omega)
    omega
  · intro j hj
    simp only [v6Prefix, addrBytes, bitAt, getD_range_map] at hj ⊢
    split
    · rw [getD_zero_of_ge ns (2 * (j / 8) + 1) (by omega)]
      by_cases hge : ns.length ≤ 2 * (j / 8)
      · rw [getD_zero_of_ge ns _ hge]; simp
      · -- odd number of nibbles, the bit is in the low nibble of the last byte
        exact low_bits_zero _ _ (by omega)
    · simp

theorem masked_of_shape (p : Prefix) (h : V4Shape p ∨ V6Shape p) : Masked p := by
  rcases h with ⟨os, h1, h2, rfl⟩ | ⟨ns, h1, h2, rfl⟩
  · exact masked_v4Prefix os h1 h2
  · exact masked_v6Prefix ns h1 h2

end GolibsVerif.C05
