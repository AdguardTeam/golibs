/-
C08 — lemmas for the scanner theorems: `ScanLines` against `scanLines`, one `Read` against
`outcome`, the read loop, one `Scan`, the `for s.Scan()` loop.
-/
import GolibsVerif.Spec.C08Scan

namespace GolibsVerif.C08
open GolibsVerif GolibsVerif.Bufio

theorem dropCR_eq (l : Bytes) : Bufio.dropCR l = C08.dropCR l := by
  unfold Bufio.dropCR C08.dropCR
  rw [List.getLast?_eq_getElem?, List.dropLast_eq_take]
  by_cases hl : l.length > 0
  · cases h : l[l.length - 1]? with
    | none => simp
    | some b =>
      by_cases hb : b = 13
      · subst hb; simp [hl]
      · simp [hb]
  · have : l = [] := by
      cases l with
      | nil => rfl
      | cons _ _ => simp at hl
    subst this
    simp

theorem scanLinesAux_append (l : Bytes) (hl : 10 ∉ l) (rest cur : Bytes) :
    scanLinesAux (l ++ rest) cur = scanLinesAux rest (l.reverse ++ cur) := by
  induction l generalizing cur with
  | nil => rfl
  | cons b t ih =>
    have hb : b ≠ 10 := fun h => hl (by simp [h])
    simp only [List.cons_append, scanLinesAux, hb, if_false]
    rw [ih (fun h => hl (by simp [h]))]
    simp

theorem scanLines_cons_line (l r : Bytes) (hl : 10 ∉ l) :
    scanLines (l ++ 10 :: r) = C08.dropCR l :: scanLines r := by
  unfold scanLines
  rw [scanLinesAux_append l hl]
  simp [scanLinesAux]

theorem scanLines_tail (l : Bytes) (hl : 10 ∉ l) :
    scanLines l = if l = [] then [] else [C08.dropCR l] := by
  have := scanLinesAux_append l hl [] []
  rw [List.append_nil] at this
  unfold scanLines
  rw [this]
  simp [scanLinesAux]

theorem scanLines_index_some (d R : Bytes) (i : Nat) (h : indexByte d 10 = some i) :
    scanLines (d ++ R) = Bufio.dropCR (d.take i) :: scanLines (d.drop (i + 1) ++ R) := by
  obtain ⟨_, h1, h2⟩ := indexByte_some d 10 i h
  conv => lhs; rw [h1]
  rw [List.append_assoc, List.cons_append, scanLines_cons_line _ _ h2, dropCR_eq]

theorem LinesShort.suffix {s t : Bytes} {lim : Nat} (h : LinesShort s lim) (hst : t <:+ s) : LinesShort t lim :=
  fun l hl h10 => h l (List.IsInfix.trans hl hst.isInfix) h10

theorem infix_split {l a r : Bytes} {c : Nat} (h : l <:+: a ++ c :: r) (hc : c ∉ l) : l <:+: a ∨ l <:+: r := by
  obtain ⟨p, q, hpq⟩ := h
  rw [List.append_assoc, List.append_eq_append_iff] at hpq
  rcases hpq with ⟨a', rfl, h2⟩ | ⟨c', rfl, h2⟩
  · -- `p ++ a' = a`, `l ++ q = a' ++ c :: r`   (here `a = p ++ a'`)
    rw [List.append_eq_append_iff] at h2
    rcases h2 with ⟨x, rfl, _⟩ | ⟨y, rfl, h3⟩
    · exact Or.inl ⟨p, x, by simp⟩
    · cases y with
      | nil => exact Or.inl ⟨p, [], by simp⟩
      | cons y0 y' =>
        simp only [List.cons_append, List.cons.injEq] at h3
        exact absurd (by simp [← h3.1]) hc
  · cases c' with
    | nil =>
      simp only [List.nil_append] at h2
      cases l with
      | nil => exact Or.inl ⟨[], a, by simp⟩
      | cons l0 l' =>
        simp only [List.cons_append, List.cons.injEq] at h2
        exact absurd (by simp [h2.1]) hc
    | cons c0 c'' =>
      simp only [List.cons_append, List.cons.injEq] at h2
      exact Or.inr ⟨c'', q, by rw [h2.2, List.append_assoc]⟩

theorem LinesShort.prefix_len {d R : Bytes} {lim : Nat} (h : LinesShort (d ++ R) lim) (h10 : 10 ∉ d) :
    d.length < lim :=
  h d (List.prefix_append d R).isInfix h10

/-- after `k` consecutive empty reads the reader will still deliver exactly the bytes `p`, and
then end the input with `e` -/
def Pending (r : Reader) (k : Nat) (p : Bytes) (e : Err) : Prop :=
  ∃ m, outcome k r.script = (m, e) ∧ m ≤ r.rest.length ∧ r.rest.take m = p

/-- one `Read` with `room > 0`, along the branches of the read loop: it ends the input, or
delivers bytes, or is one empty read too many, or is the next empty read -/
theorem read_spec (r : Reader) (room k : Nat) (p : Bytes) (e : Err) (hroom : room ≠ 0)
    (h : Pending r k p e) :
    match (r.read room).2.1 with
    | some e' => e' = e ∧ (r.read room).1 = p
    | none =>
      if (r.read room).1.length > 0 then
        ∃ p', Pending (r.read room).2.2 0 p' e ∧ (r.read room).1 ++ p' = p
      else if k + 1 > maxConsecutiveEmptyReads then p = [] ∧ e = .noProgress
      else Pending (r.read room).2.2 (k + 1) p e := by
  obtain ⟨rest, script⟩ := r
  obtain ⟨m, hout, hm, rfl⟩ := h
  have hm : m ≤ rest.length := hm
  cases script with
  | nil =>
    rw [Reader.read_nil rest hroom]
    cases hout
    exact ⟨rfl, rfl⟩
  | cons hd tl =>
    obtain ⟨n, x⟩ := hd
    rw [Reader.read_cons rest n x tl hroom]
    -- a read of `j ≠ 0` bytes that leaves a script with outcome `(m', e)`, where `j + m' = m`
    have deliver : ∀ (j m' : Nat) (sc : Script), j ≠ 0 → j + m' = m → outcome 0 sc = (m', e) →
        if (rest.take j).length > 0 then
          ∃ p', Pending ⟨rest.drop j, sc⟩ 0 p' e ∧ rest.take j ++ p' = rest.take m
        else if k + 1 > maxConsecutiveEmptyReads then rest.take m = [] ∧ e = .noProgress
        else Pending ⟨rest.drop j, sc⟩ (k + 1) (rest.take m) e := by
      intro j m' sc hj hjm hsc
      rw [if_pos (by rw [List.length_take]; omega)]
      refine ⟨_, ⟨m', hsc, by rw [List.length_drop]; omega, rfl⟩, ?_⟩
      rw [← hjm, List.take_add]
    by_cases hn : n ≤ room
    · rw [if_pos hn]
      cases x with
      | some e' => cases hout; exact ⟨rfl, rfl⟩
      | none =>
        by_cases h0 : n = 0
        · subst h0
          simp only [outcome, if_true] at hout
          simp only [List.take_zero, List.length_nil, Nat.lt_irrefl, if_false, List.drop_zero]
          by_cases hk : maxConsecutiveEmptyReads ≤ k
          · rw [if_pos hk] at hout; cases hout
            rw [if_pos (by omega)]; exact ⟨rfl, rfl⟩
          · rw [if_neg hk] at hout
            rw [if_neg (by omega)]; exact ⟨m, hout, hm, rfl⟩
        · simp only [outcome, h0, if_false] at hout
          cases hout
          exact deliver n _ tl h0 (Nat.add_comm _ _) rfl
    · rw [if_neg hn]
      cases x with
      | some e' =>
        cases hout
        exact deliver room (m - room) _ hroom (by omega) rfl
      | none =>
        have h0 : n ≠ 0 := by omega
        simp only [outcome, h0, if_false] at hout
        cases hout
        refine deliver room ((outcome 0 tl).1 + (n - room)) _ hroom (by omega) ?_
        simp only [outcome, show n - room ≠ 0 by omega, if_false]

theorem fill_spec (s : Scanner) (k : Nat) (p : Bytes) (e : Err)
    (herr : s.err = none) (hp : Pending s.rd k p e) (hroom : s.end_ < s.bufLen) :
    ∃ b r, s.end_ + b.length ≤ s.bufLen ∧
      ((∃ p', Pending r 0 p' e ∧ b ++ p' = p ∧ fill s k = { s with rd := r, data := s.data ++ b, empties := 0 }) ∨
       (b = p ∧ fill s k = { s with rd := r, data := s.data ++ b, err := some e })) := by
  fun_induction fill s k with
  | case1 s loop res hbad =>
    have : res.1.length ≤ _ := (Reader.read_size s.rd (s.bufLen - s.end_)).1
    omega
  | case2 s loop res hbad s' e' he' =>
    have hsp := read_spec s.rd (s.bufLen - s.end_) loop p e (by omega) hp
    rw [show (s.rd.read (s.bufLen - s.end_)).2.1 = some e' from he'] at hsp
    obtain ⟨rfl, hb⟩ := hsp
    exact ⟨res.1, res.2.2, by omega, Or.inr ⟨hb, Scanner.setErr_of_none (show s'.err = none from herr) _⟩⟩
  | case3 s loop res hbad s' he' hpos =>
    have hsp := read_spec s.rd (s.bufLen - s.end_) loop p e (by omega) hp
    rw [show (s.rd.read (s.bufLen - s.end_)).2.1 = none from he'] at hsp
    simp only [show (s.rd.read (s.bufLen - s.end_)).1.length > 0 from hpos, if_true] at hsp
    obtain ⟨p', h1, h2⟩ := hsp
    exact ⟨res.1, res.2.2, by omega, Or.inl ⟨p', h1, h2, rfl⟩⟩
  | case4 s loop res hbad s' he' hpos hloop =>
    have hsp := read_spec s.rd (s.bufLen - s.end_) loop p e (by omega) hp
    rw [show (s.rd.read (s.bufLen - s.end_)).2.1 = none from he'] at hsp
    simp only [show ¬ (s.rd.read (s.bufLen - s.end_)).1.length > 0 from hpos, if_false, hloop, if_true] at hsp
    obtain ⟨rfl, rfl⟩ := hsp
    exact ⟨res.1, res.2.2, by omega, Or.inr ⟨List.eq_nil_of_length_eq_zero (by omega),
      Scanner.setErr_of_none (show s'.err = none from herr) _⟩⟩
  | case5 s loop res hbad s' he' hpos hloop ih =>
    have hsp := read_spec s.rd (s.bufLen - s.end_) loop p e (by omega) hp
    rw [show (s.rd.read (s.bufLen - s.end_)).2.1 = none from he'] at hsp
    simp only [show ¬ (s.rd.read (s.bufLen - s.end_)).1.length > 0 from hpos, if_false, hloop] at hsp
    -- an empty read leaves the scanner as it was, the reader apart
    have hs' : s' = { s with rd := res.2.2 } := by
      simp only [s', List.eq_nil_of_length_eq_zero (Nat.eq_zero_of_not_pos hpos), List.append_nil]
    rw [hs'] at ih ⊢
    exact ih herr hsp hroom

/-- shifting moves the window to the front of the buffer whenever it touches the end -/
theorem shift_spec (s : Scanner) :
    ∃ st, shift s = { s with start := st } ∧ st ≤ s.start ∧ (st + s.data.length = s.bufLen → st = 0) := by
  unfold shift
  split
  · exact ⟨0, rfl, Nat.zero_le _, fun _ => rfl⟩
  · rename_i hc
    refine ⟨s.start, rfl, Nat.le_refl _, fun h => ?_⟩
    have : ¬ (s.start > 0 ∧ s.end_ = s.bufLen) := fun hp => hc ⟨hp.1, Or.inl hp.2⟩
    unfold Scanner.end_ at this
    omega

/-- a full buffer whose window starts at the front and is shorter than the maximum token size
grows (doubling stops at `maxTokenSize`, which is more than what is held); a buffer with room
stays -/
theorem grow_spec (s : Scanner) (hend : s.end_ ≤ s.bufLen) (h0 : s.end_ = s.bufLen → s.start = 0)
    (hlen : s.data.length < s.maxTokenSize) (hmax : s.maxTokenSize ≤ maxInt / 2 + 1) :
    ∃ bl st, grow s = some { s with bufLen := bl, start := st } ∧ st + s.data.length < bl := by
  unfold grow
  unfold Scanner.end_ at hend h0 ⊢
  by_cases hfull : s.start + s.data.length = s.bufLen
  · have hst := h0 hfull
    have hno : ¬ (s.bufLen ≥ s.maxTokenSize ∨ s.bufLen > maxInt / 2) := by omega
    rw [if_pos hfull, if_neg hno]
    refine ⟨_, 0, rfl, Nat.lt_min.2 ⟨?_, by omega⟩⟩
    unfold startBufSize
    split <;> omega
  · rw [if_neg hfull]
    exact ⟨s.bufLen, s.start, rfl, by omega⟩

theorem grow_shift_ok (s : Scanner) (hend : s.end_ ≤ s.bufLen) (hlen : s.data.length < s.maxTokenSize)
    (hmax : s.maxTokenSize ≤ maxInt / 2 + 1) :
    ∃ bl st, grow (shift s) = some { s with bufLen := bl, start := st } ∧ st + s.data.length < bl := by
  obtain ⟨st, hs, hle, h0⟩ := shift_spec s
  rw [hs]
  unfold Scanner.end_ at hend
  exact grow_spec { s with start := st } (by unfold Scanner.end_; exact Nat.le_trans (Nat.add_le_add_right hle _) hend) h0 hlen hmax

/-- a scanner that may still read: no error yet, room for the buffer invariant, a reader with
pending bytes `p`; the tokens still to come are those of what is held plus `p`, all of whose
lines are short -/
def Live (s : Scanner) (toks : List Bytes) (e : Err) : Prop :=
  s.err = none ∧ s.done = false ∧ s.end_ ≤ s.bufLen ∧ s.maxTokenSize ≤ maxInt / 2 + 1 ∧
  ∃ p, Pending s.rd 0 p e ∧ LinesShort (s.data ++ p) s.maxTokenSize ∧ scanLines (s.data ++ p) = toks

/-- a scanner whose input has ended with `e`: the tokens still to come are those of what is held -/
def Drain (s : Scanner) (toks : List Bytes) (e : Err) : Prop :=
  s.err = some e ∧ s.done = false ∧ scanLines s.data = toks

/-- what one `Scan` does when the tokens still to come are `toks` -/
def Post (r : GoM (Option Bytes × Scanner)) : List Bytes → Err → Prop
  | [], e => ∃ s', r = .ok (none, s') ∧ s'.err = some e
  | t :: ts, e => ∃ s', r = .ok (some t, s') ∧ (Live s' ts e ∨ Drain s' ts e)

theorem scanLoop_spec (s : Scanner) :
    ∀ (toks : List Bytes) (e : Err), Live s toks e ∨ Drain s toks e → Post (scanLoop scanLinesSplit s) toks e := by
  fun_induction scanLoop scanLinesSplit s with
  | case1 s r hr =>
    intro toks e h
    rcases tryToken_lines s with ⟨i, hi, ht⟩ | ⟨_, _, ht⟩ | ⟨hi, hne, hd, ht⟩
    · rw [ht] at hr; cases hr
      have hlt := (indexByte_some _ _ _ hi).1
      rcases h with ⟨herr, hdone, hend, hmax, p, hp, hshort, htoks⟩ | ⟨herr, hdone, htoks⟩
      · rw [scanLines_index_some _ _ _ hi] at htoks
        subst htoks
        refine ⟨_, rfl, Or.inl ⟨herr, hdone, ?_, hmax, p, hp, ?_, rfl⟩⟩
        · simp only [Scanner.end_, List.length_drop] at hend ⊢
          omega
        · refine hshort.suffix ?_
          exact ⟨s.data.take (i + 1), by simp only [← List.append_assoc, List.take_append_drop]⟩
      · have := scanLines_index_some s.data [] i hi
        simp only [List.append_nil] at this
        rw [this] at htoks
        subst htoks
        exact ⟨_, rfl, Or.inr ⟨herr, hdone, rfl⟩⟩
    · rw [ht] at hr; cases hr
    · rw [ht] at hr; cases hr
      rcases h with ⟨herr, _⟩ | ⟨herr, hdone, htoks⟩
      · exact absurd herr hne
      · rw [scanLines_tail _ (indexByte_none _ _ hi), if_neg hd] at htoks
        subst htoks
        rw [← dropCR_eq]
        exact ⟨_, rfl, Or.inr ⟨herr, hdone, rfl⟩⟩
  | case2 s s1 hm he =>
    intro toks e h
    obtain ⟨rfl, hi, hor⟩ := tryToken_lines_more_inv hm
    rcases h with ⟨herr, _⟩ | ⟨herr, hdone, htoks⟩
    · exact absurd herr he
    · rw [hor.resolve_left he] at htoks
      subst htoks
      exact ⟨_, rfl, herr⟩
  | case3 s s1 hm he hg =>
    intro toks e h
    obtain ⟨rfl, hi, _⟩ := tryToken_lines_more_inv hm
    rcases h with ⟨herr, hdone, hend, hmax, p, hp, hshort, htoks⟩ | ⟨herr, _⟩
    · obtain ⟨bl, st, h2, _⟩ := grow_shift_ok s1 hend (hshort.prefix_len (indexByte_none _ _ hi)) hmax
      rw [h2] at hg
      cases hg
    · rw [herr] at he
      exact absurd (Option.some_ne_none e) he
  | case4 s s1 hm he s2 hg ih =>
    intro toks e h
    obtain ⟨rfl, hi, _⟩ := tryToken_lines_more_inv hm
    rcases h with ⟨herr, hdone, hend, hmax, p, hp, hshort, htoks⟩ | ⟨herr, _⟩
    · obtain ⟨bl, st, h2, hroom⟩ := grow_shift_ok s1 hend (hshort.prefix_len (indexByte_none _ _ hi)) hmax
      rw [h2] at hg
      cases hg
      apply ih
      obtain ⟨b, r, hb, ⟨p', g1, rfl, hf⟩ | ⟨rfl, hf⟩⟩ := fill_spec { s1 with bufLen := bl, start := st } 0 p e herr hp hroom
      · rw [hf, ← List.append_assoc] at *
        exact Or.inl ⟨herr, hdone, by simpa [Scanner.end_, Nat.add_assoc] using hb, hmax, p', g1, hshort, htoks⟩
      · rw [hf]
        exact Or.inr ⟨rfl, hdone, htoks⟩
    · rw [herr] at he
      exact absurd (Option.some_ne_none e) he

theorem scan_spec (s : Scanner) (toks : List Bytes) (e : Err) (h : Live s toks e ∨ Drain s toks e) :
    Post (scan scanLinesSplit s) toks e := by
  have hdone : s.done = false := by
    rcases h with h | h
    · exact h.2.1
    · exact h.2.1
  unfold scan
  simp only [hdone, Bool.false_eq_true, if_false]
  exact scanLoop_spec s toks e h

theorem scanAll_eq (s : Scanner) :
    scanAll s = match scan scanLinesSplit s with
      | .error p => .error p
      | .ok (none, s') => .ok ([], s'.errValue)
      | .ok (some t, s') =>
        match scanAll s' with
        | .error p => .error p
        | .ok (ts, e) => .ok (t :: ts, e) := by
  rw [scanAll]
  split
  · rename_i heq; rw [heq]
  · rename_i heq; rw [heq]
  · rename_i heq; rw [heq]; rfl

theorem scanAll_spec : ∀ (toks : List Bytes) (s : Scanner) (e : Err),
    Live s toks e ∨ Drain s toks e → scanAll s = .ok (toks, errOf e) := by
  intro toks
  induction toks with
  | nil =>
    intro s e h
    obtain ⟨s', hs, herr⟩ := scan_spec s [] e h
    rw [scanAll_eq, hs]
    simp only [Scanner.errValue, herr, errOf, Option.some.injEq]
  | cons t ts ih =>
    intro s e h
    obtain ⟨s', hs, hinv⟩ := scan_spec s (t :: ts) e h
    rw [scanAll_eq, hs]
    simp only [ih s' e hinv]

theorem outcome_noStall (sc : Script) : ∀ k, NoStall k sc → outcome k sc = (delivered sc, ending sc) := by
  induction sc with
  | nil => intro k _; rfl
  | cons hd tl ih =>
    obtain ⟨n, x⟩ := hd
    intro k h
    cases x with
    | some e => rfl
    | none =>
      by_cases h0 : n = 0
      · subst h0
        simp only [NoStall, if_true] at h
        have hk : ¬ maxConsecutiveEmptyReads ≤ k := by omega
        simp only [outcome, if_true, hk, if_false, delivered, ending, Nat.zero_add]
        exact ih _ h.2
      · simp only [NoStall, h0, if_false] at h
        simp only [outcome, h0, if_false, delivered, ending, ih 0 h]
        rw [Nat.add_comm]

end GolibsVerif.C08
