/-
C16 — the URL heap of `Model/C16.lean`: `Heap.Preserves` (a call keeps every existing cell;
`alloc` does), `RedactUserinfo` and `redactVal` by cases on the userinfo, `Heap.Allocated`, what
`set` and `alloc` do to `get`, and `NoStoreTo p`: a list of callers' mutations without a store
to `p` leaves the cell at `p` alone (`apply_get_other`).
-/
import GolibsVerif.Model.C16

namespace GolibsVerif.C16

/-- `h'` keeps every cell of `h` as it was (the call modified no existing `url.URL`). -/
def Heap.Preserves (h h' : Heap) : Prop :=
  ∀ (p : Ptr) (v : URL), h.get p = .ok v → h'.get p = .ok v

/-- `*p` succeeds exactly on the address of a cell -/
theorem get_ok_iff (h : Heap) (p : Ptr) (v : URL) :
    h.get p = .ok v ↔ ∃ a, p = some a ∧ h.cells[a]? = some v := by
  cases p with
  | none => simp [Heap.get]
  | some a => cases hc : h.cells[a]? <;> simp [Heap.get, hc]

/-- `*q = v` succeeds exactly on the address of a cell, and replaces that cell -/
theorem set_ok_iff (h h' : Heap) (q : Ptr) (v : URL) :
    h.set q v = .ok h' ↔ ∃ b, q = some b ∧ b < h.cells.length ∧ h' = { cells := h.cells.set b v } := by
  cases q with
  | none => simp [Heap.set]
  | some b => by_cases hlt : b < h.cells.length <;> simp [Heap.set, hlt, eq_comm]

theorem alloc_preserves (h : Heap) (u : URL) : h.Preserves (h.alloc u).1 := by
  intro p v hp
  obtain ⟨a, rfl, hc⟩ := (get_ok_iff h p v).1 hp
  refine (get_ok_iff _ _ v).2 ⟨a, rfl, ?_⟩
  rw [Heap.alloc, List.getElem?_append_left (List.getElem?_eq_some_iff.mp hc).1, hc]

theorem redact_none (h : Heap) (p : Ptr) (u : URL) (hp : h.get p = .ok u) (hu : u.user = none) :
    redact h p = .ok (h, p) := by
  simp [redact, hp, hu, bind, Except.bind, pure, Except.pure]

theorem redact_some (h : Heap) (p : Ptr) (u : URL) (hp : h.get p = .ok u) (hu : u.user ≠ none) :
    redact h p = .ok (h.alloc { u with user := some redactedUserinfo }) := by
  obtain ⟨ui, hus⟩ := Option.ne_none_iff_exists'.mp hu
  simp [redact, hp, hus, bind, Except.bind, pure, Except.pure]

theorem redactVal_none (u : URL) (hu : u.user = none) : redactVal u = u := by
  simp [redactVal, hu]

theorem redactVal_some (u : URL) (hu : u.user ≠ none) :
    redactVal u = { u with user := some redactedUserinfo } := by
  obtain ⟨ui, hus⟩ := Option.ne_none_iff_exists'.mp hu
  simp [redactVal, hus]

theorem alloc_get (h : Heap) (u : URL) : (h.alloc u).1.get (h.alloc u).2 = .ok u :=
  (get_ok_iff ..).2 ⟨_, rfl, by simp [Heap.alloc]⟩

/-- A top-level `*url.Error` and a URL with userinfo: the redacted copy is made and its
`String()` replaces the text of the error. -/
theorem redactInURLError_urlError (render : Option Userinfo → Rest → Bytes) (h : Heap) (p : Ptr) (u : URL)
    (ue : URLError) (hp : h.get p = .ok u) (hu : u.user ≠ none) :
    redactInURLError render h p (.urlError ue) =
      .ok ((h.alloc { u with user := some redactedUserinfo }).1,
        .urlError { ue with url := render (some redactedUserinfo) u.rest }) := by
  obtain ⟨ui, hus⟩ := Option.ne_none_iff_exists'.mp hu
  simp [redactInURLError, hp, hus, redact_some h p u hp hu, alloc_get, bind, Except.bind, pure, Except.pure]

/-- `p` points to a `url.URL` that exists in `h` (it was allocated before). -/
def Heap.Allocated (h : Heap) (p : Ptr) : Prop := ∃ v, h.get p = .ok v

theorem allocated_iff (h : Heap) (p : Ptr) :
    h.Allocated p ↔ ∃ a, p = some a ∧ a < h.cells.length := by
  simp only [Heap.Allocated, get_ok_iff, List.getElem?_eq_some_iff]
  exact ⟨fun ⟨_, a, hp, hlt, _⟩ => ⟨a, hp, hlt⟩, fun ⟨a, hp, hlt⟩ => ⟨_, a, hp, hlt, rfl⟩⟩

theorem set_get_other (h h' : Heap) (q p : Ptr) (v u : URL) (hs : h.set q v = .ok h')
    (hne : q ≠ p) (hp : h.get p = .ok u) : h'.get p = .ok u := by
  obtain ⟨b, rfl, -, rfl⟩ := (set_ok_iff ..).1 hs
  obtain ⟨a, rfl, hc⟩ := (get_ok_iff ..).1 hp
  exact (get_ok_iff ..).2 ⟨a, rfl, by rwa [List.getElem?_set_ne fun e => hne (by rw [e])]⟩

theorem set_length (h h' : Heap) (q : Ptr) (v : URL) (hs : h.set q v = .ok h') :
    h'.cells.length = h.cells.length := by
  obtain ⟨b, -, -, rfl⟩ := (set_ok_iff ..).1 hs
  exact List.length_set ..

theorem set_get_same (g : Heap) (q : Ptr) (v w : URL) (hv : g.get q = .ok v) :
    ∃ g', g.set q w = .ok g' ∧ g'.get q = .ok w := by
  obtain ⟨a, rfl, hc⟩ := (get_ok_iff ..).1 hv
  have hlt := (List.getElem?_eq_some_iff.mp hc).1
  exact ⟨_, (set_ok_iff ..).2 ⟨a, rfl, hlt, rfl⟩, (get_ok_iff ..).2 ⟨a, rfl, by simp [hlt]⟩⟩

theorem apply_stores (q : Ptr) (ws : List URL) : ∀ (g : Heap) (v : URL), g.get q = .ok v →
    ∃ g', g.apply (ws.map (Mut.store q)) = .ok g' ∧ g'.get q = .ok (ws.getLast?.getD v) := by
  induction ws with
  | nil => exact fun g v hv => ⟨g, rfl, hv⟩
  | cons w rest ih =>
    intro g v hv
    obtain ⟨g₁, hs, hg⟩ := set_get_same g q v w hv
    obtain ⟨g', hg', hv'⟩ := ih g₁ w hg
    refine ⟨g', ?_, by rw [hv', List.getLast?_cons]; rfl⟩
    simp only [List.map_cons, Heap.apply, hs]
    exact hg'

/-- no step of `ms` stores through `p` -/
def NoStoreTo (p : Ptr) (ms : List Mut) : Prop := ∀ q v, Mut.store q v ∈ ms → q ≠ p

theorem apply_get_other (h h' : Heap) (ms : List Mut) (p : Ptr) (u : URL)
    (ha : h.apply ms = .ok h') (hno : NoStoreTo p ms) (hp : h.get p = .ok u) :
    h'.get p = .ok u ∧ h.cells.length ≤ h'.cells.length := by
  induction ms generalizing h with
  | nil =>
    simp only [Heap.apply, Except.ok.injEq] at ha
    subst ha
    exact ⟨hp, Nat.le_refl _⟩
  | cons m rest ih =>
    have hrest : NoStoreTo p rest := fun q v hm => hno q v (List.mem_cons_of_mem _ hm)
    cases m with
    | store q v =>
      have hq : q ≠ p := hno q v (List.mem_cons_self ..)
      simp only [Heap.apply] at ha
      cases hs : h.set q v with
      | error e => simp [hs] at ha
      | ok h₁ =>
        simp only [hs] at ha
        have := ih h₁ ha hrest (set_get_other h h₁ q p v u hs hq hp)
        exact ⟨this.1, by rw [← set_length h h₁ q v hs]; exact this.2⟩
    | new v =>
      simp only [Heap.apply] at ha
      have := ih (h.alloc v).1 ha hrest (alloc_preserves h v p u hp)
      refine ⟨this.1, Nat.le_trans ?_ this.2⟩
      simp [Heap.alloc]

end GolibsVerif.C16
