/-
Lemmas for C10, the lock discipline: the critical-section profile computed by `flowB`
(Model/C10IR.lean) covers every control path (`flow_sound`).

A result `Res` is read as a set of outcomes (`Outcome`): the states in which control falls off the
end, the states in which a `return` is executed, the facts.  The combinators are characterised by
what their results contain (`Res.join_has`, `Res.bind_has`, …); the order `Res.le` is inclusion of
these sets, and `flowB` of an appended list is below the sequencing of the two analyses
(`flowB_append_le`), which is what the induction over `Exec` needs.
-/
import GolibsVerif.Model.C10IR

namespace GolibsVerif.C10.Lock

theorem mem_dedup {α} [DecidableEq α] {a : α} {l : List α} : a ∈ dedup l ↔ a ∈ l := by
  induction l with
  | nil => simp [dedup]
  | cons x r ih =>
    simp only [dedup]
    split
    · rename_i h
      constructor
      · intro h'; exact List.mem_cons_of_mem _ (ih.mp h')
      · intro h'
        cases h' with
        | head => exact h
        | tail _ h'' => exact ih.mpr h''
    · simp [ih]

theorem mem_union {α} [DecidableEq α] {a : α} {x y : List α} : a ∈ union x y ↔ a ∈ x ∨ a ∈ y := by
  simp [union, mem_dedup]

inductive Outcome where
  | fall (s : PSt)
  | ret (s : PSt)
  | fact (f : Fact)

/-- sequencing continues from a fall-through state; a return state or a fact of the first part
is one of the whole -/
def Outcome.stops : Outcome → Prop
  | .fall _ => False
  | _ => True

def Res.has (R : Res) : Outcome → Prop
  | .fall s => s ∈ R.falls
  | .ret s => s ∈ R.rets
  | .fact f => f ∈ R.facts

/-- how a path with outcome `o` (`true`: it returned) ends in state `s` -/
def Outcome.last (o : Bool) (s : PSt) : Outcome := if o then .ret s else .fall s

theorem Res.join_has (a b : Res) (x : Outcome) : (a.join b).has x ↔ a.has x ∨ b.has x := by
  cases a; cases b; cases x <;> simp [Res.join, Res.has, mem_union]

theorem Res.from_cons (s : PSt) (S : List PSt) (g : PSt → Res) :
    Res.from (s :: S) g = (g s).join (Res.from S g) := rfl

theorem Res.from_has (S : List PSt) (g : PSt → Res) (x : Outcome) :
    (Res.from S g).has x ↔ ∃ s ∈ S, (g s).has x := by
  induction S with
  | nil => cases x <;> simp [Res.from, Res.has]
  | cons s r ih => simp [Res.from_cons, Res.join_has, ih]

theorem Res.bind_has (r : Res) (g : PSt → Res) (x : Outcome) :
    (r.bind g).has x ↔ (x.stops ∧ r.has x) ∨ ∃ s ∈ r.falls, (g s).has x := by
  obtain ⟨f, rt, fa⟩ := r
  rw [← Res.from_has]
  simp only [Res.bind]
  cases Res.from f g
  cases x <;> simp [Res.has, Outcome.stops, mem_union]

theorem Res.loop_has (a b : Res) (x : Outcome) : (a.loop b).has x ↔ (x.stops ∧ a.has x) ∨ b.has x := by
  cases a; cases b; cases x <;> simp [Res.loop, Res.has, Outcome.stops, mem_union]

/-- `a ≤ b`: everything `a` contains, `b` contains -/
def Res.le (a b : Res) : Prop := ∀ x, a.has x → b.has x

theorem Res.le_refl (a : Res) : a.le a := fun _ h => h

theorem Res.le_trans {a b c : Res} (h1 : a.le b) (h2 : b.le c) : a.le c := fun x h => h2 x (h1 x h)

theorem Res.join_le_left (a b : Res) : a.le (a.join b) := fun x h => (Res.join_has a b x).mpr (.inl h)

theorem Res.join_le_right (a b : Res) : b.le (a.join b) := fun x h => (Res.join_has a b x).mpr (.inr h)

theorem Res.bind_mono {r r' : Res} {g g' : PSt → Res} (hr : r.le r') (hg : ∀ s, (g s).le (g' s)) :
    (r.bind g).le (r'.bind g') := by
  intro x hx
  rw [Res.bind_has] at hx ⊢
  rcases hx with ⟨hs, h⟩ | ⟨s, hs, h⟩
  · exact .inl ⟨hs, hr x h⟩
  · exact .inr ⟨s, hr (.fall s) hs, hg s x h⟩

theorem Res.bind_assoc_le (r : Res) (g h : PSt → Res) :
    (r.bind fun s => (g s).bind h).le ((r.bind g).bind h) := by
  intro x hx
  rw [Res.bind_has]
  rcases (Res.bind_has _ _ x).mp hx with ⟨hs, h1⟩ | ⟨s, hs, h1⟩
  · exact .inl ⟨hs, (Res.bind_has r g x).mpr (.inl ⟨hs, h1⟩)⟩
  · rcases (Res.bind_has _ h x).mp h1 with ⟨hs2, h2⟩ | ⟨s2, hs2, h2⟩
    · exact .inl ⟨hs2, (Res.bind_has r g x).mpr (.inr ⟨s, hs, h2⟩)⟩
    · exact .inr ⟨s2, (Res.bind_has r g (.fall s2)).mpr (.inr ⟨s, hs, hs2⟩), h2⟩

theorem Res.from_mono {S S' : List PSt} {g : PSt → Res} (h : ∀ x ∈ S, x ∈ S') :
    (Res.from S g).le (Res.from S' g) := by
  intro x hx
  obtain ⟨s, hs, hx⟩ := (Res.from_has S g x).mp hx
  exact (Res.from_has S' g x).mpr ⟨s, h s hs, hx⟩

theorem Res.le_from {S : List PSt} {g : PSt → Res} {s : PSt} (hs : s ∈ S) : (g s).le (Res.from S g) :=
  fun x hx => (Res.from_has S g x).mpr ⟨s, hs, hx⟩

theorem Res.loop_mono {a a' b b' : Res} (ha : a.le a') (hb : b.le b') : (a.loop b).le (a'.loop b') := by
  intro x hx
  rw [Res.loop_has] at hx ⊢
  rcases hx with ⟨hs, h⟩ | h
  · exact .inl ⟨hs, ha x h⟩
  · exact .inr (hb x h)

/-! ## The fixpoint iteration reaches a closed set: there are only 12 states -/

def allPSt : List PSt :=
  [⟨.pre, .zero⟩, ⟨.pre, .one⟩, ⟨.pre, .many⟩, ⟨.held, .zero⟩, ⟨.held, .one⟩, ⟨.held, .many⟩,
   ⟨.free false, .zero⟩, ⟨.free false, .one⟩, ⟨.free false, .many⟩,
   ⟨.free true, .zero⟩, ⟨.free true, .one⟩, ⟨.free true, .many⟩]

theorem mem_allPSt (s : PSt) : s ∈ allPSt := by
  rcases s with ⟨_ | _ | (_ | _), _ | _ | _⟩ <;> decide

theorem allPSt_length : allPSt.length = 12 := rfl

/-- how many states are not in `S` -/
def missing (S : List PSt) : Nat := (allPSt.filter fun x => decide (x ∉ S)).length

theorem missing_lt {S S' : List PSt} (h : ∀ x ∈ S, x ∈ S') {y : PSt} (hy : y ∈ S') (hyS : y ∉ S) :
    missing S' < missing S := by
  have : allPSt.filter (fun x => decide (x ∉ S')) =
      (allPSt.filter fun x => decide (x ∉ S)).filter fun x => decide (x ∉ S') := by
    rw [List.filter_filter]
    apply List.filter_congr
    intro x _
    by_cases hx : x ∈ S'
    · simp [hx]
    · have hxS : x ∉ S := fun hS => hx (h x hS)
      simp [hx, hxS]
  unfold missing
  rw [this]
  apply List.length_filter_lt_length_iff_exists.mpr
  exact ⟨y, List.mem_filter.mpr ⟨mem_allPSt y, by simpa using hyS⟩, by simpa using hy⟩

theorem lfp_closed (f : PSt → List PSt) : ∀ (n : Nat) (S : List PSt), missing S < n →
    (∀ x ∈ S, x ∈ lfp f n S) ∧ ∀ x ∈ lfp f n S, ∀ y ∈ f x, y ∈ lfp f n S := by
  intro n
  induction n with
  | zero => intro S h; omega
  | succ n ih =>
    intro S hm
    simp only [lfp]
    split
    · rename_i hc
      refine ⟨fun x h => h, fun x hx y hy => ?_⟩
      simpa using List.all_eq_true.mp hc y (List.mem_flatMap.mpr ⟨x, hx, hy⟩)
    · rename_i hc
      -- some new state appears: fewer states are missing afterwards
      obtain ⟨x, hx, y, hy, hyS⟩ : ∃ x ∈ S, ∃ y ∈ f x, y ∉ S := by
        simpa [List.all_eq_true] using hc
      have hlt : missing (union S (S.flatMap f)) < missing S :=
        missing_lt (fun x hx => mem_union.mpr (.inl hx))
          (mem_union.mpr (.inr (List.mem_flatMap.mpr ⟨x, hx, hy⟩))) hyS
      obtain ⟨h1, h2⟩ := ih (union S (S.flatMap f)) (by omega)
      exact ⟨fun x hx => h1 x (mem_union.mpr (.inl hx)), h2⟩

theorem lfp_least (f : PSt → List PSt) (I : List PSt) (hI : ∀ x ∈ I, ∀ y ∈ f x, y ∈ I) :
    ∀ (n : Nat) (S : List PSt), (∀ x ∈ S, x ∈ I) → ∀ x ∈ lfp f n S, x ∈ I := by
  intro n
  induction n with
  | zero => intro S hS x hx; exact hS x (by simpa [lfp] using hx)
  | succ n ih =>
    intro S hS x hx
    simp only [lfp] at hx
    split at hx
    · exact hS x hx
    · refine ih _ (fun z hz => ?_) x hx
      rcases mem_union.mp hz with hz | hz
      · exact hS z hz
      · obtain ⟨w, hw, hzw⟩ := List.mem_flatMap.mp hz
        exact hI w (hS w hw) z hzw

theorem flowB_nil (s : PSt) : flowB [] s = ⟨[s], [], []⟩ := by simp [flowB]

theorem flowB_cons (x : Stmt) (r : List Stmt) (s : PSt) :
    flowB (x :: r) s = (flowS x s).bind (flowB r) := by simp [flowB]

/-- the loop-head invariant computed for a loop entered in state `s` -/
def loopInv (c b : List Stmt) (s : PSt) : List PSt :=
  lfp (fun s0 => ((flowB c s0).bind (flowB b)).falls) 13 [s]

theorem flowS_loop (c b : List Stmt) (s : PSt) :
    flowS (.loop c b) s =
      Res.loop (Res.from (loopInv c b s) fun s0 => (flowB c s0).bind (flowB b))
        (Res.from (loopInv c b s) (flowB c)) := by
  simp [flowS, loopInv]

theorem loopInv_spec (c b : List Stmt) (s : PSt) :
    s ∈ loopInv c b s ∧
    ∀ x ∈ loopInv c b s, ∀ y ∈ ((flowB c x).bind (flowB b)).falls, y ∈ loopInv c b s := by
  have hm : missing [s] < 13 :=
    Nat.lt_succ_of_le (allPSt_length ▸ List.length_filter_le _ allPSt)
  obtain ⟨h1, h2⟩ := lfp_closed (fun s0 => ((flowB c s0).bind (flowB b)).falls) 13 [s] hm
  exact ⟨h1 s (by simp), h2⟩

theorem flowS_loop_le {c b : List Stmt} {s s2 : PSt} (h2 : s2 ∈ loopInv c b s) :
    (flowS (.loop c b) s2).le (flowS (.loop c b) s) := by
  have hsub : ∀ x ∈ loopInv c b s2, x ∈ loopInv c b s := by
    apply lfp_least _ _ (loopInv_spec c b s).2
    intro x hx
    have : x = s2 := by simpa using hx
    subst this
    exact h2
  rw [flowS_loop, flowS_loop]
  exact Res.loop_mono (Res.from_mono hsub) (Res.from_mono hsub)

theorem flowB_append_le (a b : List Stmt) (s : PSt) :
    (flowB (a ++ b) s).le ((flowB a s).bind (flowB b)) := by
  induction a generalizing s with
  | nil =>
    intro x hx
    rw [flowB_nil]
    exact (Res.bind_has _ _ x).mpr (.inr ⟨s, by simp, hx⟩)
  | cons x r ih =>
    simp only [List.cons_append, flowB_cons]
    exact Res.le_trans (Res.bind_mono (Res.le_refl _) fun s1 => ih s1) (Res.bind_assoc_le _ _ _)

theorem flowB_ite_le {c t e b r : List Stmt}
    (hb : ∀ s1, (flowB b s1).le ((flowB t s1).join (flowB e s1))) (s : PSt) :
    (flowB (c ++ (b ++ r)) s).le (flowB (.ite c t e :: r) s) := by
  rw [flowB_cons, flowS]
  refine Res.le_trans (flowB_append_le c (b ++ r) s) ?_
  refine Res.le_trans (Res.bind_mono (Res.le_refl _) fun s1 => ?_) (Res.bind_assoc_le _ _ _)
  exact Res.le_trans (flowB_append_le b r s1) (Res.bind_mono (hb s1) fun _ => Res.le_refl _)

theorem pathFacts_append (s : PSt) (p q : List Ev) :
    pathFacts s (p ++ q) = pathFacts s p ++ pathFacts (pwalk s p) q := by
  induction p generalizing s with
  | nil => simp [pathFacts, pwalk]
  | cons e p ih => simp [pathFacts, pwalk, ih]

theorem pwalk_append (s : PSt) (p q : List Ev) : pwalk s (p ++ q) = pwalk (pwalk s p) q := by
  induction p generalizing s with
  | nil => simp [pwalk]
  | cons e p ih => simp [pwalk, ih]

/-- the result `R` covers the path `p` started in `s` with outcome `o` -/
def Cov (R : Res) (s : PSt) (p : List Ev) (o : Bool) : Prop :=
  (∀ f ∈ pathFacts s p, R.has (.fact f)) ∧ R.has (.last o (pwalk s p))

theorem Cov.mono {R R' : Res} {s : PSt} {p : List Ev} {o : Bool} (h : R.le R') (hc : Cov R s p o) :
    Cov R' s p o :=
  ⟨fun f hf => h _ (hc.1 f hf), h _ hc.2⟩

theorem Cov.bind {R : Res} {g : PSt → Res} {s : PSt} {p q : List Ev} {o : Bool}
    (h1 : Cov R s p false) (h2 : Cov (g (pwalk s p)) (pwalk s p) q o) : Cov (R.bind g) s (p ++ q) o := by
  have hfall : pwalk s p ∈ R.falls := h1.2
  refine ⟨fun f hf => ?_, ?_⟩
  · rw [pathFacts_append] at hf
    rcases List.mem_append.mp hf with hf | hf
    · exact (Res.bind_has R g _).mpr (.inl ⟨trivial, h1.1 f hf⟩)
    · exact (Res.bind_has R g _).mpr (.inr ⟨_, hfall, h2.1 f hf⟩)
  · rw [pwalk_append]
    exact (Res.bind_has R g _).mpr (.inr ⟨_, hfall, h2.2⟩)

theorem cov_prim (s : PSt) (e : Ev) : Cov (Res.prim s e) s [e] false := by
  refine ⟨fun f hf => ?_, ?_⟩
  · simpa [pathFacts, Res.prim, Res.has] using hf
  · simp [pwalk, Res.prim, Res.has, Outcome.last]

/-- Every path through `b` from profile state `s` is covered by `flowB b s`: the facts of all its
events are collected, and its final state is among the fall-through states (or, if it ended in
a `return`, among the return states). -/
theorem flow_sound {b : List Stmt} {p : List Ev} {o : Bool} (hx : Exec b p o) :
    ∀ s, Cov (flowB b s) s p o := by
  induction hx with
  | nil =>
    intro s
    rw [flowB_nil]
    exact ⟨by simp [pathFacts], by simp [pwalk, Res.has, Outcome.last]⟩
  | lock _ ih | unlock _ ih | acc _ ih | publish _ ih | callOnDelete _ ih =>
    intro s
    rw [flowB_cons]
    exact Cov.bind (p := [_]) (cov_prim s _) (ih _)
  | @ret r =>
    intro s
    rw [flowB_cons]
    have : flowS .ret s = ⟨[], [s], []⟩ := by simp [flowS]
    rw [this]
    exact ⟨by simp [pathFacts], (Res.bind_has _ _ _).mpr (.inl ⟨trivial, by simp [pwalk, Res.has, Outcome.last]⟩)⟩
  | @iteThen c t e r p o _ ih =>
    intro s
    exact Cov.mono (flowB_ite_le (fun _ => Res.join_le_left _ _) s) (ih s)
  | @iteElse c t e r p o _ ih =>
    intro s
    exact Cov.mono (flowB_ite_le (fun _ => Res.join_le_right _ _) s) (ih s)
  | @loopExit c b r p o _ ih =>
    intro s
    refine Cov.mono ?_ (ih s)
    rw [flowB_cons, flowS_loop]
    refine Res.le_trans (flowB_append_le c r s) (Res.bind_mono ?_ fun _ => Res.le_refl _)
    intro x hx
    exact (Res.loop_has _ _ x).mpr (.inr (Res.le_from (g := flowB c) (loopInv_spec c b s).1 x hx))
  | @loopIter c b r p o _ ih =>
    intro s
    refine Cov.mono ?_ (ih s)
    -- condition, body, then the loop again from a state of the invariant
    have hinv := loopInv_spec c b s
    have hi := Res.le_from (g := fun s0 => (flowB c s0).bind (flowB b)) hinv.1
    refine Res.le_trans (flowB_append_le c (b ++ .loop c b :: r) s) ?_
    refine Res.le_trans (Res.bind_mono (Res.le_refl _) fun s1 => flowB_append_le b (.loop c b :: r) s1) ?_
    refine Res.le_trans (Res.bind_assoc_le _ _ _) ?_
    rw [flowB_cons]
    intro x hx
    rcases (Res.bind_has _ _ x).mp hx with ⟨hs, h⟩ | ⟨s2, hs2, h⟩
    · rw [flowS_loop]
      exact (Res.bind_has _ _ x).mpr (.inl ⟨hs, (Res.loop_has _ _ x).mpr (.inl ⟨hs, hi x h⟩)⟩)
    · rw [flowB_cons] at h
      exact Res.bind_mono (flowS_loop_le (hinv.2 s hinv.1 s2 hs2)) (fun _ => Res.le_refl _) x h
  | @call n b r p q o' o _ _ ih1 ih2 =>
    intro s
    rw [flowB_cons]
    refine Cov.bind ?_ (ih2 _)
    have h1 := ih1 s
    have hS : flowS (.call n b) s = match flowB b s with | ⟨f, rt, fa⟩ => ⟨union f rt, [], fa⟩ := by
      simp [flowS]
    rw [hS]
    rcases hR : flowB b s with ⟨f, rt, fa⟩
    rw [hR] at h1
    refine ⟨h1.1, ?_⟩
    have := h1.2
    cases o'
    · exact mem_union.mpr (.inl this)
    · exact mem_union.mpr (.inr this)

def Loc.decode : Nat → Option Loc
  | 0 => some .items | 1 => some .usage | 2 => some .size | 3 => some .hit | 4 => some .miss
  | 5 => some .conf | 6 => some (.itemKV true) | 7 => some (.itemKV false) | _ => none

def Acc.decode : Nat → Option Acc
  | 0 => some .read | 1 => some .write | 2 => some .atomic | _ => none

def Item.decode (n : Nat) : Option Item :=
  if n = 100 then some .publish else if n = 101 then some .callOnDelete else
    match Loc.decode (n / 3), Acc.decode (n % 3) with
    | some l, some a => some (.acc a l)
    | _, _ => none

theorem Item.decode_code (x : Item) : Item.decode x.code = some x := by
  cases x with
  | publish => rfl
  | callOnDelete => rfl
  | acc a l =>
    cases l with
    | itemKV f => cases f <;> cases a <;> rfl
    | _ => cases a <;> rfl

theorem Item.code_inj {x y : Item} (h : x.code = y.code) : x = y := by
  have := Item.decode_code x
  rw [h, Item.decode_code y] at this
  exact (Option.some.inj this).symm

theorem mem_insertItem {x y : Item} {l : List Item} : y ∈ insertItem x l ↔ y = x ∨ y ∈ l := by
  induction l with
  | nil => simp [insertItem]
  | cons z r ih =>
    simp only [insertItem]
    split
    · simp
    · split
      · rename_i h
        have := Item.code_inj h
        subst this
        simp
      · simp [ih, or_left_comm]

theorem mem_foldr_insertItem {y : Item} {l : List Item} : y ∈ l.foldr insertItem [] ↔ y ∈ l := by
  induction l with
  | nil => simp
  | cons x r ih => simp [mem_insertItem, ih]

/-- `S` accounts for `i`: it contains it, or `i` is a read and `S` contains the write of the same
location (the normal form drops a read that is subsumed by a write). -/
def covers (S : List Item) (i : Item) : Prop := i ∈ S ∨ ∃ l, i = .acc .read l ∧ .acc .write l ∈ S

theorem normItems_covers {l : List Item} {i : Item} (h : i ∈ l) : covers (normItems l) i := by
  have hs : i ∈ l.foldr insertItem [] := mem_foldr_insertItem.mpr h
  simp only [covers, normItems, List.mem_filter, Bool.not_eq_true']
  cases hsub : i.subsumedIn (l.foldr insertItem [])
  · exact .inl ⟨hs, rfl⟩
  · right
    -- only a read can be subsumed; the write that subsumes it is never dropped
    cases i with
    | publish => simp [Item.subsumedIn] at hsub
    | callOnDelete => simp [Item.subsumedIn] at hsub
    | acc a loc =>
      cases a with
      | write => simp [Item.subsumedIn] at hsub
      | atomic => simp [Item.subsumedIn] at hsub
      | read =>
        refine ⟨loc, rfl, ?_, ?_⟩
        · simpa [Item.subsumedIn] using hsub
        · simp [Item.subsumedIn]

theorem normItems_nonread {l : List Item} {i : Item} (h : i ∈ l) (hn : ∀ loc, i ≠ .acc .read loc) :
    i ∈ normItems l := by
  rcases normItems_covers h with h | ⟨loc, h, _⟩
  · exact h
  · exact absurd h (hn loc)

def Profile.region (P : Profile) : RegKind → List Item
  | .pre => P.pre | .held => P.held | .free => P.free

/-- what a fact of a path means for a profile -/
def Profile.has (P : Profile) : Fact → Prop
  | .item r i => covers (P.region r) i
  | .atomic i => i ∈ P.atomics ∨ ∀ loc, i ≠ .acc .atomic loc
  | .sections n => n ≤ P.sections
  | .relockBare => P.relockBare = true

theorem foldl_sections_ge (fs : List Fact) (n0 k : Nat) (h : Fact.sections k ∈ fs ∨ k ≤ n0) :
    k ≤ fs.foldl (fun n f => match f with | .sections k => max n k | _ => n) n0 := by
  induction fs generalizing n0 with
  | nil =>
    rcases h with h | h
    · cases h
    · simpa using h
  | cons f r ih =>
    simp only [List.foldl_cons]
    apply ih
    rcases h with h | h
    · cases h with
      | head => right; simp; omega
      | tail _ h => exact .inl h
    · right
      cases f <;> simp <;> omega

theorem profileOfFacts_has (name : String) (fs : List Fact) {f : Fact} (hf : f ∈ fs) :
    (profileOfFacts name fs).has f := by
  cases f with
  | item r i =>
    cases r
    · exact normItems_covers (List.mem_filterMap.mpr ⟨_, hf, rfl⟩)
    · exact normItems_covers (List.mem_filterMap.mpr ⟨_, hf, rfl⟩)
    · exact normItems_covers (List.mem_filterMap.mpr ⟨_, hf, rfl⟩)
  | atomic i =>
    simp only [Profile.has, profileOfFacts]
    cases i with
    | acc a loc =>
      cases a with
      | atomic =>
        exact .inl (normItems_nonread (List.mem_filterMap.mpr ⟨_, hf, rfl⟩) (fun _ h => by cases h))
      | _ => right; intro l h; cases h
    | _ => right; intro l h; cases h
  | sections n => exact foldl_sections_ge fs 0 n (.inl hf)
  | relockBare =>
    simp only [Profile.has, profileOfFacts]
    simpa using hf

theorem NSec.toNat_succ (n : NSec) : n.succ.toNat = min 2 (n.toNat + 1) := by
  cases n <;> rfl

theorem PSt.step_nsec (s : PSt) (e : Ev) :
    (s.step e).nsec = if e = .lock then s.nsec.succ else s.nsec := by
  cases e <;> simp only [PSt.step, reduceCtorEq, if_true, if_false]
  split <;> rfl

/-- the second `Lock` of a path, counted from the sections entered before `s`, contributes
`sections 2` -/
theorem sections_two_of_locks (p : List Ev) : ∀ (s : PSt), 1 ≤ p.count .lock →
    2 ≤ s.nsec.toNat + p.count .lock → Fact.sections 2 ∈ pathFacts s p := by
  induction p with
  | nil => intro s h; simp at h
  | cons e p ih =>
    intro s h1 h2
    have hn := PSt.step_nsec s e
    simp only [pathFacts, List.mem_append]
    rw [List.count_cons] at h1 h2
    by_cases he : e = .lock
    · subst he
      simp only [beq_self_eq_true, if_true] at h1 h2 hn
      have hsucc := NSec.toNat_succ s.nsec
      by_cases hz : s.nsec.toNat = 0
      · -- the first `Lock`: a second one follows
        right
        apply ih
        · omega
        · rw [hn]; omega
      · left
        have : s.nsec.succ.toNat = 2 := by omega
        simp [PSt.facts, this]
    · right
      have hb : (e == Ev.lock) = false := by simpa using he
      simp only [hb, if_neg he] at h1 h2 hn
      apply ih
      · exact h1
      · rw [hn]; exact h2

end GolibsVerif.C10.Lock
