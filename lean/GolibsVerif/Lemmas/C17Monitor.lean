/-
C17 — the monitor (`mstep`, `acceptsOnce`) simulates the OnceConstructor transition system
(`Sim`, `trace_sim`): every observable trace of the LTS is accepted.  Hence an observed history
that the acceptor rejects is a behaviour the model cannot exhibit.  Also: `runSteps` stays
within the reachable states (`runSteps_reachable`), enabledness read off the program counter
(`canStep`, `enabled_iff_canStep`), and `srun` against the semaphore's `STrace` (`srun_iff_trace`).
-/
import GolibsVerif.Lemmas.C17

namespace GolibsVerif.C17

variable {K V : Type} [DecidableEq K]

def absTh : PC K V → MTh K
  | .idle => .fresh
  | .done _ _ => .returned
  | .load k | .mk k | .send k | .los k | .recv k _ | .construct k _ | .inCtor k _ | .close k _
  | .readCached k _ | .panicked k => .inGet k

def PC.isInCtor : PC K V → Bool
  | .inCtor .. => true
  | _ => false

def PhOk (s : OState K V) (k : K) : MPh V → Prop
  | .notStarted => s.ctorCalls k = 0
  | .running => ∃ t l, s.pc t = .inCtor k l
  | .built v => ∃ l, s.stored k = some l ∧ s.cached l = some v

structure Sim (s : OState K V) (m : MState K V) : Prop where
  th : ∀ t, m.th t = absTh (s.pc t)
  ph : ∀ k, PhOk s k (m.ph k)
  called : ∀ t k, (s.pc t).key = some k → m.called k = true

omit [DecidableEq K] in
theorem sim_init : Sim (OState.init : OState K V) (MState.init : MState K V) := by
  constructor <;> simp [OState.init, MState.init, absTh, PhOk, PC.key]

omit [DecidableEq K] in
/-- `PhOk` reads the construction count of `k`, the threads inside the constructor of `k`, and the
cached value of the loader stored for `k` -/
theorem PhOk.frame {s s' : OState K V} {k : K} {ph : MPh V} (h : PhOk s k ph)
    (hcc : s.ctorCalls k = 0 → s'.ctorCalls k = 0)
    (hrun : ∀ w l, s.pc w = .inCtor k l → ∃ w' l', s'.pc w' = .inCtor k l')
    (hbuilt : ∀ l v, s.stored k = some l → s.cached l = some v →
      ∃ l', s'.stored k = some l' ∧ s'.cached l' = some v) : PhOk s' k ph := by
  cases ph with
  | notStarted => exact hcc h
  | running => obtain ⟨w, l, hw⟩ := h; exact hrun w l hw
  | built v => obtain ⟨l, hl, hc⟩ := h; exact hbuilt l v hl hc

omit [DecidableEq K] in
/-- a thread inside a constructor stays there when another thread moves -/
theorem inCtor_upd {s : OState K V} {t w : Nat} {k : K} {l : Nat} (p : PC K V)
    (ht : (s.pc t).isInCtor = false) (hw : s.pc w = .inCtor k l) :
    ∃ w' l', upd s.pc t p w' = .inCtor k l' :=
  ⟨w, l, by rw [upd_other _ _ _ _ (by rintro rfl; simp [hw, PC.isInCtor] at ht)]; exact hw⟩

omit [DecidableEq K] in
theorem th_upd {s : OState K V} {m : MState K V} (h : ∀ x, m.th x = absTh (s.pc x)) (t : Nat)
    (p : PC K V) : ∀ x, upd m.th t (absTh p) x = absTh (upd s.pc t p x) := by
  intro x
  by_cases hx : x = t
  · subst hx; rw [upd_same, upd_same]
  · rw [upd_other _ _ _ _ hx, upd_other _ _ _ _ hx]; exact h x

omit [DecidableEq K] in
theorem th_keep {s : OState K V} {m : MState K V} (h : ∀ x, m.th x = absTh (s.pc x)) {t : Nat}
    {p : PC K V} (hab : absTh p = absTh (s.pc t)) : ∀ x, m.th x = absTh (upd s.pc t p x) := by
  intro x
  by_cases hx : x = t
  · subst hx; rw [upd_same, hab]; exact h x
  · rw [upd_other _ _ _ _ hx]; exact h x

omit [DecidableEq K] in
theorem called_upd {s : OState K V} {c c' : K → Bool}
    (h : ∀ x k, (s.pc x).key = some k → c k = true) (hmono : ∀ k, c k = true → c' k = true)
    {t : Nat} {p : PC K V} (hp : ∀ k, p.key = some k → c' k = true) :
    ∀ x k, (upd s.pc t p x).key = some k → c' k = true := by
  intro x k hk
  by_cases hx : x = t
  · subst hx; rw [upd_same] at hk; exact hp k hk
  · rw [upd_other _ _ _ _ hx] at hk; exact hmono k (h x k hk)

omit [DecidableEq K] in
/-- silent steps that only move one program counter inside `Get` (not into / out of the
constructor) and leave map, cached values and construction counts alone -/
theorem sim_tau_pc {s s' : OState K V} {m : MState K V} {t : Nat} {p' : PC K V} (hs : Sim s m)
    (hpc : s'.pc = upd s.pc t p') (hst : s'.stored = s.stored) (hca : s'.cached = s.cached)
    (hcc : s'.ctorCalls = s.ctorCalls) (hab : absTh p' = absTh (s.pc t)) (hkey : p'.key = (s.pc t).key)
    (hold : (s.pc t).isInCtor = false) : Sim s' m where
  th := hpc ▸ th_keep hs.th hab
  ph k := (hs.ph k).frame (hcc ▸ id) (fun _ _ hw => hpc ▸ inCtor_upd p' hold hw)
    (fun l _ hl hc => ⟨l, hst ▸ hl, hca ▸ hc⟩)
  called := hpc ▸ called_upd hs.called (fun _ h => h) fun k hk => hs.called t k (hkey ▸ hk)

theorem sim_step [DecidableEq V] {s s' : OState K V} {m : MState K V} {t : Nat} {i : In K V}
    {e : Option (Ev K V)} (inv : Inv s) (hs : Sim s m) (hn : next s t i = some (s', e)) :
    match e with
    | none => Sim s' m
    | some ev => ∃ m', mstep m ev = some m' ∧ Sim s' m' := by
  cases Step.of_next hn with
  | loadHit hpc _ | loadMiss hpc _ | send hpc _ _ | losHit hpc _ | recvOk hpc _ | recvClosed hpc _ _
  | close hpc _ =>
    exact sim_tau_pc hs rfl rfl rfl rfl (by simp [hpc, absTh]) (by simp [hpc, PC.key]) (by simp [hpc, PC.isInCtor])
  | @sendClosed k hpc hc => simp [(inv.atSend t k hpc).1] at hc
  | @closeClosed k l hpc hc => simp [(inv.holds t k l (by simp [hpc, PC.holds])).2] at hc
  | call k hpc =>
    have hth := hs.th t
    rw [hpc] at hth
    have hidle : (s.pc t).isInCtor = false := by simp [hpc, PC.isInCtor]
    refine ⟨_, by simp only [mstep, hth]; rfl, th_upd hs.th t (.load k), fun k' => ?_, ?_⟩
    · exact (hs.ph k').frame id (fun _ _ hw => inCtor_upd _ hidle hw) fun l _ hl hc => ⟨l, hl, hc⟩
    · refine called_upd hs.called (fun k' h => ?_) fun k' hk => ?_
      · simp only [upd_apply]; split <;> simp [h]
      · simp only [PC.key, Option.some.injEq] at hk; subst hk; simp
  | @mk k hpc =>
    -- `cached` of the unpublished loader `t` is reset
    have hns := not_stored_of_before inv.storedWf (t := t) (by simp [hpc, PC.afterLos])
    have hidle : (s.pc t).isInCtor = false := by simp [hpc, PC.isInCtor]
    refine ⟨th_keep hs.th (by simp [hpc, absTh]), fun k' => ?_,
      called_upd hs.called (fun _ h => h) fun k' hk => hs.called t k' (by simpa [hpc, PC.key] using hk)⟩
    refine (hs.ph k').frame id (fun _ _ hw => inCtor_upd _ hidle hw) fun l v hl hc => ⟨l, hl, ?_⟩
    exact (upd_other _ _ _ _ (show l ≠ t from fun h => hns k' (h ▸ hl))).trans hc
  | @losMiss k hpc hst =>
    have hidle : (s.pc t).isInCtor = false := by simp [hpc, PC.isInCtor]
    refine ⟨th_keep hs.th (by simp [hpc, absTh]), fun k' => ?_,
      called_upd hs.called (fun _ h => h) fun k' hk => hs.called t k' (by simpa [hpc, PC.key] using hk)⟩
    refine (hs.ph k').frame id (fun _ _ hw => inCtor_upd _ hidle hw) fun l v hl hc => ⟨l, ?_, hc⟩
    exact (upd_other _ _ _ _ (show k' ≠ k from fun h => by rw [h, hst] at hl; cases hl)).trans hl
  | @ctorStart k l hpc =>
    have hc0 := (inv.atConstruct t k l hpc).1
    have hst := inv.usesStored t k l (by simp [hpc, PC.uses])
    have hph : m.ph k = .notStarted := by
      have := hs.ph k
      cases hm : m.ph k with
      | notStarted => rfl
      | running =>
        rw [hm] at this
        obtain ⟨w, l', hw⟩ := this
        have := (inv.atInCtor w k l' hw).1
        omega
      | built v =>
        rw [hm] at this
        obtain ⟨l', hl', hc⟩ := this
        rw [hst] at hl'; cases hl'
        have := (inv.atConstruct t k l hpc).2
        rw [this] at hc; simp at hc
    have hcalled := hs.called t k (by simp [hpc, PC.key])
    have hidle : (s.pc t).isInCtor = false := by simp [hpc, PC.isInCtor]
    refine ⟨{ m with ph := upd m.ph k .running }, by simp only [mstep, hph, hcalled],
      th_keep hs.th (by simp [hpc, absTh]),
      fun k' => ?_,
      called_upd hs.called (fun _ h => h) fun k' hk => hs.called t k' (by simpa [hpc, PC.key] using hk)⟩
    show PhOk _ k' (upd m.ph k .running k')
    by_cases hk : k' = k
    · subst hk; rw [upd_same]; exact ⟨t, l, upd_same _ _ _⟩
    · rw [upd_other _ _ _ _ hk]
      exact (hs.ph k').frame (fun h => (upd_other _ _ _ _ hk).trans h)
        (fun _ _ hw => inCtor_upd _ hidle hw) fun l _ hl hc => ⟨l, hl, hc⟩
  | @ctorEnd k l v hpc =>
    have hc1 := inv.atInCtor t k l hpc
    have hst := inv.usesStored t k l (by simp [hpc, PC.uses])
    have hph : m.ph k = .running := by
      have := hs.ph k
      cases hm : m.ph k with
      | notStarted => rw [hm] at this; simp only [PhOk] at this; omega
      | running => rfl
      | built v' =>
        rw [hm] at this
        obtain ⟨l', hl', hc⟩ := this
        rw [hst] at hl'; cases hl'
        rw [hc1.2] at hc; simp at hc
    refine ⟨{ m with ph := upd m.ph k (.built v) }, by simp only [mstep, hph],
      th_keep hs.th (by simp [hpc, absTh]), fun k' => ?_,
      called_upd hs.called (fun _ h => h) fun k' hk => hs.called t k' (by simpa [hpc, PC.key] using hk)⟩
    show PhOk _ k' (upd m.ph k (.built v) k')
    by_cases hk : k' = k
    · subst hk; rw [upd_same]; exact ⟨l, hst, upd_same _ _ _⟩
    · rw [upd_other _ _ _ _ hk]
      refine (hs.ph k').frame id (fun w l' hw => ⟨w, l', ?_⟩) fun l' v' hl hc => ⟨l', hl, ?_⟩
      · -- the thread that leaves the constructor works on `k`, not on `k'`
        exact (upd_other _ _ _ _ (show w ≠ t from fun h => by rw [h, hpc] at hw; cases hw; exact hk rfl)).trans hw
      · exact (upd_other _ _ _ _ (show l' ≠ l from fun h => hk (stored_key_unique inv.storedWf hst (h ▸ hl)))).trans hc
  | @ret k l hpc =>
    have hcl := inv.atRead t k l hpc
    have hst := inv.usesStored t k l (by simp [hpc, PC.uses])
    have hclosed := inv.closed k l hst hcl
    have hth := hs.th t
    rw [hpc] at hth
    simp only [absTh] at hth
    obtain ⟨v, hph, hv⟩ : ∃ v, m.ph k = .built v ∧ s.cached l = some v := by
      have := hs.ph k
      cases hm : m.ph k with
      | notStarted => rw [hm] at this; simp only [PhOk] at this; omega
      | running =>
        rw [hm] at this
        obtain ⟨w, l', hw⟩ := this
        have hst' := inv.usesStored w k l' (by simp [hw, PC.uses])
        rw [hst] at hst'; cases hst'
        have := (inv.holds w k l (by simp [hw, PC.holds])).2
        rw [this] at hcl; simp at hcl
      | built v =>
        rw [hm] at this
        obtain ⟨l', hl', hc⟩ := this
        rw [hst] at hl'; cases hl'
        exact ⟨v, rfl, hc⟩
    have hidle : (s.pc t).isInCtor = false := by simp [hpc, PC.isInCtor]
    refine ⟨{ m with th := upd m.th t .returned }, by simp [mstep, hth, hph, hv],
      th_upd hs.th t (.done k (s.cached l)), fun k' => ?_,
      called_upd hs.called (fun _ h => h) fun k' hk => hs.called t k' (by simpa [hpc, PC.key] using hk)⟩
    exact (hs.ph k').frame id (fun _ _ hw => inCtor_upd _ hidle hw) fun l _ hl hc => ⟨l, hl, hc⟩

theorem mrun_append [DecidableEq V] (m : MState K V) (es : List (Ev K V)) (e : Ev K V) (m' m'' : MState K V)
    (h₁ : mrun m es = some m') (h₂ : mstep m' e = some m'') : mrun m (es ++ [e]) = some m'' := by
  induction es generalizing m with
  | nil => simp only [mrun, Option.some.injEq] at h₁; subst h₁; simp [mrun, h₂]
  | cons a as ih =>
    simp only [mrun, List.cons_append] at h₁ ⊢
    split at h₁
    · rename_i m₁ hm₁; exact ih m₁ h₁
    · cases h₁

theorem trace_reachable {s : OState K V} {es : List (Ev K V)} {s' : OState K V}
    (hr : Reachable s) (ht : Trace s es s') : Reachable s' := by
  induction ht with
  | nil => exact hr
  | tau _ hn ih => exact .step ih hn
  | vis _ hn ih => exact .step ih hn

theorem trace_sim [DecidableEq V] {es : List (Ev K V)} {s : OState K V}
    (ht : Trace (OState.init : OState K V) es s) :
    ∃ m, mrun (MState.init : MState K V) es = some m ∧ Sim s m := by
  induction ht with
  | nil => exact ⟨_, rfl, sim_init⟩
  | tau ht' hn ih =>
    obtain ⟨m, hm, hsim⟩ := ih
    have inv := reachable_inv (trace_reachable .init ht')
    exact ⟨m, hm, sim_step inv hsim hn⟩
  | vis ht' hn ih =>
    obtain ⟨m, hm, hsim⟩ := ih
    have inv := reachable_inv (trace_reachable .init ht')
    obtain ⟨m', hm', hsim'⟩ := sim_step inv hsim hn
    exact ⟨m', mrun_append _ _ _ _ _ hm hm', hsim'⟩

/-! ### What accepted histories satisfy -/

/-- The accepted events of the monitor, one constructor per branch of `mstep`. -/
inductive MStep [DecidableEq V] (m : MState K V) : Ev K V → MState K V → Prop
  | call {t : Nat} {k : K} (hth : m.th t = .fresh) :
      MStep m (.call t k) { m with th := upd m.th t (.inGet k), called := upd m.called k true }
  | ctorStart {k : K} (hph : m.ph k = .notStarted) (hc : m.called k = true) :
      MStep m (.ctorStart k) { m with ph := upd m.ph k .running }
  | ctorEnd {k : K} {v : V} (hph : m.ph k = .running) :
      MStep m (.ctorEnd k v) { m with ph := upd m.ph k (.built v) }
  | ret {t : Nat} {k : K} {v : V} (hth : m.th t = .inGet k) (hph : m.ph k = .built v) :
      MStep m (.ret t k (some v)) { m with th := upd m.th t .returned }

theorem MStep.of_mstep [DecidableEq V] {m m' : MState K V} {e : Ev K V} (h : mstep m e = some m') :
    MStep m e m' := by
  cases e with
  | call t k =>
    simp only [mstep] at h
    split at h
    next hth => cases h; exact .call hth
    next => cases h
  | ctorStart k =>
    simp only [mstep] at h
    split at h
    next hph hc => cases h; exact .ctorStart hph hc
    next => cases h
  | ctorEnd k v =>
    simp only [mstep] at h
    split at h
    next hph => cases h; exact .ctorEnd hph
    next => cases h
  | ret t k r =>
    simp only [mstep] at h
    split at h
    next k' v v' hth hph =>
      split at h
      next hc => cases h; obtain ⟨rfl, rfl⟩ := hc; exact .ret hth hph
      next => cases h
    next => cases h

/-- a key that is built stays built, with the same value -/
theorem mstep_built [DecidableEq V] {m m' : MState K V} {e : Ev K V} (h : mstep m e = some m')
    {k : K} {v : V} (hb : m.ph k = .built v) : m'.ph k = .built v := by
  cases MStep.of_mstep h with
  | call _ | ret _ _ => exact hb
  | @ctorStart k' hph _ | @ctorEnd k' _ hph =>
    have : k ≠ k' := by rintro rfl; rw [hb] at hph; cases hph
    exact (upd_other _ _ _ _ this).trans hb

theorem mrun_built [DecidableEq V] {m m' : MState K V} {es : List (Ev K V)} (h : mrun m es = some m')
    {k : K} {v : V} (hb : m.ph k = .built v) : m'.ph k = .built v := by
  induction es generalizing m with
  | nil => simp only [mrun, Option.some.injEq] at h; subst h; exact hb
  | cons e es ih =>
    simp only [mrun] at h
    split at h
    · rename_i m₁ hm₁; exact ih h (mstep_built hm₁ hb)
    · cases h

/-- one event: the start count of `k` goes up exactly when the event is a start of `k` -/
theorem mstep_starts [DecidableEq V] {m m' : MState K V} {e : Ev K V} (h : mstep m e = some m')
    (k : K) : (if Ev.isStart k e then 1 else 0) + (m.ph k).started = (m'.ph k).started := by
  cases MStep.of_mstep h with
  | call _ | ret _ _ => simp [Ev.isStart]
  | @ctorStart k' hph _ =>
    by_cases hk : k' = k
    · subst hk; simp [Ev.isStart, MPh.started, hph]
    · have : k ≠ k' := fun h => hk h.symm
      simp [Ev.isStart, hk, upd_other _ _ _ _ this]
  | @ctorEnd k' _ hph =>
    by_cases hk : k = k'
    · subst hk; simp [Ev.isStart, MPh.started, hph]
    · simp [Ev.isStart, upd_other _ _ _ _ hk]

theorem mrun_starts [DecidableEq V] {m m' : MState K V} {es : List (Ev K V)} (h : mrun m es = some m')
    (k : K) : es.countP (Ev.isStart k) + (m.ph k).started = (m'.ph k).started := by
  induction es generalizing m with
  | nil => simp only [mrun, Option.some.injEq] at h; subst h; simp
  | cons e es ih =>
    simp only [mrun] at h
    split at h
    · rename_i m₁ hm₁
      have := ih h
      have := mstep_starts hm₁ k
      rw [List.countP_cons]
      omega
    · cases h

theorem mrun_rets [DecidableEq V] {m m' : MState K V} {es : List (Ev K V)} (h : mrun m es = some m')
    {t : Nat} {k : K} {r : Option V} (hr : Ev.ret t k r ∈ es) : ∃ v, r = some v ∧ m'.ph k = .built v := by
  induction es generalizing m with
  | nil => simp at hr
  | cons e es ih =>
    simp only [mrun] at h
    split at h
    · rename_i m₁ hm₁
      rcases List.mem_cons.1 hr with rfl | htail
      · cases MStep.of_mstep hm₁ with
        | ret _ hph => exact ⟨_, rfl, mrun_built h hph⟩
      · exact ih h htail
    · cases h

theorem runSteps_reachable {s s' : OState K V} (hr : Reachable s) (l : List (Nat × In K V))
    (h : runSteps s l = some s') : Reachable s' := by
  induction l generalizing s with
  | nil => simp only [runSteps, Option.some.injEq] at h; subst h; exact hr
  | cons a l ih =>
    obtain ⟨t, i⟩ := a
    simp only [runSteps] at h
    split at h
    · rename_i s₁ e hs₁; exact ih (.step hr hs₁) h
    · cases h

/-! ### Enabledness -/

/-- enabledness of the next step of invocation `t`, read off the code: only a channel
operation can block -/
def canStep (s : OState K V) (t : Nat) : Prop :=
  match s.pc t with
  | .send _ => (s.chan t).closed = true ∨ (s.chan t).buf < 1
  | .recv _ l => 0 < (s.chan l).buf ∨ (s.chan l).closed = true
  | .done _ _ => False
  | .panicked _ => False
  | _ => True

theorem enabled_iff_canStep [Inhabited K] [Inhabited V] (s : OState K V) (t : Nat) :
    Enabled s t ↔ canStep s t := by
  unfold Enabled canStep
  constructor
  · rintro ⟨i, ⟨s', e⟩, hn⟩
    cases Step.of_next hn with
    | sendClosed hpc hc => rw [hpc]; exact .inl hc
    | send hpc _ hb => rw [hpc]; exact .inr hb
    | recvOk hpc hb => rw [hpc]; exact .inl hb
    | recvClosed hpc _ hc => rw [hpc]; exact .inr hc
    | _ => simp only [*]
  · intro hc
    have ex {i s' e} (h : Step s t i s' e) : ∃ i r, next s t i = some r := ⟨i, _, h.to_next⟩
    cases hpc : s.pc t with
    | idle => exact ex (.call default hpc)
    | load k =>
      cases hst : s.stored k with
      | none => exact ex (.loadMiss hpc hst)
      | some l => exact ex (.loadHit hpc hst)
    | mk k => exact ex (.mk hpc)
    | send k =>
      cases hcl : (s.chan t).closed with
      | true => exact ex (.sendClosed hpc hcl)
      | false => exact ex (.send hpc hcl (by simpa [hpc, hcl] using hc))
    | los k =>
      cases hst : s.stored k with
      | none => exact ex (.losMiss hpc hst)
      | some l => exact ex (.losHit hpc hst)
    | recv k l =>
      by_cases hb : 0 < (s.chan l).buf
      · exact ex (.recvOk hpc hb)
      · exact ex (.recvClosed hpc hb (by simpa [hpc, hb] using hc))
    | construct k l => exact ex (.ctorStart hpc)
    | inCtor k l => exact ex (.ctorEnd default hpc)
    | close k l =>
      cases hcl : (s.chan l).closed with
      | true => exact ex (.closeClosed hpc hcl)
      | false => exact ex (.close hpc hcl)
    | readCached k l => exact ex (.ret hpc)
    | done k r => simp [hpc] at hc
    | panicked k => simp [hpc] at hc

/-! ### Semaphore runs -/

theorem srun_iff_trace (s : SState) (ls : List SLabel) (s' : SState) :
    srun s ls = some s' ↔ STrace s ls s' := by
  induction ls generalizing s with
  | nil =>
    simp only [srun, Option.some.injEq]
    constructor
    · rintro rfl; exact .nil _
    · intro h; cases h; rfl
  | cons l ls ih =>
    simp only [srun]
    constructor
    · intro h
      split at h
      · rename_i s₁ hs₁; exact .cons hs₁ ((ih s₁).1 h)
      · simp at h
    · intro h
      cases h with
      | cons hs₁ ht => rw [hs₁]; exact (ih _).2 ht


end GolibsVerif.C17
