/-
`net/netip` formatter model: the round trip
`parseAddr (addrString a) = some a` for every well-formed `a` (IPv4, IPv6 with every layout
of zero groups, IPv4-mapped IPv6, any zone).
-/
import GolibsVerif.Lemmas.NetipFmtRT

namespace GolibsVerif.Netip
open GolibsVerif GolibsVerif.Str GolibsVerif.C04 GolibsVerif.Netutil

theorem appendTo4_v4At (ret : Bytes) (q : List Nat) (hl : q.length = 4) (hb : ∀ x ∈ q, x < 256) :
    appendTo4 ret (v4At q) = ret ++ joinDot (q.map dec) := by
  match q, hl with
  | [x0, x1, x2, x3], _ =>
    simp [appendTo4, v4At, appendDecimal_eq _ _ (hb x0 (by simp)), appendDecimal_eq _ _ (hb x1 (by simp)),
      appendDecimal_eq _ _ (hb x2 (by simp)), appendDecimal_eq _ _ (hb x3 (by simp)), joinDot_cons_cons, joinDot]

theorem rt_v4 (b : List Nat) (hl : b.length = 4) (hb : ∀ x ∈ b, x < 256) :
    parseAddr (appendTo4 [] (v4At b)) = some (.v4 b) := by
  rw [appendTo4_v4At _ b hl hb]
  exact C04.parseAddr_dec b hl hb

theorem range_split (zs ze n : Nat) (h1 : zs ≤ ze) (h2 : ze ≤ n) :
    List.range' 0 n = List.range' 0 zs ++ List.range' zs (ze - zs) ++ List.range' ze (n - ze) := by
  have a := List.range'_append_1 (s := 0) (m := zs) (n := ze - zs)
  have c := List.range'_append_1 (s := 0) (m := ze) (n := n - ze)
  rw [Nat.zero_add] at a c
  rw [a, show zs + (ze - zs) = ze by omega, c, show ze + (n - ze) = n by omega]

theorem map_zero (g : Nat → Nat) (zs n : Nat) (h : ∀ k, zs ≤ k → k < zs + n → g k = 0) :
    (List.range' zs n).map g = List.replicate n 0 := by
  induction n generalizing zs with
  | zero => rfl
  | succ n ih =>
    rw [List.range'_succ, List.map_cons, h zs (Nat.le_refl _) (by omega), List.replicate_succ,
      ih (zs + 1) (fun k h1 h2 => h k (by omega) (by omega))]

theorem rt_v6 (b : List Nat) (zone : Bytes) (hl : b.length = 16) (hb : ∀ x ∈ b, x < 256) :
    parseAddr (appendTo6 [] b zone) = some (.v6 b zone) := by
  have hmap : ∀ l : List Nat, ∀ y ∈ l.map (v6u16 b), y < 65536 := by
    intro l y hy
    obtain ⟨i, _, rfl⟩ := List.mem_map.1 hy
    exact v6u16_lt b hb i
  have hz := findZeroRun_ok (v6u16 b) 8 0 (255, 255) (Or.inl (by decide))
  unfold appendTo6
  simp only []
  generalize findZeroRun (v6u16 b) 8 0 (255, 255) = z at hz
  rw [emit6_eq _ z [] hz, appendZone_eq]
  by_cases h8 : 8 ≤ z.1
  · -- eight groups
    simp only [h8, if_true, List.nil_append]
    rw [parseAddr_colonJoin _ _ (hmap _) (Or.inl (by simp)), parseIPv6_zoneSuffix _ _ (colonJoin_no37 _ (hmap _)),
      split_full _ zone (by simp) (hmap _), bytes_groups 8 b hl hb]
  · -- a `::`
    simp only [h8, if_false, List.nil_append]
    rcases hz with hz | ⟨h1, h2, h3⟩
    · exact absurd hz h8
    · obtain ⟨zs, ze⟩ := z
      simp only at h1 h2 h3 h8 ⊢
      generalize hgs : (List.range' 0 zs).map (v6u16 b) = gs
      generalize hhs : (List.range' ze (8 - ze)).map (v6u16 b) = hs
      have hgs' : ∀ y ∈ gs, y < 65536 := hgs ▸ hmap _
      have hhs' : ∀ y ∈ hs, y < 65536 := hhs ▸ hmap _
      have hlen : gs.length + hs.length < 8 := by
        rw [← hgs, ← hhs]; simp; omega
      have hno : 37 ∉ colonJoin gs ++ 58 :: 58 :: colonJoin hs := by
        simp [colonJoin_no37 _ hgs', colonJoin_no37 _ hhs']
      rw [List.append_assoc, List.append_assoc, List.cons_append, List.cons_append, List.nil_append,
        parseAddr_colonJoin gs _ hgs' (Or.inr ⟨_, rfl⟩),
        show colonJoin gs ++ 58 :: 58 :: (colonJoin hs ++ zoneSuffix zone) =
          (colonJoin gs ++ 58 :: 58 :: colonJoin hs) ++ zoneSuffix zone by simp,
        parseIPv6_zoneSuffix _ _ hno, split_ell _ _ zone hlen hgs' hhs']
      congr 2
      have hb' := bytes_groups 8 b hl hb
      rw [range_split zs ze 8 (by omega) h2, List.map_append, List.map_append, bytesOf_append,
        bytesOf_append, map_zero _ zs (ze - zs) (fun k hk1 hk2 => h3 k hk1 (by omega)),
        bytesOf_replicate_zero, hgs, hhs] at hb'
      refine Eq.trans ?_ hb'
      rw [← hgs, ← hhs]
      simp only [List.length_map, List.length_range']
      rw [show 16 - 2 * (zs + (8 - ze)) = 2 * (ze - zs) by omega]

theorem is4In6_eq {b : List Nat} (hl : b.length = 16) (h4 : is4In6 b = true) :
    b = List.replicate 10 0 ++ 255 :: 255 :: b.drop 12 := by
  simp only [is4In6, Bool.and_eq_true, beq_iff_eq, List.all_eq_true] at h4
  obtain ⟨⟨h0, h10⟩, h11⟩ := h4
  have t : b.take 10 = List.replicate 10 0 := List.eq_replicate_iff.2 ⟨by simp [hl], h0⟩
  conv => lhs; rw [← List.take_append_drop 10 b, t, List.drop_eq_getElem_cons (by omega),
    List.drop_eq_getElem_cons (by omega), List.getElem_eq_getD 0, List.getElem_eq_getD 0, h10, h11]

theorem dec_head (x : Nat) (t : Bytes) : HexHead (dec x ++ t) := by
  cases h : dec x with
  | nil => exact absurd h (dec_ne_nil x)
  | cons c r => exact ⟨c, r ++ t, rfl, digit_hex (dec_digits x c (by rw [h]; simp))⟩

theorem dec_fieldOK (x : Nat) (hx : x < 256) (rest : Bytes) : C02.FieldOK (dec x) (46 :: rest) :=
  ⟨fun c hc => digit_hex (dec_digits x c hc), dec_length_pos x,
    Nat.le_trans (dec_length_le x hx) (by omega),
    by intro c h; simp at h; subst h; exact hexVal_46⟩

theorem rt_4in6 (b : List Nat) (zone : Bytes) (hl : b.length = 16) (hb : ∀ x ∈ b, x < 256)
    (h4 : is4In6 b = true) : parseAddr (appendTo4In6 [] b zone) = some (.v6 b zone) := by
  have hfun : (fun i => b.getD (12 + i) 0) = v4At (b.drop 12) := by
    funext i; simp only [v4At, List.getD_eq_getElem?_getD, List.getElem?_drop]
  have hql : (b.drop 12).length = 4 := by simp [hl]
  have hqb : ∀ x ∈ b.drop 12, x < 256 := fun x hx => hb x (List.mem_of_mem_drop hx)
  have hq := is4In6_eq hl h4
  unfold appendTo4In6
  simp only [List.nil_append]
  rw [hfun, appendTo4_v4At _ _ hql hqb, appendZone_eq]
  generalize b.drop 12 = q at hq hql hqb
  clear hl hb h4 hfun
  subst hq
  have hf := (C04.parseIPv4Fields_eq_some _ q).2 ⟨hql, hqb, rfl⟩
  -- the first octet is needed by name: the loop reads it as a hex field before it sees the dot
  match q, hql, hqb with
  | x0 :: x1 :: q', hql, hqb =>
    have hq' : q'.length = 2 := by simpa using hql
    have hq : joinDot ((x0 :: x1 :: q').map dec) = dec x0 ++ 46 :: joinDot ((x1 :: q').map dec) := by
      rw [List.map_cons, List.map_cons, joinDot_cons_cons]
    generalize joinDot ((x0 :: x1 :: q').map dec) = quad at hf hq
    have hquad : 37 ∉ quad := by
      intro hc
      rcases C02.parseIPv4Fields_chars quad (by rw [hf]; rfl) 37 hc with h | h
      · cases h
      · cases h
    have hd := parseAddr_eq_v6 [] (58 :: 102 :: 102 :: 102 :: 102 :: 58 :: (quad ++ zoneSuffix zone)) (by simp)
    rw [List.nil_append] at hd
    have hno : 37 ∉ [58, 58, 102, 102, 102, 102, 58] ++ quad := by simp [hquad]
    simp only [List.cons_append, List.nil_append]
    rw [hd,
      show 58 :: 58 :: 102 :: 102 :: 102 :: 102 :: 58 :: (quad ++ zoneSuffix zone) =
        ([58, 58, 102, 102, 102, 102, 58] ++ quad) ++ zoneSuffix zone by simp,
      parseIPv6_zoneSuffix _ _ hno]
    simp only [List.cons_append, List.nil_append, split_lead, afterEll, List.cons_ne_nil, if_false]
    -- first step: the group `ffff`
    rw [v6Loop_succ 8 _ (by simp)]
    have s1 := step_colon 65535 (by omega) quad (hq ▸ dec_head x0 _) [] (some 0)
    rw [show hexStr 65535 = [102, 102, 102, 102] by decide] at s1
    simp only [List.cons_append, List.nil_append] at s1
    rw [s1]
    simp only
    -- second step: the trailing dotted quad
    rw [v6Loop_succ 7 _ (by simp)]
    have s2 := C02.v6Step_sep (dec_fieldOK x0 (hqb x0 (by simp)) (joinDot ((x1 :: q').map dec)))
      [65535 / 256, 65535 % 256] (some 0)
    rw [← hq, hf] at s2
    rw [s2]
    simp [finish6, C02.sepOf, hq']

/-- `MarshalText` and `String` differ on the zero `Addr` only -/
theorem addrString_eq_marshalText (a : Addr) (h : a ≠ .invalid) : addrString a = addrMarshalText a := by
  cases a with
  | invalid => exact absurd rfl h
  | v4 b => rfl
  | v6 b z => rfl

/-- **`ParseAddr(a.MarshalText()) = a`** for every non-zero `netip.Addr` -/
theorem parseAddr_addrMarshalText (a : Addr) (h : WF a) : parseAddr (addrMarshalText a) = some a := by
  cases a with
  | invalid => exact absurd h (by simp [WF])
  | v4 b => exact rt_v4 b h.1 h.2
  | v6 b z =>
    unfold addrMarshalText addrAppendTo
    by_cases h4 : is4In6 b = true
    · simp only [h4, if_true]; exact rt_4in6 b z h.1 h.2 h4
    · simp only [h4]; exact rt_v6 b z h.1 h.2

/-- **`ParseAddr(a.String()) = a`** for every non-zero `netip.Addr` -/
theorem parseAddr_addrString (a : Addr) (h : WF a) : parseAddr (addrString a) = some a := by
  rw [addrString_eq_marshalText a (by rintro rfl; exact h)]
  exact parseAddr_addrMarshalText a h

end GolibsVerif.Netip
