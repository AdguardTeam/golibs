/-
C11 — ring buffer: the invariant `Inv` relates the concrete ring to the list of values pushed since
the last clear; each method is an equation on a buffer written `a ++ b` with the cursor at `a.length`;
whole scripts refine the abstract ring (`run_refines`).
-/
import GolibsVerif.Spec.C11

namespace GolibsVerif.C11

variable {σ T : Type}

theorem forRange_fst (f : Callback σ T) (s : σ) (xs : List T) :
    (forRange f s xs).1 = callUntil f s xs := by
  induction xs generalizing s with
  | nil => rfl
  | cons e rest ih =>
    simp only [forRange, callUntil]
    cases h : (f s e).2 <;> simp [ih]

theorem forRange_append (f : Callback σ T) (s : σ) (xs ys : List T) :
    forRange f s (xs ++ ys) =
      if (forRange f s xs).2 then forRange f (forRange f s xs).1 ys else forRange f s xs := by
  induction xs generalizing s with
  | nil => simp [forRange]
  | cons e rest ih =>
    simp only [List.cons_append, forRange]
    by_cases h : (f s e).2 = true <;> simp [h, ih]

theorem callUntil_append (f : Callback σ T) (s : σ) (xs ys : List T) :
    callUntil f s (xs ++ ys) =
      if (forRange f s xs).2 then callUntil f (forRange f s xs).1 ys else (forRange f s xs).1 := by
  rw [← forRange_fst, forRange_append]
  split <;> simp [forRange_fst]

theorem callUntil_stopAt_cons (k c : Nat) (acc : List T) (e : T) (rest : List T) :
    callUntil (stopAt k) (c, acc) (e :: rest) =
      if c + 1 = k then (c + 1, acc ++ [e]) else callUntil (stopAt k) (c + 1, acc ++ [e]) rest := by
  simp only [callUntil, stopAt]
  by_cases h : c + 1 = k <;> simp [h]

theorem callUntil_stopAt_zero (xs : List T) (c : Nat) (acc : List T) :
    callUntil (stopAt 0) (c, acc) xs = (c + xs.length, acc ++ xs) := by
  induction xs generalizing c acc with
  | nil => simp [callUntil]
  | cons e rest ih =>
    rw [callUntil_stopAt_cons, if_neg (Nat.succ_ne_zero c), ih, List.length_cons, List.append_assoc,
      Nat.add_assoc, Nat.add_comm 1]
    rfl

/-- stopping at the `d + 1`-th call from now shows the next `d + 1` elements -/
theorem callUntil_stopAt_succ (xs : List T) (c d : Nat) (acc : List T) :
    callUntil (stopAt (c + (d + 1))) (c, acc) xs = (c + min xs.length (d + 1), acc ++ xs.take (d + 1)) := by
  induction xs generalizing c d acc with
  | nil => simp [callUntil]
  | cons e rest ih =>
    rw [callUntil_stopAt_cons]
    cases d with
    | zero => rw [if_pos rfl]; simp
    | succ d =>
      rw [if_neg (by omega), show c + (d + 1 + 1) = c + 1 + (d + 1) by omega, ih, List.length_cons,
        Nat.add_min_add_right, List.take_succ_cons, List.append_assoc, Nat.add_assoc c 1, Nat.add_comm 1]
      rfl

theorem idx_ok {xs : List T} {i : Nat} (h : i < xs.length) : idx xs (i : Int) = .ok xs[i] := by
  have : ¬ ((i : Int) < 0) := by omega
  simp [idx, this, h]

theorem forDown_eq (f : Callback σ T) (xs : List T) (i : Nat) (h : i ≤ xs.length) (s : σ) :
    forDown f xs i s = .ok (forRange f s (xs.take i).reverse) := by
  induction i generalizing s with
  | zero => simp [forDown, forRange]
  | succ i ih =>
    have hi : i < xs.length := by omega
    have htake : (xs.take (i + 1)).reverse = xs[i] :: (xs.take i).reverse := by
      rw [List.take_succ_eq_append_getElem hi]; simp
    simp only [forDown, idx_ok hi, htake, forRange, bind, Except.bind]
    cases hc : (f s xs[i]).2
    · simp
    · simp [ih (by omega)]

theorem forDown_full (f : Callback σ T) (xs : List T) (s : σ) :
    forDown f xs xs.length s = .ok (forRange f s xs.reverse) := by
  rw [forDown_eq f xs xs.length (Nat.le_refl _)]; simp

theorem slice_prefix (s : List T) (k : Nat) (h : k ≤ s.length) :
    slice s 0 (k : Nat) = .ok (s.take k) := by
  have : (0 : Int) ≤ (k : Int) ∧ (k : Int) ≤ (s.length : Int) := by omega
  simp [slice, this]

theorem slice_suffix (s : List T) (k : Nat) (h : k ≤ s.length) :
    slice s (k : Nat) (s.length : Nat) = .ok (s.drop k) := by
  have : (0 : Int) ≤ (k : Int) ∧ (k : Int) ≤ (s.length : Int) := by omega
  simp only [slice, this, Int.toNat_natCast]
  rw [List.take_of_length_le (by simp)]
  simp

theorem setIdx_ok (s : List T) (k : Nat) (e : T) (h : k < s.length) :
    setIdx s (k : Nat) e = .ok (s.set k e) := by
  have : ¬ ((k : Int) < 0) := by omega
  simp [setIdx, this, h]

theorem lastN_length (n : Nat) (l : List T) : (lastN n l).length = min l.length n := by
  rw [lastN, List.length_drop, Nat.sub_sub_eq_min]

theorem lastN_of_le (n : Nat) (l : List T) (h : l.length ≤ n) : lastN n l = l := by
  rw [lastN, Nat.sub_eq_zero_of_le h, List.drop_zero]

theorem lastN_zero (l : List T) : lastN 0 l = [] := by
  rw [lastN, Nat.sub_zero, List.drop_length]

theorem lastN_snoc (n : Nat) (l : List T) (e : T) (hn : 0 < n) (h : n ≤ l.length) :
    lastN n (l ++ [e]) = (lastN n l).drop 1 ++ [e] := by
  rw [lastN, lastN, List.length_append, List.length_singleton, Nat.sub_add_comm h,
    List.drop_append_of_le_length (by omega), List.drop_drop]

/-- what is retained after one more push depends only on what was retained before -/
theorem lastN_lastN_snoc (n : Nat) (l : List T) (e : T) :
    lastN n (lastN n l ++ [e]) = lastN n (l ++ [e]) := by
  by_cases h : l.length ≤ n
  · rw [lastN_of_le n l h]
  · by_cases hn : n = 0
    · subst hn; simp [lastN_zero]
    · have hn0 : 0 < n := Nat.pos_of_ne_zero hn
      have hnl : n ≤ l.length := Nat.le_of_not_le h
      have hlen : (lastN n l).length = n := by rw [lastN_length, Nat.min_eq_right hnl]
      rw [lastN_snoc n l e hn0 hnl, lastN_snoc n (lastN n l) e hn0 (Nat.le_of_eq hlen.symm),
        lastN_of_le n (lastN n l) (Nat.le_of_eq hlen)]

/-! The methods on a buffer written `a ++ b` with the cursor at `a.length`. -/

/-- `Push` with the cursor on the last slot: the cursor wraps and the buffer is full -/
theorem push_last (a : List T) (x e : T) (full : Bool) :
    Ring.push ⟨a ++ [x], a.length, full⟩ e = .ok ⟨a ++ [e], 0, true⟩ := by
  have hlt : a.length < (a ++ [x]).length := by simp
  simp [Ring.push, setIdx_ok _ _ e hlt, bind, Except.bind]

theorem push_inner (a : List T) (x y : T) (b : List T) (e : T) (full : Bool) :
    Ring.push ⟨a ++ x :: y :: b, a.length, full⟩ e = .ok ⟨a ++ e :: y :: b, a.length + 1, full⟩ := by
  have hlt : a.length < (a ++ x :: y :: b).length := by simp
  have hmod : (a.length + 1) % (a.length + (b.length + 1 + 1)) = a.length + 1 := Nat.mod_eq_of_lt (by omega)
  simp [Ring.push, setIdx_ok _ _ e hlt, bind, Except.bind, hmod]

/-- `splitCur` of a non-empty buffer: what lies before the cursor, or, once the buffer is full,
what lies from the cursor on and then what lies before it -/
theorem splitCur_at (a b : List T) (full : Bool) (hne : (a ++ b).length ≠ 0) :
    Ring.splitCur ⟨a ++ b, a.length, full⟩ = .ok (if full then (b, a) else (a, [])) := by
  have hle : a.length ≤ (a ++ b).length := by rw [List.length_append]; exact Nat.le_add_right _ _
  unfold Ring.splitCur
  rw [if_neg hne]
  cases full
  · simp only [Bool.not_false, if_true]
    rw [slice_prefix _ _ hle]
    simp [bind, Except.bind]
  · simp only [Bool.not_true, Bool.false_eq_true, if_false]
    rw [slice_suffix _ _ hle, slice_prefix _ _ hle]
    simp [bind, Except.bind]

theorem current_at (zero : T) (a : List T) (x : T) (b : List T) (full : Bool) :
    Ring.current zero ⟨a ++ x :: b, a.length, full⟩ = .ok x := by
  have hlt : a.length < (a ++ x :: b).length := by simp
  unfold Ring.current
  rw [if_neg (Nat.ne_of_gt (Nat.zero_lt_of_lt hlt)), idx_ok hlt]
  simp

/-- `Inv zero n rb l`: the concrete ring `rb` of capacity `n` represents the abstract state
"`l` was pushed since creation / the last clear". -/
inductive Inv (zero : T) (n : Nat) : Ring T → List T → Prop
  /-- capacity 0: pushes are ignored -/
  | empty (l : List T) : n = 0 → Inv zero n ⟨[], 0, false⟩ l
  /-- fewer than `n` pushes: they sit at the front, the rest of the storage is zero -/
  | filling (l : List T) (k : Nat) : l.length + (k + 1) = n →
      Inv zero n ⟨l ++ List.replicate (k + 1) zero, l.length, false⟩ l
  /-- at least `n` pushes: the storage, read from the cursor round, is the last `n` -/
  | full (l a b : List T) : a.length < n → (a ++ b).length = n →
      b ++ a = lastN n l → n ≤ l.length → Inv zero n ⟨a ++ b, a.length, true⟩ l

theorem Inv.buf_length {zero : T} {n : Nat} {rb : Ring T} {l : List T} (h : Inv zero n rb l) :
    rb.buf.length = n := by
  cases h with
  | empty l h0 => exact h0.symm
  | filling l k hl => simpa using hl
  | full l a b _ hlen _ _ => exact hlen

theorem inv_new (zero : T) (n : Nat) : Inv zero n (Ring.new zero n) [] := by
  by_cases h : n = 0
  · subst h; exact Inv.empty [] rfl
  · obtain ⟨k, rfl⟩ : ∃ k, n = k + 1 := ⟨n - 1, by omega⟩
    exact Inv.filling [] k (Nat.zero_add _)

theorem inv_clear {zero : T} {n : Nat} {rb : Ring T} {l : List T} (h : Inv zero n rb l) :
    Inv zero n (rb.clear zero) [] := by
  rw [Ring.clear, h.buf_length]
  exact inv_new zero n

theorem inv_push {zero : T} {n : Nat} {rb : Ring T} {l : List T} (h : Inv zero n rb l) (e : T) :
    ∃ rb', rb.push e = .ok rb' ∧ Inv zero n rb' (l ++ [e]) := by
  cases h with
  | empty l h0 => exact ⟨_, rfl, Inv.empty _ h0⟩
  | filling l k hl =>
    rw [List.replicate_succ]
    cases k with
    | zero =>
      -- the last free slot: the buffer becomes full
      have hle : (l ++ [e]).length = n := by rw [List.length_append]; exact hl
      exact ⟨_, push_last l zero e false, Inv.full (l ++ [e]) [] (l ++ [e]) (by rw [← hl]; exact Nat.succ_pos _) hle
        (by rw [lastN_of_le n _ (Nat.le_of_eq hle), List.append_nil]) (Nat.le_of_eq hle.symm)⟩
    | succ k =>
      refine ⟨_, push_inner l zero zero _ e false, ?_⟩
      have := Inv.filling (zero := zero) (n := n) (l ++ [e]) k
        (by rw [List.length_append, ← hl, Nat.add_assoc, List.length_singleton, Nat.add_comm 1])
      simpa [List.replicate_succ] using this
  | full l a b ha hlen hrot hn =>
    have hn' : n ≤ (l ++ [e]).length := by rw [List.length_append]; exact Nat.le_add_right_of_le hn
    rw [List.length_append] at hlen
    cases b with
    | nil => exact absurd hlen (Nat.ne_of_lt ha)
    | cons x b =>
      have hlast : lastN n (l ++ [e]) = b ++ a ++ [e] := by
        rw [lastN_snoc n l e (Nat.zero_lt_of_lt ha) hn, ← hrot]; rfl
      cases b with
      | nil =>
        -- the cursor was on the last slot: it wraps to 0
        exact ⟨_, push_last a x e true, Inv.full (l ++ [e]) [] (a ++ [e]) (Nat.zero_lt_of_lt ha)
          (by rw [List.nil_append, List.length_append]; exact hlen) (by rw [hlast]; simp) hn'⟩
      | cons y b =>
        refine ⟨_, push_inner a x y b e true, ?_⟩
        have := Inv.full (zero := zero) (n := n) (l ++ [e]) (a ++ [e]) (y :: b)
          (by rw [List.length_append, ← hlen]; simp)
          (by rw [List.length_append, List.length_append, ← hlen]; simp; omega) (by rw [hlast]; simp) hn'
        simpa using this

/-- the two halves `splitCur` returns, concatenated, are what the abstract ring retains -/
theorem inv_splitCur {zero : T} {n : Nat} {rb : Ring T} {l : List T} (h : Inv zero n rb l) :
    ∃ before after, rb.splitCur = .ok (before, after) ∧ before ++ after = lastN n l := by
  cases h with
  | empty l h0 => exact ⟨[], [], rfl, by subst h0; simp [lastN_zero]⟩
  | filling l k hl =>
    exact ⟨l, [], splitCur_at l _ false (by simp),
      by rw [lastN_of_le n l (hl ▸ Nat.le_add_right _ _), List.append_nil]⟩
  | full l a b ha hlen hrot hn =>
    exact ⟨b, a, splitCur_at a b true (hlen ▸ Nat.ne_of_gt (Nat.zero_lt_of_lt ha)), hrot⟩

theorem inv_range {zero : T} {n : Nat} {rb : Ring T} {l : List T} (h : Inv zero n rb l)
    (f : Callback σ T) (s : σ) : rb.range f s = .ok (callUntil f s (lastN n l)) := by
  obtain ⟨before, after, hs, hcat⟩ := inv_splitCur h
  simp only [Ring.range, hs, bind, Except.bind, ← hcat, callUntil_append]
  cases hc : (forRange f s before).2 <;> simp [forRange_fst]

theorem inv_reverseRange {zero : T} {n : Nat} {rb : Ring T} {l : List T} (h : Inv zero n rb l)
    (f : Callback σ T) (s : σ) : rb.reverseRange f s = .ok (callUntil f s (lastN n l).reverse) := by
  obtain ⟨before, after, hs, hcat⟩ := inv_splitCur h
  simp only [Ring.reverseRange, hs, bind, Except.bind, ← hcat, List.reverse_append, callUntil_append,
    forDown_full]
  cases hc : (forRange f s after.reverse).2 <;> simp [forRange_fst]

theorem inv_len {zero : T} {n : Nat} {rb : Ring T} {l : List T} (h : Inv zero n rb l) :
    rb.len = min l.length n := by
  cases h with
  | empty l h0 => subst h0; exact (Nat.min_zero _).symm
  | filling l k hl => exact (Nat.min_eq_left (hl ▸ Nat.le_add_right _ _)).symm
  | full l a b ha hlen hrot hn => exact hlen.trans (Nat.min_eq_right hn).symm

theorem inv_current {zero : T} {n : Nat} {rb : Ring T} {l : List T} (h : Inv zero n rb l) :
    rb.current zero = .ok (oldest zero n l) := by
  cases h with
  | empty l h0 => subst h0; simp [Ring.current, oldest, lastN_zero]
  | filling l k hl =>
    rw [List.replicate_succ, current_at]
    simp [oldest, show ¬ n ≤ l.length by omega]
  | full l a b ha hlen hrot hn =>
    cases b with
    | nil => simp at hlen; omega
    | cons x b =>
      rw [current_at]
      simp [oldest, hn, ← hrot]

/-- one call: the concrete ring answers what the abstract ring answers, without panicking,
and the invariant is kept -/
theorem step_refines {zero : T} {n : Nat} {rb : Ring T} {l : List T} (h : Inv zero n rb l)
    (op : ROp σ T) :
    ∃ rb', Ring.step zero (some rb) op = (some rb', .ok (specStep zero n l op).2) ∧
      Inv zero n rb' (specStep zero n l op).1 := by
  cases op with
  | push e =>
    obtain ⟨rb', hp, hi⟩ := inv_push h e
    exact ⟨rb', by simp [Ring.step, hp, specStep], hi⟩
  | clear => exact ⟨_, by simp [Ring.step, specStep], inv_clear h⟩
  | current => exact ⟨rb, by simp [Ring.step, specStep, inv_current h, Except.map], h⟩
  | len => exact ⟨rb, by simp [Ring.step, specStep, inv_len h], h⟩
  | range f s => exact ⟨rb, by simp [Ring.step, specStep, inv_range h, Except.map], h⟩
  | reverseRange f s => exact ⟨rb, by simp [Ring.step, specStep, inv_reverseRange h, Except.map], h⟩

theorem run_refines {zero : T} {n : Nat} {rb : Ring T} {l : List T} (h : Inv zero n rb l)
    (ops : List (ROp σ T)) :
    (Ring.run zero (some rb) ops).2 = (specRun zero n l ops).map .ok ∧
    ∃ rb', (Ring.run zero (some rb) ops).1 = some rb' ∧
      Inv zero n rb' (ops.foldl (fun l op => (specStep zero n l op).1) l) := by
  induction ops generalizing rb l with
  | nil => exact ⟨rfl, rb, rfl, h⟩
  | cons op rest ih =>
    obtain ⟨rb', hstep, hinv⟩ := step_refines h op
    obtain ⟨ih1, ih2⟩ := ih hinv
    simp only [Ring.run, hstep, specRun, List.map_cons, List.foldl_cons]
    exact ⟨by rw [ih1], ih2⟩

theorem spec_state_eq (zero : T) (n : Nat) (ops : List (ROp σ T)) :
    ops.foldl (fun l op => (specStep zero n l op).1) [] = pushesSinceClear ops := by
  have : (fun l (op : ROp σ T) => (specStep zero n l op).1) = absStep := by
    funext l op; cases op <;> rfl
  rw [this]; rfl

end GolibsVerif.C11
