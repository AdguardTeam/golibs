/-
The models of `strings.Cut`, `IndexByte`, `LastIndexByte` and `Split` (`Go/Strings.lean`) on a
string cut at the first or the last occurrence of a byte: `first_cases` / `last_cases` give the
form `b ++ c :: a`, the `*_append_sep` / `*_not_mem` lemmas evaluate each function on it.  For
`splitOn` also `splitOn_induction`, `join_splitOn` and `mem_splitOn`.
-/
import GolibsVerif.Go.Strings
import GolibsVerif.Lemmas.ListFacts

namespace GolibsVerif.Str

theorem splitOn_ne_nil (c : Nat) (s : Bytes) : splitOn c s ≠ [] := by
  induction s with
  | nil => simp [splitOn]
  | cons b rest ih =>
    unfold splitOn
    split
    · simp
    · split
      · simp
      · simp

/-! ### `strings.HasPrefix`, `strings.HasSuffix` -/

theorem hasPrefix_iff (s p : Bytes) : hasPrefix s p = true ↔ p <+: s := by
  simp [hasPrefix]

theorem hasSuffix_iff (s p : Bytes) : hasSuffix s p = true ↔ p <:+ s := by
  simp [hasSuffix]

/-! ### the first and the last occurrence of a byte: `strings.Cut`, `IndexByte`, `LastIndexByte`, `Split` -/

theorem cut_append_sep (c : Nat) (b a : Bytes) (h : c ∉ b) : cut c (b ++ c :: a) = (b, a, true) := by
  induction b with
  | nil => simp [cut]
  | cons x t ih =>
    obtain ⟨hx, ht⟩ := List.ne_and_not_mem_of_not_mem_cons h
    have hx := Ne.symm hx
    simp [cut, hx, ih ht]

theorem cut_not_mem (c : Nat) (s : Bytes) (h : c ∉ s) : cut c s = (s, [], false) := by
  induction s with
  | nil => simp [cut]
  | cons x t ih =>
    obtain ⟨hx, ht⟩ := List.ne_and_not_mem_of_not_mem_cons h
    have hx := Ne.symm hx
    simp [cut, hx, ih ht]

theorem drop_succ_append_cons (b a : Bytes) (c : Nat) : (b ++ c :: a).drop (b.length + 1) = a := by
  rw [show b ++ c :: a = (b ++ [c]) ++ a by simp]
  exact List.drop_left' (by simp)

theorem first_cases (c : Nat) (s : Bytes) : c ∉ s ∨ ∃ b a, s = b ++ c :: a ∧ c ∉ b := by
  induction s with
  | nil => left; simp
  | cons x t ih =>
    by_cases hx : x = c
    · right; exact ⟨[], t, by simp [hx], by simp⟩
    · rcases ih with h | ⟨b, a, rfl, hb⟩
      · left; simp [h, Ne.symm hx]
      · right; exact ⟨x :: b, a, by simp, by simp [hb, Ne.symm hx]⟩

theorem indexByteFrom_append (c : Nat) (a t : Bytes) (i : Nat) (h : c ∉ a) :
    indexByteFrom c (a ++ t) i = indexByteFrom c t (i + a.length) := by
  induction a generalizing i with
  | nil => rfl
  | cons x a ih =>
    obtain ⟨hx, ht⟩ := List.ne_and_not_mem_of_not_mem_cons h
    have hx := Ne.symm hx
    simp only [List.cons_append, indexByteFrom, hx, if_false, ih _ ht, List.length_cons]
    congr 1; omega

theorem indexByteFrom_not_mem (c : Nat) (s : Bytes) (i : Nat) (h : c ∉ s) :
    indexByteFrom c s i = -1 := by
  simpa [indexByteFrom] using indexByteFrom_append c s [] i h

theorem indexByteFrom_append_sep (c : Nat) (b a : Bytes) (i : Nat) (h : c ∉ b) :
    indexByteFrom c (b ++ c :: a) i = ((i + b.length : Nat) : Int) := by
  rw [indexByteFrom_append c b _ i h]; simp [indexByteFrom]

theorem indexByte_not_mem (c : Nat) (s : Bytes) (h : c ∉ s) : indexByte s c = -1 :=
  indexByteFrom_not_mem c s 0 h

theorem indexByte_append_sep (c : Nat) (b a : Bytes) (h : c ∉ b) :
    indexByte (b ++ c :: a) c = (b.length : Int) := by
  unfold indexByte
  rw [indexByteFrom_append_sep c b a 0 h]; simp

theorem indexByteFrom_bounds (c : Nat) (s : Bytes) (k : Nat) :
    indexByteFrom c s k = -1 ∨ ((k : Int) ≤ indexByteFrom c s k ∧ indexByteFrom c s k < k + s.length) := by
  rcases first_cases c s with h | ⟨b, a, rfl, hb⟩
  · exact Or.inl (indexByteFrom_not_mem c s k h)
  · rw [indexByteFrom_append_sep c b a k hb]
    exact Or.inr (by simp only [List.length_append, List.length_cons]; omega)

theorem indexByte_bounds (s : Bytes) (c : Nat) :
    indexByte s c = -1 ∨ (0 ≤ indexByte s c ∧ indexByte s c < s.length) := by
  simpa [indexByte] using indexByteFrom_bounds c s 0

theorem lastIndexByte_not_mem (c : Nat) (s : Bytes) (h : c ∉ s) : lastIndexByte s c = -1 := by
  unfold lastIndexByte
  rw [indexByte_not_mem c s.reverse (by simpa using h)]
  rfl

theorem lastIndexByte_append_sep (c : Nat) (a b : Bytes) (h : c ∉ b) :
    lastIndexByte (a ++ c :: b) c = (a.length : Int) := by
  unfold lastIndexByte
  have : (a ++ c :: b).reverse = b.reverse ++ c :: a.reverse := by simp
  rw [this, indexByte_append_sep c b.reverse a.reverse (by simpa using h)]
  simp only [List.length_reverse, List.length_append, List.length_cons]
  show ((a.length + (b.length + 1) : Nat) : Int) - 1 - (b.length : Int) = (a.length : Int)
  omega

theorem last_cases (c : Nat) (s : Bytes) : c ∉ s ∨ ∃ a b, s = a ++ c :: b ∧ c ∉ b := by
  rcases first_cases c s.reverse with h | ⟨b, a, hs, hb⟩
  · left; simpa using h
  · right
    refine ⟨a.reverse, b.reverse, ?_, by simpa using hb⟩
    have := congrArg List.reverse hs
    simpa using this

theorem splitOn_append_nosep (c : Nat) (pre x : Bytes) (h : c ∉ pre) :
    ∃ p ps, splitOn c x = p :: ps ∧ splitOn c (pre ++ x) = (pre ++ p) :: ps := by
  induction pre with
  | nil =>
    have hne := splitOn_ne_nil c x
    cases hs : splitOn c x with
    | nil => exact absurd hs hne
    | cons p ps => exact ⟨p, ps, rfl, by simp [hs]⟩
  | cons a t ih =>
    obtain ⟨ha, ht⟩ := List.ne_and_not_mem_of_not_mem_cons h
    have ha := Ne.symm ha
    obtain ⟨p, ps, h1, h2⟩ := ih ht
    exact ⟨p, ps, h1, by simp [splitOn, ha, h2]⟩

theorem splitOn_not_mem (c : Nat) (s : Bytes) (h : c ∉ s) : splitOn c s = [s] := by
  obtain ⟨p, ps, h1, h2⟩ := splitOn_append_nosep c s [] h
  cases h1
  simpa using h2

theorem splitOn_append_sep (c : Nat) (b a : Bytes) (h : c ∉ b) :
    splitOn c (b ++ c :: a) = b :: splitOn c a := by
  obtain ⟨p, ps, h1, h2⟩ := splitOn_append_nosep c b (c :: a) h
  rw [h2]
  simp only [splitOn, if_true] at h1
  cases h1; simp

/-- The Go loop `label, tail, found := strings.Cut(s, "."); for ; found; label, tail, found =
strings.Cut(tail, ".")` visits exactly the pieces of `splitOn`: one `Cut` peels the first
piece off, and the loop ends with the last piece when the separator is not found. -/
theorem splitOn_cut (c : Nat) (s : Bytes) :
    splitOn c s =
      match cut c s with
      | (before, after, true) => before :: splitOn c after
      | (before, _, false) => [before] := by
  rcases first_cases c s with h | ⟨b, a, rfl, hb⟩
  · rw [cut_not_mem c s h, splitOn_not_mem c s h]
  · rw [cut_append_sep c b a hb, splitOn_append_sep c b a hb]

/-- induction along `strings.Split`: a string without the separator, or a first piece, the
separator and the rest -/
theorem splitOn_induction (c : Nat) {P : Bytes → Prop} (h0 : ∀ s, c ∉ s → P s)
    (h1 : ∀ b a, c ∉ b → P a → P (b ++ c :: a)) (s : Bytes) : P s := by
  rcases first_cases c s with h | ⟨b, a, rfl, hb⟩
  · exact h0 s h
  · exact h1 b a hb (splitOn_induction c h0 h1 a)
termination_by s.length
decreasing_by subst s; simp; omega

theorem join_splitOn (c : Nat) (s : Bytes) : [c].intercalate (splitOn c s) = s := by
  induction s using splitOn_induction c with
  | h0 s h => rw [splitOn_not_mem c s h]; simp
  | h1 b a hb ih =>
    rw [splitOn_append_sep c b a hb]
    obtain ⟨p, ps, hp⟩ := List.exists_cons_of_ne_nil (splitOn_ne_nil c a)
    rw [hp] at ih ⊢
    rw [List.intercalate_cons_cons, ih]; simp

theorem mem_splitOn (c : Nat) (s : Bytes) : ∀ x ∈ s, x = c ∨ ∃ p ∈ splitOn c s, x ∈ p := by
  induction s using splitOn_induction c with
  | h0 s h => exact fun x hx => Or.inr ⟨s, by rw [splitOn_not_mem c s h]; simp, hx⟩
  | h1 b a hb ih =>
    intro x hx
    rw [splitOn_append_sep c b a hb]
    rcases List.mem_append.1 hx with h | h
    · exact Or.inr ⟨b, by simp, h⟩
    · rcases List.mem_cons.1 h with rfl | h
      · exact Or.inl rfl
      · exact (ih x h).imp_right fun ⟨p, hp, hxp⟩ => ⟨p, by simp [hp], hxp⟩

theorem mem_of_mem_splitOn (c : Nat) (s : Bytes) : ∀ l ∈ splitOn c s, ∀ x ∈ l, x ∈ s := by
  induction s using splitOn_induction c with
  | h0 s h =>
    rw [splitOn_not_mem c s h]
    intro l hl x hx
    rw [List.mem_singleton.1 hl] at hx; exact hx
  | h1 b a hb ih =>
    rw [splitOn_append_sep c b a hb]
    intro l hl x hx
    rcases List.mem_cons.1 hl with rfl | hl
    · simp [hx]
    · simp [ih l hl x hx]

theorem length_splitOn_le (c : Nat) (s : Bytes) : (splitOn c s).length ≤ s.length + 1 := by
  induction s using splitOn_induction c with
  | h0 s h => simp [splitOn_not_mem c s h]
  | h1 b a hb ih => rw [splitOn_append_sep c b a hb]; simp; omega

theorem splitOn_snoc_sep (c : Nat) (s : Bytes) : splitOn c (s ++ [c]) = splitOn c s ++ [[]] := by
  induction s using splitOn_induction c with
  | h0 s h => rw [splitOn_append_sep c s [] h, splitOn_not_mem c s h]; rfl
  | h1 b a hb ih =>
    rw [List.append_assoc, List.cons_append, splitOn_append_sep c b _ hb, ih,
      splitOn_append_sep c b a hb]; rfl

theorem intercalate_snoc_nil (c : Nat) (L : List Bytes) (h : L ≠ []) :
    [c].intercalate (L ++ [[]]) = [c].intercalate L ++ [c] := by
  induction L with
  | nil => exact absurd rfl h
  | cons x t ih =>
    cases t with
    | nil => simp [List.intercalate_cons_cons]
    | cons y t =>
      have := ih (by simp)
      simp only [List.cons_append] at this ⊢
      rw [List.intercalate_cons_cons, this, List.intercalate_cons_cons]
      simp

end GolibsVerif.Str
