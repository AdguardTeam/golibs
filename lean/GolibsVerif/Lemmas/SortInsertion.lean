/-
`insertionSortCmpFunc` of `Go/Sort.lean`: for every comparator it succeeds and permutes
`[a, b)`; for a strict weak order the range is sorted afterwards.  The inner loop is specified
together with the invariant `LB` of pdqsort, for its second use in `partialInsertionSortCmpFunc`
(`Lemmas/SortPartial.lean`).
-/
import GolibsVerif.Lemmas.SortBasic

namespace GolibsVerif.Slices

variable {α : Type} {cmp : α → α → Int}

@[simp] theorem ok_bind {β γ : Type} (x : β) (f : β → GoM γ) : ((Except.ok x : GoM β) >>= f) = f x := rfl
@[simp] theorem pure_ok {β : Type} (x : β) : (pure x : GoM β) = .ok x := rfl

/-- invariant of the inner loop: all pairs of `[a, i]` are in order, except possibly the pairs
`(p, j)` with `p < j` -/
def InsInv (cmp : α → α → Int) (d : Array α) (a j i : Int) : Prop :=
  ∀ p q, a ≤ p → p < q → q ≤ i → q ≠ j → NotLess cmp d q p

/-- the loop ends at `j` when `j` has reached `a` or is in order with its predecessor -/
theorem InsInv.sorted (hw : WeakCmp cmp) {d : Array α} {a j i : Int}
    (hinv : InsInv cmp d a j i) (hj : a < j → NotLess cmp d j (j - 1)) (h0 : 0 ≤ a) (hi : i < d.size) :
    SortedOn cmp d a (i + 1) := by
  intro p q hp hpq hq
  by_cases hqj : q = j
  · subst hqj
    by_cases hpj : p = q - 1
    · subst hpj
      exact hj (by omega)
    · exact (hj (by omega)).trans hw (hinv p (q - 1) hp (by omega) (by omega) (by omega)) (by omega)
  · exact hinv p q hp hpq (by omega) hqj

/-- exchanging `j` with a greater predecessor moves the exception to `j - 1` -/
theorem InsInv.swap (hw : WeakCmp cmp) {d d' : Array α} {a j i : Int} {x y : α}
    (hinv : InsInv cmp d a j i) (haj : a < j) (hat : SwapAt d d' j (j - 1)) (hx : at? d j = some x)
    (hy : at? d (j - 1) = some y) (hc : cmp x y < 0) : InsInv cmp d' a (j - 1) i := by
  intro p q hp hpq hq hne
  by_cases hqj : q = j
  · subst hqj
    by_cases hpj : p = q - 1
    · subst hpj
      exact (NotLess.of_lt hw hx hy hc).congr hat.fst hat.snd
    · exact (hinv p (q - 1) hp (by omega) (by omega) (by omega)).congr hat.fst (hat.other p ⟨by omega, hpj⟩)
  · have hq' := hat.other q ⟨hqj, hne⟩
    by_cases hpj : p = j
    · subst hpj
      exact (hinv (p - 1) q (by omega) (by omega) hq hqj).congr hq' hat.fst
    · by_cases hpj' : p = j - 1
      · subst hpj'
        exact (hinv j q (by omega) (by omega) hq hqj).congr hq' hat.snd
      · exact (hinv p q hp hpq hq hqj).congr hq' (hat.other p ⟨hpj, hpj'⟩)

/-- the invariant of pdqsort: if `a > 0`, no element of `[a, b)` is less than `data[a-1]` -/
def LB (cmp : α → α → Int) (d : Array α) (a b : Int) : Prop :=
  a > 0 → ∀ k, a ≤ k → k < b → NotLess cmp d k (a - 1)

theorem LB.frame {d d' : Array α} {a b : Int} (h : LB cmp d a b)
    (hf : Frame d d' a b) (ha : 0 ≤ a) : LB cmp d' a b := by
  intro ha0 k hk1 hk2 x m hx hm
  rw [hf.out (a - 1) (by omega)] at hm
  exact hf.allOn ha (P := fun x => ¬ cmp x m < 0) (fun k x h1 h2 hx => h ha0 k h1 h2 x m hx hm) k x hk1 hk2 hx

theorem LB.sub {d : Array α} {a b b' : Int} (h : LB cmp d a b) (hb : b' ≤ b) :
    LB cmp d a b' :=
  fun ha0 k hk1 hk2 => h ha0 k hk1 (by omega)

theorem LB.frame_out {d d' : Array α} {a b lo hi : Int} (h : LB cmp d a b)
    (hf : Frame d d' lo hi) (hd : b ≤ lo) (hab : a ≤ b) : LB cmp d' a b :=
  fun ha0 k hk1 hk2 => (h ha0 k hk1 hk2).congr (hf.out k (by omega)) (hf.out (a - 1) (by omega))

/-- The inner loop, started at `j ≤ i` with the lower bound `a`.  Its effect on the order is stated for
every `a' ≥ a` that bounds the loop as well, because `data[a'-1]` is a lower bound of the elements
(`LB`): so the same statement serves `partialInsertionSort`, whose left shifting loop is this
loop with `a = 0`. -/
theorem insertionInner_spec (cmp : α → α → Int) (i : Int) (d : Array α) (a j : Int)
    (ha : 0 ≤ a) (haj : a ≤ j) (hji : j ≤ i) (hi : i < d.size) :
    ∃ d', insertionInner cmp d a j = .ok d' ∧ Frame d d' a (j + 1) ∧
      (WeakCmp cmp → ∀ a', a ≤ a' → a' ≤ j → (a < a' → LB cmp d a' (i + 1)) → InsInv cmp d a' j i →
        Frame d d' a' (j + 1) ∧ SortedOn cmp d' a' (i + 1)) := by
  fun_induction insertionInner cmp d a j with
  | case2 d j hja =>
    exact ⟨_, rfl, Frame.refl .., fun hw a' _ _ _ hinv =>
      ⟨Frame.refl .., hinv.sorted hw (fun h => by omega) (by omega) hi⟩⟩
  | case1 d j hja ih =>
    obtain ⟨x, hx⟩ := at?_eq_some d j (by omega)
    obtain ⟨y, hy⟩ := at?_eq_some d (j - 1) (by omega)
    simp only [get_ok hx, get_ok hy, ok_bind]
    split
    · rename_i hc
      obtain ⟨d1, hs, hf, hat⟩ := swap_frame d j (j - 1) a (j + 1) ha (by omega) (by omega) (by omega)
      obtain ⟨d2, h2, hf2, hs2⟩ := ih d1 (by omega) (by omega) (hf.size_le (by omega))
      simp only [hs, ok_bind]
      refine ⟨d2, h2, hf.trans (hf2.mono (Int.le_refl _) (by omega)), fun hw a' ha' ha'j hlb hinv => ?_⟩
      -- the lower bound `data[a'-1]` stops the loop at `a'` at the latest
      have hja' : a' < j := by
        by_cases e : a' = j
        · subst e
          exact absurd hc (hlb hja (by omega) a' (Int.le_refl _) (by omega) x y hx hy)
        · omega
      have hf' : Frame d d1 a' (j + 1) := ⟨hf.size, hf.perm, fun k hk => hat.other k (by omega)⟩
      obtain ⟨hf2', hs2'⟩ := hs2 hw a' ha' (by omega)
        (fun h => (hlb h).frame (hf'.mono (Int.le_refl _) (by omega)) (by omega))
        (hinv.swap hw hja' hat hx hy hc)
      exact ⟨hf'.trans (hf2'.mono (Int.le_refl _) (by omega)), hs2'⟩
    · rename_i hc
      exact ⟨d, rfl, Frame.refl .., fun hw a' _ _ _ hinv =>
        ⟨Frame.refl .., hinv.sorted hw (fun _ => NotLess.of_get hx hy hc) (by omega) hi⟩⟩
theorem insertionOuter_spec (cmp : α → α → Int) (d : Array α) (a b i : Int) (ha : 0 ≤ a) (hai : a < i)
    (hb : b ≤ d.size) :
    ∃ d', insertionOuter cmp d a b i = .ok d' ∧ Frame d d' a b ∧
      (WeakCmp cmp → SortedOn cmp d a i → SortedOn cmp d' a b) := by
  fun_induction insertionOuter cmp d a b i with
  | case1 d i hib ih =>
    obtain ⟨d1, h1, hf1, hs1⟩ := insertionInner_spec cmp i d a i ha (by omega) (Int.le_refl _) (by omega)
    obtain ⟨d2, h2, hf2, hs2⟩ := ih d1 (by omega) (hf1.size_le hb)
    simp only [h1, ok_bind]
    refine ⟨d2, h2, (hf1.mono (Int.le_refl _) (by omega)).trans hf2, fun hw hs => hs2 hw ?_⟩
    exact (hs1 hw a (Int.le_refl _) (by omega) (fun h => absurd h (Int.lt_irrefl a))
      fun p q hp hpq hq hne => hs p q hp hpq (by omega)).2
  | case2 d i hib =>
    exact ⟨_, rfl, Frame.refl .., fun _ hs p q hp hpq hq => hs p q hp hpq (by omega)⟩

theorem insertionSort_spec (cmp : α → α → Int) (d : Array α) (a b : Int) (ha : 0 ≤ a) (hb : b ≤ d.size) :
    ∃ d', insertionSort cmp d a b = .ok d' ∧ Frame d d' a b ∧ (WeakCmp cmp → SortedOn cmp d' a b) := by
  obtain ⟨d', h1, hf, hs⟩ := insertionOuter_spec cmp d a b (a + 1) ha (by omega) hb
  exact ⟨d', h1, hf, fun hw => hs hw (.short (Int.le_refl _))⟩

end GolibsVerif.Slices
