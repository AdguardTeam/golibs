import GolibsVerif.Model.NetMisc
import GolibsVerif.Lemmas.GoM
import GolibsVerif.Lemmas.Strings

/-! Totality of the small netutil functions modelled in `Model/NetMisc.lean`. -/
namespace GolibsVerif.C01
open GolibsVerif GolibsVerif.Netutil GolibsVerif.Str

theorem isSubdomain_total (d t : Bytes) : ∃ b, isSubdomain d t = .ok b := by
  unfold isSubdomain
  by_cases h1 : d.length > t.length + 1
  · simp only [h1, decide_true, Bool.not_true, bind, Except.bind, pure, Except.pure]
    by_cases h2 : hasSuffix d t = true
    · have hidx : ((d.length : Int) - t.length - 1) = ((d.length - t.length - 1 : Nat) : Int) := by omega
      simp only [h2, Bool.not_true, hidx]
      rw [GoM.idx_ofNat_lt _ _ (by omega)]
      exact ⟨_, rfl⟩
    · simp [h2]
  · simp [h1, bind, Except.bind, pure, Except.pure]

theorem isImmediateSubdomain_total (d t : Bytes) : ∃ b, isImmediateSubdomain d t = .ok b := by
  unfold isImmediateSubdomain
  obtain ⟨b, hb⟩ := isSubdomain_total d t
  cases b <;> simp [hb, bind, Except.bind, pure, Except.pure]

theorem subdomainsLoop_total (fuel : Nat) (domain : Bytes) (sub : List Bytes) (h : domain.length < fuel) :
    ∃ r, subdomainsLoop fuel domain sub = .ok r := by
  induction fuel generalizing domain sub with
  | zero => omega
  | succ n ih =>
    unfold subdomainsLoop
    by_cases h0 : domain = []
    · simp [h0, pure, Except.pure]
    · simp only [h0, if_false, bind, Except.bind, pure, Except.pure]
      -- the loop goes on with what follows the first dot, which is shorter
      rcases first_cases 46 domain with hno | ⟨b, a, rfl, hb⟩
      · simp [indexByte_not_mem 46 domain hno]
      · have hneg : ¬ (b.length : Int) < 0 := by omega
        simp only [indexByte_append_sep 46 b a hb, hneg, if_false, GoM.sliceFrom_append_cons]
        apply ih
        simp at h; omega

/-- `Subdomains` never panics and its loop terminates -/
theorem subdomains_total (domain : Bytes) : ∃ r, subdomains domain = .ok r := by
  unfold subdomains
  by_cases h0 : domain = []
  · simp [h0, pure, Except.pure]
  · obtain ⟨r, hr⟩ := subdomainsLoop_total (domain.length + 1) domain [domain] (by omega)
    simp [h0, hr, bind, Except.bind, pure, Except.pure]

/-- the single-value type assertion in `ParseIPv4` never fails: `ParseIP` only returns
`*AddrError` -/
theorem parseIPv4_total (netParseIP : Bytes → Option Bytes) (s : Bytes) :
    ∃ r, parseIPv4 netParseIP s = .ok r := by
  unfold parseIPv4 parseIP
  cases netParseIP s with
  | none => exact ⟨_, rfl⟩
  | some ip => cases h : ipTo4 ip <;> simp [h]

theorem cloneIPsLoop_total (ips : List Bytes) (i : Nat) (clone : List Bytes)
    (h : i + ips.length ≤ clone.length) : ∃ r, cloneIPsLoop ips i clone = .ok r := by
  induction ips generalizing i clone with
  | nil => exact ⟨_, rfl⟩
  | cons ip rest ih =>
    unfold cloneIPsLoop setIdx
    have hi : i < clone.length := by simp at h; omega
    simp only [hi, if_true, bind, Except.bind]
    apply ih
    simp at h ⊢; omega

theorem cloneIPs_total (ips : Option (List Bytes)) : ∃ r, cloneIPs ips = .ok r := by
  cases ips with
  | none => exact ⟨_, rfl⟩
  | some l =>
    obtain ⟨r, hr⟩ := cloneIPsLoop_total l 0 (List.replicate l.length []) (by simp)
    simp [cloneIPs, hr, bind, Except.bind, pure, Except.pure]

end GolibsVerif.C01
