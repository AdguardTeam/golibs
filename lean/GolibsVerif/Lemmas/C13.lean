/-
C13 — helper lemmas: UTF-8 decoding facts (self-synchronisation), SimpleFold orbits under
contract FOLD-1, the scan loop of `ContainsFold`, ASCII operands, and the in-place filter of
`SplitTrimmed`.  Core Lean only.
-/
import GolibsVerif.Spec.C13
import GolibsVerif.Lemmas.GoM

namespace GolibsVerif.C13

/-! ## `utf8.DecodeRuneInString` -/

theorem lead_cont {c : Nat} (h : isCont c) : lead c = (0, 0, 0) := by
  unfold isCont at h; unfold lead
  rw [if_neg (by omega), if_pos (by omega)]

theorem decodeRune_cont {c : Nat} (t : Bytes) (h : isCont c) : decodeRune (c :: t) = (RuneError, 1) := by
  simp [decodeRune, lead_cont h]

theorem decodeRune_ascii {b : Nat} (t : Bytes) (h : b < 0x80) : decodeRune (b :: t) = (b, 1) := by
  have : lead b = (1, 0, 0) := by unfold lead; simp [h]
  simp [decodeRune, this]

theorem lead_range (b : Nat) : 2 ≤ (lead b).1 → 0x80 ≤ (lead b).2.1 ∧ (lead b).2.2 ≤ 0xBF := by
  fun_cases lead b <;> decide

theorem isCont_second {s0 s1 : Nat} (h : 2 ≤ (lead s0).1) (h1 : (lead s0).2.1 ≤ s1 ∧ s1 ≤ (lead s0).2.2) :
    isCont s1 := by
  have := lead_range s0 h
  unfold isCont; omega

theorem decodeRune_prefix {p s : Bytes} (h : p <+: s) :
    (decodeRune p).1 = (decodeRune s).1 ∨ (decodeRune p).1 = RuneError := by
  obtain ⟨t, rfl⟩ := h
  fun_cases decodeRune p
  -- an accepted encoding (of width 1, 2, 3, 4) is read from the same bytes of `p ++ t`
  case case2 | case3 | case5 | case7 => left; simp [decodeRune, *]
  all_goals exact .inr rfl

theorem decodeRune_tail_cont (s : Bytes) (k : Nat) (h1 : 1 ≤ k) :
    k < (decodeRune s).2 → ∃ c, s[k]? = some c ∧ isCont c := by
  fun_cases decodeRune s
  -- the accepted encodings of width 2, 3 and 4; in all other cases the width is at most 1
  case case3 hl hc =>
    intro h2
    obtain rfl : k = 1 := by omega
    exact ⟨_, rfl, isCont_second (by omega) hc⟩
  case case5 hl hc =>
    intro h2
    rcases (by omega : k = 1 ∨ k = 2) with rfl | rfl
    · exact ⟨_, rfl, isCont_second (by omega) ⟨hc.1, hc.2.1⟩⟩
    · exact ⟨_, rfl, hc.2.2⟩
  case case7 hl hc =>
    intro h2
    rcases (by omega : k = 1 ∨ k = 2 ∨ k = 3) with rfl | rfl | rfl
    · exact ⟨_, rfl, isCont_second (by omega) ⟨hc.1, hc.2.1⟩⟩
    · exact ⟨_, rfl, hc.2.2.1⟩
    · exact ⟨_, rfl, hc.2.2.2⟩
  all_goals intro h2; omega

/-! ## `unicode.SimpleFold` orbits under FOLD-1 -/

theorem iter_add (f : Nat → Nat) (m n a : Nat) : iter f (m + n) a = iter f n (iter f m a) := by
  induction m generalizing a with
  | zero => simp [iter]
  | succ m ih => rw [Nat.succ_add]; simp only [iter]; exact ih (f a)

/-- what one step of `f` preserves, any number of steps preserve -/
theorem iter_invariant {α : Type} {f : Nat → Nat} {g : Nat → α} (h : ∀ r, g (f r) = g r) (n r : Nat) :
    g (iter f n r) = g r := by
  induction n generalizing r with
  | zero => rfl
  | succ n ih => rw [iter, ih, h]

theorem iter_mul_period {f : Nat → Nat} {p a : Nat} (hp : iter f p a = a) (q : Nat) : iter f (p * q) a = a := by
  induction q with
  | zero => rfl
  | succ q ih => rw [Nat.mul_succ, iter_add, ih, hp]

theorem mem_orbitRest {fold : Nat → Nat} {a b : Nat} : ∀ (n f : Nat), b ∈ orbitRest fold a n f → ∃ k, iter fold k f = b
  | 0, _, h => by simp [orbitRest] at h
  | n + 1, f, h => by
    simp only [orbitRest] at h
    split at h
    · simp at h
    · rcases List.mem_cons.mp h with rfl | h
      · exact ⟨0, rfl⟩
      · obtain ⟨k, hk⟩ := mem_orbitRest n (fold f) h
        exact ⟨k + 1, hk⟩

/-- the walk from `f` lists `iter fold k f`, unless it is back at `a` by then -/
theorem orbitRest_hit {fold : Nat → Nat} {a b : Nat} : ∀ (n f k : Nat), k < n → iter fold k f = b →
    b ∈ orbitRest fold a n f ∨ ∃ j, j ≤ k ∧ iter fold j f = a
  | n + 1, f, k, hk, h => by
    rw [orbitRest]
    split
    · exact .inr ⟨0, Nat.zero_le _, ‹f = a›⟩
    · cases k with
      | zero => exact .inl (h ▸ List.mem_cons_self)
      | succ k =>
        exact (orbitRest_hit n (fold f) k (by omega) h).imp (List.mem_cons_of_mem _)
          fun ⟨j, hj, e⟩ => ⟨j + 1, by omega, e⟩

theorem orbitMem_of_iter {fold : Nat → Nat} {a : Nat} (hper : ∃ p, 0 < p ∧ p ≤ orbitFuel ∧ iter fold p a = a) :
    ∀ (m b : Nat), iter fold m a = b → orbitMem fold a b = true := by
  obtain ⟨p, hp0, hpf, hp⟩ := hper
  intro m
  induction m using Nat.strongRecOn with
  | _ m ih =>
    intro b hb
    -- a walk that is back at `a` after `j` of its `m` steps, `0 < j`, can start there
    have back : ∀ j, 0 < j → j ≤ m → iter fold j a = a → orbitMem fold a b = true := fun j h0 hj e =>
      ih (m - j) (by omega) b (by
        have := iter_add fold j (m - j) a
        rw [e, Nat.add_sub_cancel' hj, hb] at this
        exact this.symm)
    cases m with
    | zero => simp [orbitMem, ← hb, iter]
    | succ m =>
      -- so `m + 1` is below the period, the walk of `folds` is long enough, and it is not back at `a` early
      by_cases hpm : p ≤ m + 1
      · exact back p hp0 hpm hp
      · rcases orbitRest_hit (a := a) orbitFuel (fold a) m (by omega) hb with h | ⟨j, hj, e⟩
        · simp [orbitMem, folds, h]
        · exact back (j + 1) (by omega) (by omega) e

theorem iter_of_orbitMem {fold : Nat → Nat} {a b : Nat} (h : orbitMem fold a b = true) : ∃ n, iter fold n a = b := by
  simp only [orbitMem, folds, Bool.or_eq_true, decide_eq_true_eq, List.contains_iff_mem] at h
  rcases h with rfl | h
  · exact ⟨0, rfl⟩
  · obtain ⟨k, hk⟩ := mem_orbitRest _ _ h
    exact ⟨k + 1, hk⟩

theorem orbitMem_iff {fold : Nat → Nat} (hf : Fold1 fold) (a b : Nat) :
    orbitMem fold a b = true ↔ ∃ n, iter fold n a = b :=
  ⟨iter_of_orbitMem, fun ⟨n, hn⟩ => orbitMem_of_iter (hf.period a) n b hn⟩

theorem orbitMem_symm {fold : Nat → Nat} (hf : Fold1 fold) {a b : Nat} (h : orbitMem fold a b = true) :
    orbitMem fold b a = true := by
  obtain ⟨n, hn⟩ := iter_of_orbitMem h
  obtain ⟨p, hp0, _, hp⟩ := hf.period a
  -- `p * n ≥ n` steps from `a` end at `a`, and the first `n` of them at `b`
  refine (orbitMem_iff hf b a).mpr ⟨p * n - n, ?_⟩
  rw [← hn, ← iter_add, Nat.add_sub_cancel' (Nat.le_mul_of_pos_left n hp0), iter_mul_period hp]

theorem iter_fixed {f : Nat → Nat} {a : Nat} (h : f a = a) (n : Nat) : iter f n a = a := by
  induction n with
  | zero => rfl
  | succ n ih => simp only [iter, h, ih]

theorem orbitMem_fffd_left {fold : Nat → Nat} (hf : Fold1 fold) {b : Nat} (h : orbitMem fold RuneError b = true) :
    b = RuneError := by
  obtain ⟨n, hn⟩ := iter_of_orbitMem h
  rw [iter_fixed hf.fffd] at hn; exact hn.symm

theorem orbitMem_ascii {fold : Nat → Nat} (hf : Fold1 fold) {a b : Nat} (ha : a < 128) (hb : b < 128) :
    orbitMem fold a b = true ↔ lowerASCII a = lowerASCII b := by
  rw [orbitMem_iff hf]; exact hf.ascii a b ha hb


/-! ## Strings that decode without U+FFFD; rune boundaries reached by sequential decoding -/

/-- step of sequential decoding -/
abbrev next (b : Nat) (t : Bytes) : Bytes := (b :: t).drop (decodeRune (b :: t)).2

theorem next_length_lt (b : Nat) (t : Bytes) : (next b t).length < (b :: t).length := by
  have := decodeRune_width_pos b t
  simp only [next, List.length_drop, List.length_cons]; omega

/-- `s` is valid UTF-8 and contains no U+FFFD: sequential decoding never yields `RuneError`. -/
inductive Good : Bytes → Prop
  | nil : Good []
  | cons (b : Nat) (t : Bytes) : (decodeRune (b :: t)).1 ≠ RuneError → Good (next b t) → Good (b :: t)

theorem good_of_noFFFD {s : Bytes} (h : noFFFD s = true) : Good s := by
  have h' : RuneError ∉ runes s := by
    simpa [noFFFD] using h
  clear h
  fun_induction runes s with
  | case1 => exact .nil
  | case2 b t ih =>
    simp only [List.mem_cons, not_or] at h'
    exact .cons b t (fun e => h'.1 e.symm) (ih h'.2)

/-- offsets reached by sequential decoding -/
inductive Reach : Bytes → Nat → Prop
  | zero (s : Bytes) : Reach s 0
  | step (b : Nat) (t : Bytes) (i : Nat) : Reach (next b t) i → Reach (b :: t) ((decodeRune (b :: t)).2 + i)

theorem Reach.le {s : Bytes} {i : Nat} (h : Reach s i) : i ≤ s.length := by
  induction h with
  | zero s => omega
  | step b t i _ ih =>
    have := decodeRune_width_le (b :: t)
    simp only [next, List.length_drop] at ih
    omega

theorem good_head_not_cont {b : Nat} {t : Bytes} (h : Good (b :: t)) : ¬ isCont b := by
  intro hc
  cases h with
  | cons _ _ hr _ => exact hr (by rw [decodeRune_cont t hc])

theorem boundary_drop {s : Bytes} {w : Nat} (hw : w ≤ s.length) (i : Nat) :
    boundary (s.drop w) i ↔ boundary s (w + i) := by
  simp only [boundary, List.length_drop, List.getElem?_drop]
  constructor <;> exact fun ⟨h1, h2⟩ => ⟨by omega, h2⟩

theorem reach_boundary {s : Bytes} {i : Nat} (hg : Good s) (h : Reach s i) : boundary s i := by
  induction h with
  | zero s =>
    refine ⟨by omega, ?_⟩
    intro b hb
    cases s with
    | nil => simp at hb
    | cons c t =>
      simp at hb; subst hb
      exact good_head_not_cont hg
  | step b t i hr ih =>
    cases hg with
    | cons _ _ _ hg' => exact (boundary_drop (decodeRune_width_le (b :: t)) i).mp (ih hg')

theorem boundary_reach {s : Bytes} (hg : Good s) : ∀ {i : Nat}, boundary s i → Reach s i := by
  induction hg with
  | nil =>
    intro i h
    have : i = 0 := by have := h.1; simp at this; exact this
    subst this; exact .zero _
  | cons b t hr _ ih =>
    intro i h
    by_cases hi0 : i = 0
    · subst hi0; exact .zero _
    by_cases hlt : i < (decodeRune (b :: t)).2
    · -- a boundary inside the first encoding would be a continuation byte
      obtain ⟨c, hc1, hc2⟩ := decodeRune_tail_cont (b :: t) i (by omega) hlt
      exact absurd hc2 (h.2 c hc1)
    · have e : (decodeRune (b :: t)).2 + (i - (decodeRune (b :: t)).2) = i := by omega
      rw [← e] at h ⊢
      exact .step b t _ (ih ((boundary_drop (decodeRune_width_le (b :: t)) _).mpr h))

theorem reach_iff_boundary {s : Bytes} (hg : Good s) (i : Nat) : Reach s i ↔ boundary s i :=
  ⟨reach_boundary hg, boundary_reach hg⟩

/-! ## `strings.IndexFunc` as a search over sequential decoding -/

/-- What `strings.IndexFunc(s, p)` finds, as the rest of the string from the found rune on: the first
suffix of `s` along sequential decoding whose first rune satisfies `p`.  (A suffix and not an offset, so
that `seek_resync` is an equation without index arithmetic.) -/
def seek (p : Nat → Bool) (s : Bytes) : Option Bytes :=
  match s with
  | [] => none
  | b :: t => if p (decodeRune (b :: t)).1 then some (b :: t) else seek p (next b t)
termination_by s.length
decreasing_by exact next_length_lt b t

theorem indexFuncAux_seek (p : Nat → Bool) (s : Bytes) : ∀ off,
    (indexFuncAux p s off = -1 ∧ seek p s = none) ∨
    ∃ k, k < s.length ∧ indexFuncAux p s off = ((off + k : Nat) : Int) ∧ seek p s = some (s.drop k) := by
  fun_induction seek p s with
  | case1 => intro off; simp [indexFuncAux]
  | case2 b t hpb => intro off; exact .inr ⟨0, by simp, by rw [indexFuncAux, if_pos hpb]; rfl, rfl⟩
  | case3 b t hpb ih =>
    intro off
    rw [indexFuncAux, if_neg hpb]
    refine (ih _).imp id fun ⟨k, hk, h1, h2⟩ => ?_
    have hle := decodeRune_width_le (b :: t)
    simp only [next, List.length_drop] at hk
    exact ⟨(decodeRune (b :: t)).2 + k, by omega, by rw [h1, Nat.add_assoc], by rw [h2, next, List.drop_drop]⟩

/-- `strings.IndexFunc(s[1:], p)` on `s = b :: t` starts inside the first encoding: the continuation
bytes up to the next rune decode to `RuneError`, which `p` rejects, so it finds what a search from the
next rune of `s` finds. -/
theorem seek_resync {p : Nat → Bool} (hpe : p RuneError = false) (b : Nat) (t : Bytes) :
    seek p t = seek p (next b t) := by
  have key : ∀ d j, j + d = (decodeRune (b :: t)).2 → 1 ≤ j → seek p ((b :: t).drop j) = seek p (next b t) := by
    intro d
    induction d with
    | zero => intro j h _; rw [show j = (decodeRune (b :: t)).2 by omega]
    | succ d ih =>
      intro j h h1
      obtain ⟨c, hc1, hc2⟩ := decodeRune_tail_cont (b :: t) j h1 (by omega)
      obtain ⟨hjl, he⟩ := List.getElem?_eq_some_iff.mp hc1
      rw [← ih (j + 1) (by omega) (by omega), List.drop_eq_getElem_cons hjl, he, seek, next,
        decodeRune_cont _ hc2, hpe]
      rfl
  have := decodeRune_width_pos b t
  exact key ((decodeRune (b :: t)).2 - 1) 1 (by omega) (Nat.le_refl 1)

/-! ## The scan loop of `ContainsFold` -/

/-- the window of `len(sub)` bytes at the start of `u` equals `sub` under folding -/
def Match (fold : Nat → Nat) (sub u : Bytes) : Prop :=
  sub.length ≤ u.length ∧ equalFold fold (u.take sub.length) sub = true

/-- some window at a decoding offset of `s` matches -/
def ExMatch (fold : Nat → Nat) (sub s : Bytes) : Prop :=
  ∃ i, Reach s i ∧ Match fold sub (s.drop i)

theorem Match.exMatch {fold : Nat → Nat} {sub s : Bytes} (h : Match fold sub s) : ExMatch fold sub s :=
  ⟨0, .zero _, h⟩

theorem exMatch_len {fold : Nat → Nat} {sub s : Bytes} (h : ExMatch fold sub s) : sub.length ≤ s.length := by
  obtain ⟨i, _, hm, _⟩ := h
  simp only [List.length_drop] at hm
  omega

theorem exMatch_cons {fold : Nat → Nat} {sub : Bytes} (b : Nat) (t : Bytes) :
    ExMatch fold sub (b :: t) ↔ Match fold sub (b :: t) ∨ ExMatch fold sub (next b t) := by
  constructor
  · rintro ⟨i, hr, hm⟩
    cases hr with
    | zero => left; simpa using hm
    | step _ _ i' hr' =>
      right
      refine ⟨i', hr', ?_⟩
      simp only [next, List.drop_drop]
      exact hm
  · rintro (hm | ⟨i, hr, hm⟩)
    · exact hm.exMatch
    · refine ⟨_, .step b t i hr, ?_⟩
      simp only [next, List.drop_drop] at hm
      exact hm

theorem runes_cons (b : Nat) (t : Bytes) : runes (b :: t) = (decodeRune (b :: t)).1 :: runes (next b t) := by
  rw [runes]

/-- a matching window starts with a rune of the fold orbit of the needle's first rune -/
theorem match_first {fold : Nat → Nat} (hf : Fold1 fold) {sub u : Bytes}
    (hfirst : (decodeRune sub).1 ≠ RuneError) (hm : Match fold sub u) :
    orbitMem fold (decodeRune sub).1 (decodeRune u).1 = true := by
  obtain ⟨hl, he⟩ := hm
  cases sub with
  | nil => exact absurd rfl hfirst
  | cons c sub' =>
    cases u with
    | nil => simp at hl
    | cons b t =>
      simp only [List.length_cons, List.take_succ_cons] at he
      have ht := decodeRune_prefix (List.take_prefix (sub'.length + 1) (b :: t))
      simp only [List.take_succ_cons] at ht
      rw [equalFold, runes_cons, runes_cons, eqFoldRunes, Bool.and_eq_true] at he
      rcases ht with ht | ht
      · rw [ht] at he
        exact orbitMem_symm hf he.1
      · rw [ht] at he
        exact absurd (orbitMem_fffd_left hf he.1) hfirst

theorem exMatch_next {fold : Nat → Nat} {sub : Bytes} {b : Nat} {t : Bytes} (h : ¬ Match fold sub (b :: t)) :
    ExMatch fold sub (b :: t) ↔ ExMatch fold sub (next b t) :=
  (exMatch_cons b t).trans (or_iff_right h)

/-- The search skips no match.  (No match is empty: `p` rejects the `RuneError` that the empty string
decodes to, so the needle is not empty.) -/
theorem seek_exMatch {fold : Nat → Nat} {sub : Bytes} {p : Nat → Bool}
    (hp : ∀ u, Match fold sub u → p (decodeRune u).1 = true) (hpe : p RuneError = false) (s : Bytes) :
    ExMatch fold sub s ↔ ∃ u, seek p s = some u ∧ ExMatch fold sub u := by
  fun_induction seek p s with
  | case1 =>
    have : ¬ ExMatch fold sub [] := fun ⟨i, _, hm⟩ => by
      have := hp _ hm
      rw [List.drop_nil, show (decodeRune []).1 = RuneError from rfl, hpe] at this
      cases this
    simp [this]
  | case2 b t hpb => simp
  | case3 b t hpb ih => exact (exMatch_next fun hm => hpb (hp _ hm)).trans ih

/-- One iteration in terms of matches: with no match at `s` itself, a match is one from the next rune
on, which is one from what `strings.IndexFunc(s[1:], p)` finds. -/
theorem exMatch_step {fold : Nat → Nat} {sub : Bytes} {p : Nat → Bool}
    (hp : ∀ u, Match fold sub u → p (decodeRune u).1 = true) (hpe : p RuneError = false)
    {s : Bytes} (h : ¬ Match fold sub s) :
    ExMatch fold sub s ↔ ∃ u, seek p (s.drop 1) = some u ∧ ExMatch fold sub u := by
  cases s with
  | nil => exact seek_exMatch hp hpe []
  | cons b t =>
    rw [exMatch_next h, List.drop_succ_cons, List.drop_zero, seek_resync hpe b t]
    exact seek_exMatch hp hpe _

theorem equalFold_nil (fold : Nat → Nat) : equalFold fold [] [] = true := by
  simp [equalFold, runes, eqFoldRunes]

/-- One iteration of the loop with its slice expressions evaluated — none of them panics — and
`strings.IndexFunc` as `seek`: for *every* input, predicate and fold function (in particular on
invalid UTF-8). -/
theorem cfLoop_eq (fold : Nat → Nat) (pred : Nat → Bool) (sub s : Bytes) :
    cfLoop fold pred sub s =
      if s.length < sub.length then .ok false
      else if equalFold fold (s.take sub.length) sub then .ok true
      else match seek pred (s.drop 1) with
        | none => .ok false
        | some u => cfLoop fold pred sub u := by
  rw [cfLoop]
  by_cases hlen : s.length < sub.length
  · rw [if_pos hlen, if_pos hlen]
  rw [if_neg hlen, if_neg hlen, GoM.sliceTo_ofNat s _ (by omega)]
  by_cases he : equalFold fold (s.take sub.length) sub = true
  · simp only [he, if_true]
  simp only [he, Bool.false_eq_true, if_false]
  cases s with
  | nil =>
    have : sub = [] := by simpa using hlen
    subst this
    exact absurd (equalFold_nil fold) he
  | cons b t =>
    rw [GoM.sliceFrom_one_cons]
    simp only [List.drop_succ_cons, List.drop_zero]
    rw [indexFunc]
    rcases indexFuncAux_seek pred t 0 with ⟨hi, hu⟩ | ⟨k, hk, hi, hu⟩ <;> rw [hi, hu]
    · rw [show (1 + -1 : Int) = (0 : Nat) from rfl, GoM.sliceFrom_ofNat _ 0 (Nat.zero_le _)]
      rfl
    · rw [show (1 + ((0 + k : Nat) : Int)) = ((k + 1 : Nat) : Int) by omega,
        GoM.sliceFrom_ofNat (b :: t) (k + 1) (Nat.succ_le_succ (Nat.le_of_lt hk))]
      have hl : (t.drop k).length < (b :: t).length := by simp only [List.length_drop, List.length_cons]; omega
      simp only [List.drop_succ_cons]
      rw [if_neg (by omega), dif_pos hl]

/-- The scan loop never panics and terminates with a Boolean, for every predicate; and for a predicate
that accepts the first rune of every match and rejects `RuneError`, the Boolean says whether some
window at an offset reached by sequential decoding matches (`ExMatch`) — on every string,
well-formed or not. -/
theorem cfLoop_spec (fold : Nat → Nat) (pred : Nat → Bool) (sub : Bytes) :
    ∀ s, ∃ b, cfLoop fold pred sub s = .ok b ∧
      ((∀ u, Match fold sub u → pred (decodeRune u).1 = true) → pred RuneError = false →
        (b = true ↔ ExMatch fold sub s)) := by
  intro s
  induction hn : s.length using Nat.strongRecOn generalizing s with
  | _ n ih =>
    rw [cfLoop_eq]
    split
    · rename_i hlen
      exact ⟨false, rfl, fun _ _ => by simpa using fun h => Nat.not_le_of_lt hlen (exMatch_len h)⟩
    rename_i hlen
    split
    · rename_i he
      exact ⟨true, rfl, fun _ _ => by simpa using Match.exMatch ⟨by omega, he⟩⟩
    rename_i hne
    have hnm : ¬ Match fold sub s := fun hm => hne hm.2
    rcases indexFuncAux_seek pred (s.drop 1) 0 with ⟨-, hu⟩ | ⟨k, hk, -, hu⟩ <;> simp only [hu]
    · exact ⟨false, rfl, fun hp hpe => by rw [exMatch_step hp hpe hnm, hu]; simp⟩
    · obtain ⟨r, hr1, hr2⟩ := ih ((s.drop 1).drop k).length (by subst hn; simp at hk ⊢; omega) _ rfl
      exact ⟨r, hr1, fun hp hpe => by rw [exMatch_step hp hpe hnm, hu, hr2 hp hpe]; simp⟩

theorem cfLoop_total (fold : Nat → Nat) (pred : Nat → Bool) (sub : Bytes) (s : Bytes) :
    ∃ b, cfLoop fold pred sub s = .ok b :=
  (cfLoop_spec fold pred sub s).imp fun _ h => h.1

theorem exMatch_iff_ref {fold : Nat → Nat} {sub s : Bytes} (hg : Good s) :
    ExMatch fold sub s ↔ RefContainsFold fold s sub :=
  exists_congr fun i => (and_congr_left' (reach_iff_boundary hg i)).trans <| and_congr_right fun hb => by
    have := hb.1
    simp only [Match, window, List.length_drop]
    exact and_congr_left' (by omega)

/-- What `ContainsFold` decides on *every* haystack, well-formed or not: whether some window at an
offset of `for i := range s` matches.  Of the needle only its first rune is constrained (the scan
predicate must reject `RuneError`). -/
theorem containsFold_exMatch {fold : Nat → Nat} (hf : Fold1 fold) (s : Bytes) {sub : Bytes}
    (hfirst : sub ≠ [] → (decodeRune sub).1 ≠ RuneError) :
    ∃ b, containsFold fold s sub = .ok b ∧ (b = true ↔ ExMatch fold sub s) := by
  unfold containsFold
  split
  · rename_i hlt
    exact ⟨false, rfl, by simpa using fun h => Nat.not_le_of_lt hlt (exMatch_len h)⟩
  split
  · rename_i _ heq
    refine ⟨_, rfl, fun he => Match.exMatch ⟨by omega, by simpa [← heq] using he⟩, ?_⟩
    rintro ⟨i, hr, hl, he⟩
    have := hr.le
    simp only [List.length_drop] at hl
    obtain rfl : i = 0 := by omega
    simpa [← heq] using he
  · by_cases hsub : sub = []
    · subst hsub
      exact ⟨true, by simp [cfLoop_eq, equalFold_nil], by simpa using Match.exMatch ⟨Nat.zero_le _, equalFold_nil fold⟩⟩
    · -- the scan predicate accepts the first rune of every match and rejects `RuneError`
      have hpe : orbitMem fold (decodeRune sub).1 RuneError = false :=
        Bool.eq_false_iff.mpr fun h => hfirst hsub (orbitMem_fffd_left hf (orbitMem_symm hf h))
      exact (cfLoop_spec fold (fun r => orbitMem fold (decodeRune sub).1 r) sub s).imp fun _ h =>
        ⟨h.1, h.2 (fun u hm => match_first hf (hfirst hsub) hm) hpe⟩

/-- `ContainsFold` on well-formed operands is the reference definition. -/
theorem containsFold_good {fold : Nat → Nat} (hf : Fold1 fold) {s sub : Bytes} (hg : Good s) (hgs : Good sub) :
    ∃ b, containsFold fold s sub = .ok b ∧ (b = true ↔ RefContainsFold fold s sub) := by
  obtain ⟨b, h1, h2⟩ := containsFold_exMatch hf s (sub := sub) fun hne => by
    cases hgs with
    | nil => exact absurd rfl hne
    | cons _ _ hr _ => exact hr
  exact ⟨b, h1, h2.trans (exMatch_iff_ref hg)⟩

/-! ## ASCII operands -/

def AllASCII (s : Bytes) : Prop := ∀ b ∈ s, b < 128

theorem AllASCII.tail {b : Nat} {t : Bytes} (h : AllASCII (b :: t)) : AllASCII t :=
  fun x hx => h x (List.mem_cons_of_mem _ hx)

theorem next_ascii {b : Nat} (t : Bytes) (h : b < 128) : next b t = t := by
  simp [next, decodeRune_ascii t h]

theorem runes_ascii {s : Bytes} (h : AllASCII s) : runes s = s := by
  induction s with
  | nil => simp [runes]
  | cons b t ih =>
    have hb := h b List.mem_cons_self
    rw [runes_cons, next_ascii t hb, ih h.tail, decodeRune_ascii t hb]

theorem good_ascii {s : Bytes} (h : AllASCII s) : Good s := by
  induction s with
  | nil => exact .nil
  | cons b t ih =>
    have hb := h b List.mem_cons_self
    refine .cons b t ?_ ?_
    · rw [decodeRune_ascii t hb]; simp only [RuneError]; omega
    · rw [next_ascii t hb]; exact ih h.tail

theorem eqFoldRunes_ascii {fold : Nat → Nat} (hf : Fold1 fold) : ∀ {s t : Bytes}, AllASCII s → AllASCII t →
    (eqFoldRunes fold s t = true ↔ s.map lowerASCII = t.map lowerASCII)
  | [], [], _, _ => by simp [eqFoldRunes]
  | [], _ :: _, _, _ => by simp [eqFoldRunes]
  | _ :: _, [], _, _ => by simp [eqFoldRunes]
  | a :: s, b :: t, hs, ht => by
    simp only [eqFoldRunes, Bool.and_eq_true, List.map_cons, List.cons.injEq]
    rw [orbitMem_ascii hf (hs a List.mem_cons_self) (ht b List.mem_cons_self),
      eqFoldRunes_ascii hf hs.tail ht.tail]

theorem equalFold_ascii {fold : Nat → Nat} (hf : Fold1 fold) {s t : Bytes} (hs : AllASCII s) (ht : AllASCII t) :
    equalFold fold s t = true ↔ s.map lowerASCII = t.map lowerASCII := by
  rw [equalFold, runes_ascii hs, runes_ascii ht, eqFoldRunes_ascii hf hs ht]

theorem boundary_ascii {s : Bytes} (hs : AllASCII s) (i : Nat) : boundary s i ↔ i ≤ s.length := by
  constructor
  · exact fun h => h.1
  · intro h
    refine ⟨h, ?_⟩
    intro b hb hc
    have := hs b (List.mem_of_getElem? hb)
    unfold isCont at hc; omega

theorem window_ascii {s : Bytes} (hs : AllASCII s) (i n : Nat) : AllASCII (window s i n) :=
  fun b hb => hs b (List.mem_of_mem_drop (List.mem_of_mem_take hb))

/-- on ASCII operands every offset is a rune boundary and folding is ASCII lower-casing -/
theorem ref_ascii_offset {fold : Nat → Nat} (hf : Fold1 fold) {s sub : Bytes} (hs : AllASCII s)
    (ht : AllASCII sub) :
    RefContainsFold fold s sub ↔
      ∃ i, i + sub.length ≤ s.length ∧ (window s i sub.length).map lowerASCII = sub.map lowerASCII := by
  constructor
  · rintro ⟨i, _, hl, he⟩
    exact ⟨i, hl, (equalFold_ascii hf (window_ascii hs _ _) ht).mp he⟩
  · rintro ⟨i, hl, he⟩
    exact ⟨i, (boundary_ascii hs i).mpr (by omega), hl, (equalFold_ascii hf (window_ascii hs _ _) ht).mpr he⟩

/-- … so the reference definition is `strings.Contains(ToLower(s), ToLower(sub))` -/
theorem ref_ascii {fold : Nat → Nat} (hf : Fold1 fold) {s sub : Bytes} (hs : AllASCII s) (ht : AllASCII sub) :
    RefContainsFold fold s sub ↔ sub.map lowerASCII <:+: s.map lowerASCII := by
  rw [ref_ascii_offset hf hs ht]
  constructor
  · rintro ⟨i, hl, he⟩
    refine ⟨(s.take i).map lowerASCII, (s.drop (i + sub.length)).map lowerASCII, ?_⟩
    rw [← he, ← List.map_append, ← List.map_append]
    congr 1
    simp only [window]
    rw [← List.drop_drop, List.append_assoc, List.take_append_drop, List.take_append_drop]
  · rintro ⟨pre, post, h⟩
    have hlen : pre.length + sub.length + post.length = s.length := by
      have := congrArg List.length h
      simp only [List.length_append, List.length_map] at this
      omega
    refine ⟨pre.length, by omega, ?_⟩
    simp only [window, List.map_take, List.map_drop, ← h]
    rw [List.append_assoc, List.drop_left, List.take_left' (by simp)]

/-! ## The in-place filter of `SplitTrimmed` -/

theorem filterInv_init (trim : Bytes → Bytes) (orig : List Bytes) :
    FilterInv trim orig 0 { A := orig, own := none, j := 0 } :=
  ⟨rfl, Nat.le_refl _, rfl, fun _ _ => rfl, by simp⟩

/-- One iteration preserves the invariant: the read sees the original element, the write (if
any) lands at an index `≤` the read index and inside the capacity, so nothing unread is
clobbered and `append` does not reallocate. -/
theorem filterInv_step {trim : Bytes → Bytes} {orig : List Bytes} {i : Nat} {st : FState}
    (h : FilterInv trim orig i st) (hi : i < orig.length) :
    ∃ v, idxS st.A i = .ok v ∧ orig[i]? = some v ∧
      FilterInv trim orig (i + 1) (if trim v = [] then st else st.append (trim v)) := by
  obtain ⟨hal, hji, hlen, hun, hfl⟩ := h
  have hv : st.A[i]? = some orig[i] := by rw [hun i (Nat.le_refl _)]; simp [hi]
  refine ⟨orig[i], by simp [idxS, hv], by simp [hi], ?_⟩
  have htake : orig.take (i + 1) = orig.take i ++ [orig[i]] := by
    rw [List.take_succ_eq_append_getElem hi]
  by_cases ht : trim orig[i] = []
  · rw [if_pos ht]
    refine ⟨hal, by omega, hlen, fun m hm => hun m (by omega), ?_⟩
    rw [hfl, htake, List.map_append, List.filter_append]
    simp [ht]
  · rw [if_neg ht]
    have hjl : st.j < st.A.length := by omega
    have happ : st.append (trim orig[i]) = { st with A := st.A.set st.j (trim orig[i]), j := st.j + 1 } := by
      simp only [FState.append, hal, hjl, ↓reduceIte]
    rw [happ]
    refine ⟨hal, by simp; omega, by simp [hlen], ?_, ?_⟩
    · intro m hm
      simp only
      rw [List.getElem?_set_ne (by omega)]
      exact hun m (by omega)
    · simp only
      rw [htake, List.map_append, List.filter_append, ← hfl]
      rw [List.take_succ_eq_append_getElem (by simp; omega)]
      simp only [List.getElem_set_self]
      rw [List.take_set_of_le (Nat.le_refl _)]
      congr 1
      simp [ht]

theorem filterLoop_inv {trim : Bytes → Bytes} {orig : List Bytes} :
    ∀ (k i : Nat) (st : FState), FilterInv trim orig i st → i + k ≤ orig.length →
      ∃ st', filterLoop trim k i st = .ok st' ∧ FilterInv trim orig (i + k) st'
  | 0, i, st, h, _ => ⟨st, rfl, h⟩
  | k + 1, i, st, h, hk => by
    obtain ⟨v, hv, _, hinv⟩ := filterInv_step h (by omega)
    obtain ⟨st', h1, h2⟩ := filterLoop_inv k (i + 1) _ hinv (by omega)
    refine ⟨st', ?_, by rwa [Nat.add_assoc i 1 k, Nat.add_comm 1 k] at h2⟩
    simp only [filterLoop, hv]
    rw [← apply_ite (filterLoop trim k (i + 1))]
    exact h1

/-- the clearing loop stays in bounds and does not touch `strs = A[:j]` -/
theorem zeroLoop_ok : ∀ (k i : Nat) (a : List Bytes), i + k ≤ a.length →
    ∃ a', zeroLoop k i a = .ok a' ∧ a'.length = a.length ∧ a'.take i = a.take i
  | 0, _, a, _ => ⟨a, rfl, rfl, rfl⟩
  | k + 1, i, a, h => by
    simp only [zeroLoop, setS]
    rw [if_pos (by omega)]
    obtain ⟨a', h1, h2, h3⟩ := zeroLoop_ok k (i + 1) (a.set i []) (by simp; omega)
    refine ⟨a', h1, by simpa using h2, ?_⟩
    have := congrArg (List.take i) h3
    simp only [List.take_take, Nat.min_eq_left (Nat.le_succ i)] at this
    rw [this, List.take_set_of_le (Nat.le_refl _)]

theorem splitTrimmed_ok (trim : Bytes → Bytes) (split : Bytes → Bytes → List Bytes) (str sep : Bytes) :
    splitTrimmed trim split str sep = .ok
      { elems := if trim str = [] then [] else refSplitTrimmed trim split str sep, isNil := false } := by
  unfold splitTrimmed
  by_cases h0 : trim str = []
  · simp [h0]
  · simp only [h0, ↓reduceIte]
    obtain ⟨st, h1, h2⟩ := filterLoop_inv (trim := trim) (split (trim str) sep).length 0 _
      (filterInv_init trim (split (trim str) sep)) (by omega)
    rw [h1]
    simp only [Nat.zero_add] at h2
    obtain ⟨a', h3, h4, h5⟩ := zeroLoop_ok ((split (trim str) sep).length - st.j) st.j st.A
      (by have := h2.write_le_read; have := h2.same_len; omega)
    simp only [h3]
    simp only [FState.strs, h2.aliased, h5, h2.filtered, List.take_length, refSplitTrimmed]

/-! ## The stdlib models on the empty string -/

theorem trimLeftSpace_nil : trimLeftSpace [] = [] := by unfold trimLeftSpace; rfl

theorem trimRightSpace_nil : trimRightSpace [] = [] := by unfold trimRightSpace; rfl

theorem trimSpace_nil : trimSpace [] = [] := by
  rw [trimSpace, trimLeftSpace_nil, trimRightSpace_nil]

theorem explode_nil : explode [] = [] := by rw [explode]

theorem split_nil (sep : Bytes) : split [] sep = if sep = [] then [] else [[]] := by
  unfold split
  split
  · exact explode_nil
  · rfl

end GolibsVerif.C13
