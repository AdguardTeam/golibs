/-
C18 — observation functions on traces and helper lemmas for `Theorems/C18.lean`.
-/
import GolibsVerif.Model.C18


namespace GolibsVerif.C18
open GolibsVerif.Gen.Consts (ExitCodeSuccess ExitCodeFailure)

/-! ## Part 1 — the reverse loop -/

theorem idxSvc_lt (svcs : List Outcome) (i : Nat) (h : i < svcs.length) :
    idxSvc svcs i = .ok svcs[i] := by
  simp [idxSvc, List.getElem?_eq_getElem h]

/-- The loop started at `i = n - 1` with `n ≤ len`: no index panic, every index below `n` is
called exactly once in descending order, and the status is failure unless all of them
returned nil. -/
theorem shutdownLoop_spec (svcs : List Outcome) :
    ∀ (n st : Nat) (calls : List Nat), n ≤ svcs.length →
      shutdownLoop true svcs n st calls =
        { calls := calls ++ (List.range n).reverse,
          result := .ok (if (svcs.take n).all (· == Outcome.nil) then st else ExitCodeFailure) } := by
  intro n
  induction n with
  | zero => intro st calls _; simp [shutdownLoop]
  | succ n ih =>
    intro st calls hn
    have hlt : n < svcs.length := by omega
    rw [shutdownLoop, idxSvc_lt svcs n hlt, List.range_succ, List.take_succ_eq_append_getElem hlt]
    cases ho : svcs[n] <;> simp [shutdownService, ih _ _ (Nat.le_of_lt hlt), ho]

/-- the status `shutdown` aggregates: success iff every service returned nil -/
def statusOf (svcs : List Outcome) : Nat :=
  if svcs.all (· == Outcome.nil) then ExitCodeSuccess else ExitCodeFailure

theorem shutdown_eq (svcs : List Outcome) :
    shutdown svcs = ⟨(List.range svcs.length).reverse, .ok (statusOf svcs)⟩ := by
  rw [shutdown, shutdownG, shutdownLoop_spec svcs _ _ _ (Nat.le_refl _), List.take_length]
  rfl

/-- `Handle` in closed form: it blocks until a shutdown signal arrives and then returns what
`shutdown` does; the other signals, before or after it, play no part. -/
theorem handle_eq (sigs : List Signal) (svcs : List Outcome) :
    handle sigs svcs =
      if sigs.any isShutdownSignal then .returned (statusOf svcs) (List.range svcs.length).reverse else .blocked := by
  induction sigs with
  | nil => rfl
  | cons s rest ih =>
    rw [handle, handleG, List.any_cons]
    cases isShutdownSignal s
    · exact ih
    · have := shutdown_eq svcs
      rw [shutdown] at this
      simp only [this]
      rfl

theorem any_isShutdownSignal_false {sigs : List Signal} (h : ∀ s ∈ sigs, isShutdownSignal s = false) :
    sigs.any isShutdownSignal = false :=
  List.any_eq_false.2 fun s hs => by simp [h s hs]

/-! ## Part 2 — observations on worker traces -/

def flat (tr : List (List Out)) : List Out := tr.flatten

def isLoopRefresh : Out → Bool
  | .refresh (.cons .start) => true
  | _ => false

def isFinalRefresh : Out → Bool
  | .refresh (.cons .shutdown) => true
  | _ => false

def isRefresh : Out → Bool
  | .refresh _ => true
  | _ => false

def isAfter : Out → Bool
  | .after _ => true
  | _ => false

def isUntilNext : Out → Bool
  | .untilNext => true
  | _ => false

def afters (os : List Out) : List Nat := os.filterMap fun | .after d => some d | _ => none

def handled (os : List Out) : List Nat := os.filterMap fun | .handle _ e => some e | _ => none

/-- what `Shutdown` returned (at most once per call that got past `close`) -/
def shutdownRets (os : List Out) : List Nat := os.filterMap fun | .shutdownReturns e => some e | _ => none

/-- An event can happen in a state: a tick needs an armed timer the loop is waiting on, a
return needs the corresponding call in flight; `Shutdown` can always be called. -/
def enabled (s : St) : Ev → Bool
  | .tick => s.loop == .waiting
  | .refreshReturns .loop _ => s.loop == .refreshing
  | .refreshReturns .shutdown _ => s.fin == .refreshing
  | .shutdown => true

/-- the events of a history that were enabled when they occurred -/
def acceptedFrom (env : Env) (ros : Bool) (s : St) : List Ev → List Ev
  | [] => []
  | e :: es =>
    (if enabled s e then [e] else []) ++ acceptedFrom env ros (step env ros s e).1 es

def accepted (env : Env) (ros : Bool) (evs : List Ev) : List Ev :=
  acceptedFrom env ros (init env).1 evs

def loopErr : Ev → Option Nat
  | .refreshReturns .loop e => some e
  | _ => none

def finalErr : Ev → Option Nat
  | .refreshReturns .shutdown e => some e
  | _ => none

/-- `1` when the last armed timer did not (yet) lead to a refresh: it is pending (`waiting`)
or was cancelled by `done` (`exited`). -/
def pend (s : St) : Nat := if s.loop = .refreshing then 0 else 1

/-- Reachable states satisfy: the loop only blocks in the select while `done` is open, and
`done` is closed exactly when `Shutdown` has been called. -/
def Inv (s : St) : Prop :=
  (s.loop = .waiting → s.closed = false) ∧ (s.fin = .idle ↔ s.closed = false)

/-- after `close(done)`: never waiting again -/
def Closed (s : St) : Prop := s.closed = true ∧ s.loop ≠ .waiting ∧ s.fin ≠ .idle

@[simp] theorem loopErr_tick : loopErr .tick = none := rfl
@[simp] theorem loopErr_shutdown : loopErr .shutdown = none := rfl
@[simp] theorem loopErr_loop (e : Nat) : loopErr (.refreshReturns .loop e) = some e := rfl
@[simp] theorem loopErr_final (e : Nat) : loopErr (.refreshReturns .shutdown e) = none := rfl
@[simp] theorem finalErr_tick : finalErr .tick = none := rfl
@[simp] theorem finalErr_shutdown : finalErr .shutdown = none := rfl
@[simp] theorem finalErr_loop (e : Nat) : finalErr (.refreshReturns .loop e) = none := rfl
@[simp] theorem finalErr_final (e : Nat) : finalErr (.refreshReturns .shutdown e) = some e := rfl

@[simp] theorem isLoopRefresh_start : isLoopRefresh (.refresh (.cons .start)) = true := rfl
@[simp] theorem isLoopRefresh_shut : isLoopRefresh (.refresh (.cons .shutdown)) = false := rfl
@[simp] theorem isLoopRefresh_u : isLoopRefresh .untilNext = false := rfl
@[simp] theorem isLoopRefresh_a (d : Nat) : isLoopRefresh (.after d) = false := rfl
@[simp] theorem isLoopRefresh_h (c : Ctx) (e : Nat) : isLoopRefresh (.handle c e) = false := rfl
@[simp] theorem isLoopRefresh_s (e : Nat) : isLoopRefresh (.shutdownReturns e) = false := rfl
@[simp] theorem isLoopRefresh_p : isLoopRefresh .panicClose = false := rfl
@[simp] theorem isFinalRefresh_start : isFinalRefresh (.refresh (.cons .start)) = false := rfl
@[simp] theorem isFinalRefresh_shut : isFinalRefresh (.refresh (.cons .shutdown)) = true := rfl
@[simp] theorem isFinalRefresh_u : isFinalRefresh .untilNext = false := rfl
@[simp] theorem isFinalRefresh_a (d : Nat) : isFinalRefresh (.after d) = false := rfl
@[simp] theorem isFinalRefresh_h (c : Ctx) (e : Nat) : isFinalRefresh (.handle c e) = false := rfl
@[simp] theorem isFinalRefresh_s (e : Nat) : isFinalRefresh (.shutdownReturns e) = false := rfl
@[simp] theorem isFinalRefresh_p : isFinalRefresh .panicClose = false := rfl
@[simp] theorem isRefresh_r (c : Ctx) : isRefresh (.refresh c) = true := rfl
@[simp] theorem isRefresh_u : isRefresh .untilNext = false := rfl
@[simp] theorem isRefresh_a (d : Nat) : isRefresh (.after d) = false := rfl
@[simp] theorem isRefresh_h (c : Ctx) (e : Nat) : isRefresh (.handle c e) = false := rfl
@[simp] theorem isRefresh_s (e : Nat) : isRefresh (.shutdownReturns e) = false := rfl
@[simp] theorem isRefresh_p : isRefresh .panicClose = false := rfl
@[simp] theorem isAfter_r (c : Ctx) : isAfter (.refresh c) = false := rfl
@[simp] theorem isAfter_u : isAfter .untilNext = false := rfl
@[simp] theorem isAfter_a (d : Nat) : isAfter (.after d) = true := rfl
@[simp] theorem isAfter_h (c : Ctx) (e : Nat) : isAfter (.handle c e) = false := rfl
@[simp] theorem isAfter_s (e : Nat) : isAfter (.shutdownReturns e) = false := rfl
@[simp] theorem isAfter_p : isAfter .panicClose = false := rfl
@[simp] theorem isUntilNext_r (c : Ctx) : isUntilNext (.refresh c) = false := rfl
@[simp] theorem isUntilNext_u : isUntilNext .untilNext = true := rfl
@[simp] theorem isUntilNext_a (d : Nat) : isUntilNext (.after d) = false := rfl
@[simp] theorem isUntilNext_h (c : Ctx) (e : Nat) : isUntilNext (.handle c e) = false := rfl
@[simp] theorem isUntilNext_s (e : Nat) : isUntilNext (.shutdownReturns e) = false := rfl
@[simp] theorem isUntilNext_p : isUntilNext .panicClose = false := rfl

theorem isRefresh_of_isLoopRefresh : ∀ o, isLoopRefresh o = true → isRefresh o = true
  | .refresh _, _ => rfl

theorem isRefresh_of_isFinalRefresh : ∀ o, isFinalRefresh o = true → isRefresh o = true
  | .refresh _, _ => rfl

theorem flat_cons (o : List Out) (tr : List (List Out)) : flat (o :: tr) = o ++ flat tr := by
  simp [flat]

theorem flat_nil : flat [] = [] := rfl

/-- `loopTop` of the repaired code without `select`'s choice: with `done` closed the loop returns
whichever case is taken -/
theorem loopTop_eq (env : Env) (s : St) :
    loopTop true env s =
      if s.closed then ({ s with k := s.k + 1, loop := .exited }, [.untilNext, .after (env.dur s.k)])
      else if env.imm s.k then
        ({ s with k := s.k + 1, loop := .refreshing }, [.untilNext, .after (env.dur s.k), .refresh (.cons .start)])
      else ({ s with k := s.k + 1, loop := .waiting }, [.untilNext, .after (env.dur s.k)]) := by
  unfold loopTop selectDoneTimer timerCase refreshStart
  cases s.closed <;> cases env.imm s.k <;> cases env.pick s.k <;> rfl

/-- The ways through `step`, on states written out as `⟨loop, closed, fin, k⟩` so that the
observations compute.  Whether the timer is ready when the loop comes round is left open. -/
inductive CStep (env : Env) : Bool → St → Ev → St → List Out → Prop
  | nop : enabled s ev = false → CStep env ros s ev s []
  | tick : CStep env ros ⟨.waiting, false, f, k⟩ .tick ⟨.refreshing, false, f, k⟩ [.refresh (.cons .start)]
  | tickClosed : CStep env ros ⟨.waiting, true, f, k⟩ .tick ⟨.exited, true, f, k⟩ []
  | loopRetExit (e : Nat) :
    CStep env ros ⟨.refreshing, true, f, k⟩ (.refreshReturns .loop e) ⟨.exited, true, f, k + 1⟩
      ((if e ≠ 0 then [.handle .start e] else []) ++ [.untilNext, .after (env.dur k)])
  | loopRetWait (e : Nat) :
    CStep env ros ⟨.refreshing, false, f, k⟩ (.refreshReturns .loop e) ⟨.waiting, false, f, k + 1⟩
      ((if e ≠ 0 then [.handle .start e] else []) ++ [.untilNext, .after (env.dur k)])
  | loopRetRefresh (e : Nat) :
    CStep env ros ⟨.refreshing, false, f, k⟩ (.refreshReturns .loop e) ⟨.refreshing, false, f, k + 1⟩
      ((if e ≠ 0 then [.handle .start e] else []) ++ [.untilNext, .after (env.dur k), .refresh (.cons .start)])
  | finalRet (e : Nat) :
    CStep env ros ⟨l, c, .refreshing, k⟩ (.refreshReturns .shutdown e) ⟨l, c, .returned, k⟩ [.shutdownReturns e]
  | shutPanic : CStep env ros ⟨l, true, f, k⟩ .shutdown ⟨l, true, f, k⟩ [.panicClose]
  | shutFinal :
    CStep env true ⟨l, false, f, k⟩ .shutdown ⟨if l = .waiting then .exited else l, true, .refreshing, k⟩
      [.refresh (.cons .shutdown)]
  | shutNoFinal :
    CStep env false ⟨l, false, f, k⟩ .shutdown ⟨if l = .waiting then .exited else l, true, .returned, k⟩
      [.shutdownReturns 0]

theorem step_spec (env : Env) (ros : Bool) (s : St) (ev : Ev) :
    CStep env ros s ev (step env ros s ev).1 (step env ros s ev).2 := by
  obtain ⟨l, c, f, k⟩ := s
  cases ev with
  | tick => cases l <;> first | exact .nop rfl | (cases c <;> constructor)
  | refreshReturns who e =>
    cases who with
    | loop =>
      cases l with
      | refreshing =>
        simp only [step, stepG]
        rw [loopTop_eq]
        cases c <;> cases env.imm k <;> constructor
      | _ => exact .nop rfl
    | shutdown => cases f <;> first | exact .nop rfl | exact .finalRet e
  | shutdown => cases c <;> cases ros <;> constructor

theorem inv_cstep {env ros s ev s' out} (h : CStep env ros s ev s' out) (hi : Inv s) : Inv s' := by
  cases h with
  | @shutFinal l _ _ | @shutNoFinal l _ _ => cases l <;> simp_all [Inv]
  | _ => simp_all [Inv]

theorem inv_step (env : Env) (ros : Bool) (s : St) (ev : Ev) (h : Inv s) : Inv (step env ros s ev).1 :=
  inv_cstep (step_spec env ros s ev) h

/-- `Start` enters the loop where an iteration ends: `init` is the step in which a refresh that
was running in `start` returns nil, so a run is a history from `start` and what holds of every
history from a state holds of `Start` followed by a history. -/
def start : St := ⟨.refreshing, false, .idle, 0⟩

def startEv : Ev := .refreshReturns .loop 0

theorem init_eq_step (env : Env) (ros : Bool) : init env = step env ros start startEv := rfl

theorem inv_start : Inv start := ⟨nofun, fun _ => rfl, fun _ => rfl⟩

theorem inv_init (env : Env) : Inv (init env).1 := inv_step env true start startEv inv_start

theorem closed_step {env ros s ev s' out} (h : CStep env ros s ev s' out) (hc : Closed s) : Closed s' := by
  cases h <;> simp_all [Closed]

theorem closed_of_ne_shutdown {env ros s ev s' out} (h : CStep env ros s ev s' out) (hne : ev ≠ .shutdown) :
    s'.closed = s.closed := by
  cases h <;> first | rfl | exact absurd rfl hne

/-- A step keeps the balance of timers: the refreshes it starts plus the timer pending after it
are the timers it arms (`After`) plus the timer pending before it.  The invariant excludes the
one step that would break it, a tick that finds `done` closed. -/
theorem cnt_step {env ros s ev s' out} (h : CStep env ros s ev s' out) (hi : Inv s) :
    out.countP isLoopRefresh + pend s' = out.countP isAfter + pend s := by
  cases h with
  | tickClosed => exact absurd (hi.1 rfl) nofun
  | loopRetExit e | loopRetWait e | loopRetRefresh e => cases e <;> rfl
  | @shutFinal l _ _ | @shutNoFinal l _ _ => cases l <;> rfl
  | _ => rfl

theorem handled_step {env ros s ev s' out} (h : CStep env ros s ev s' out) :
    handled out = ((if enabled s ev then [ev] else []).filterMap loopErr).filter (· ≠ 0) := by
  cases h with
  | nop h => rw [h]; rfl
  | loopRetExit e | loopRetWait e | loopRetRefresh e => cases e <;> rfl
  | _ => rfl

theorem sched_step {env ros s ev s' out} (h : CStep env ros s ev s' out) :
    out.countP isUntilNext = ((if enabled s ev then [ev] else []).filterMap loopErr).length ∧
    s'.k = s.k + out.countP isUntilNext ∧
    afters out = (List.range' s.k (out.countP isUntilNext)).map env.dur := by
  cases h with
  | nop h => rw [h]; exact ⟨rfl, rfl, rfl⟩
  | loopRetExit e | loopRetWait e | loopRetRefresh e => cases e <;> exact ⟨rfl, rfl, rfl⟩
  | _ => exact ⟨rfl, rfl, rfl⟩

theorem refresh_ctx_step {env ros s ev s' out} (h : CStep env ros s ev s' out) :
    ∀ o ∈ out, isRefresh o = true → o = .refresh (.cons .start) ∨ o = .refresh (.cons .shutdown) := by
  cases h with
  | loopRetExit e | loopRetWait e | loopRetRefresh e => cases e <;> simp
  | _ => simp

theorem closed_step_obs {env ros s ev s' out} (h : CStep env ros s ev s' out) (hc : Closed s) :
    out.countP isRefresh = 0 ∧
    shutdownRets out = (if s.fin = .refreshing then ([ev].filterMap finalErr) else []) ∧
    (s'.fin = .refreshing ↔ (s.fin = .refreshing ∧ finalErr ev = none)) := by
  obtain ⟨h1, h2, h3⟩ := hc
  cases h with
  | nop h => rcases ev with _ | ⟨_ | _, e⟩ | _ <;> simp_all [shutdownRets, enabled]
  | loopRetExit e => cases e <;> simp [shutdownRets]
  | _ => simp_all [shutdownRets]

/-- `runFrom` as a relation: a history from `s` ends in `s'` with the flattened trace `tr` -/
inductive CRun (env : Env) (ros : Bool) : St → List Ev → St → List Out → Prop
  | nil : CRun env ros s [] s []
  | cons : CRun env ros (step env ros s e).1 es s' tr → CRun env ros s (e :: es) s' ((step env ros s e).2 ++ tr)

theorem runFrom_spec (env : Env) (ros : Bool) :
    ∀ evs s, CRun env ros s evs (runFrom env ros s evs).1 (flat (runFrom env ros s evs).2)
  | [], _ => .nil
  | _ :: es, _ => .cons (runFrom_spec env ros es _)

theorem run_spec (env : Env) (ros : Bool) (evs : List Ev) :
    CRun env ros start (startEv :: evs) (run env ros evs).1 (flat (run env ros evs).2) :=
  runFrom_spec env ros (startEv :: evs) start

theorem accepted_start (env : Env) (ros : Bool) (evs : List Ev) :
    acceptedFrom env ros start (startEv :: evs) = startEv :: accepted env ros evs := rfl

theorem run_trace (env : Env) (ros : Bool) (evs : List Ev) :
    flat (run env ros evs).2 = (init env).2 ++ flat (runFrom env ros (init env).1 evs).2 :=
  flat_cons ..

theorem inv_run {env ros s evs s' tr} (h : CRun env ros s evs s' tr) (hi : Inv s) : Inv s' := by
  induction h with
  | nil => exact hi
  | cons _ ih => exact ih (inv_step env ros _ _ hi)

theorem cnt_run {env ros s evs s' tr} (h : CRun env ros s evs s' tr) (hi : Inv s) :
    tr.countP isLoopRefresh + pend s' = tr.countP isAfter + pend s := by
  induction h with
  | nil => rfl
  | @cons s e _ _ _ _ ih =>
    have h1 := cnt_step (step_spec env ros s e) hi
    have h2 := ih (inv_step env ros s e hi)
    rw [List.countP_append, List.countP_append]
    omega

theorem refresh_ctx_run {env ros s evs s' tr} (h : CRun env ros s evs s' tr) :
    ∀ o ∈ tr, isRefresh o = true → o = .refresh (.cons .start) ∨ o = .refresh (.cons .shutdown) := by
  induction h with
  | nil => exact fun _ ho => nomatch ho
  | @cons s e _ _ _ _ ih =>
    exact fun o ho hr =>
      (List.mem_append.1 ho).elim (fun ho => refresh_ctx_step (step_spec env ros s e) o ho hr) (fun ho => ih o ho hr)

theorem closed_run_of_no_shutdown {env ros s evs s' tr} (h : CRun env ros s evs s' tr) (hne : Ev.shutdown ∉ evs) :
    s'.closed = s.closed := by
  induction h with
  | nil => rfl
  | @cons s e _ _ _ _ ih =>
    exact (ih fun hh => hne (List.mem_cons_of_mem _ hh)).trans
      (closed_of_ne_shutdown (step_spec env ros s e) fun he => hne (he ▸ List.mem_cons_self ..))

theorem handled_run {env ros s evs s' tr} (h : CRun env ros s evs s' tr) :
    handled tr = ((acceptedFrom env ros s evs).filterMap loopErr).filter (· ≠ 0) := by
  induction h with
  | nil => rfl
  | @cons s e _ _ _ _ ih =>
    have h1 := handled_step (step_spec env ros s e)
    simp only [handled] at h1 ih ⊢
    rw [acceptedFrom, List.filterMap_append, List.filterMap_append, List.filter_append, h1, ih]

theorem sched_run {env ros s evs s' tr} (h : CRun env ros s evs s' tr) :
    tr.countP isUntilNext = ((acceptedFrom env ros s evs).filterMap loopErr).length ∧
    s'.k = s.k + tr.countP isUntilNext ∧
    afters tr = (List.range' s.k (tr.countP isUntilNext)).map env.dur := by
  induction h with
  | nil => exact ⟨rfl, rfl, rfl⟩
  | @cons s e _ _ _ _ ih =>
    obtain ⟨a1, a2, a3⟩ := sched_step (step_spec env ros s e)
    obtain ⟨b1, b2, b3⟩ := ih
    simp only [afters] at a3 b3 ⊢
    rw [acceptedFrom, List.countP_append, List.filterMap_append, List.filterMap_append, List.length_append]
    refine ⟨by rw [a1, b1], by omega, ?_⟩
    rw [a3, b3, ← List.map_append, a2, List.range'_append_1]

theorem closed_run {env ros s evs s' tr} (h : CRun env ros s evs s' tr) (hc : Closed s) :
    tr.countP isRefresh = 0 ∧
    shutdownRets tr = (if s.fin = .refreshing then (evs.filterMap finalErr).take 1 else []) := by
  induction h with
  | nil => exact ⟨rfl, by split <;> rfl⟩
  | @cons s e _ _ _ _ ih =>
    obtain ⟨a1, a2, a3⟩ := closed_step_obs (step_spec env ros s e) hc
    obtain ⟨b1, b2⟩ := ih (closed_step (step_spec env ros s e) hc)
    simp only [shutdownRets] at a2 b2 ⊢
    rw [List.countP_append, List.filterMap_append, a1, b1, a2, b2]
    refine ⟨rfl, ?_⟩
    by_cases hf : s.fin = .refreshing <;> cases hfe : finalErr e <;> simp [a3, hf, hfe]

end GolibsVerif.C18
