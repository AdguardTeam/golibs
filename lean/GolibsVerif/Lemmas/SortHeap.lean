/-
`siftDownCmpFunc` and `heapSortCmpFunc` of `Go/Sort.lean`: for every comparator they succeed
and permute the range; for a strict weak order `siftDown` restores the heap property and
`heapSort` sorts.
-/
import GolibsVerif.Lemmas.SortBasic
import GolibsVerif.Lemmas.GoM

namespace GolibsVerif.Slices

variable {α : Type}

/-- every node `k ≥ lo` of the heap `data[first : first+hi]` dominates its children
(`2k+1` and `2k+2`) -/
def HeapFrom (cmp : α → α → Int) (d : Array α) (first lo hi : Int) : Prop :=
  ∀ k c, lo ≤ k → 2 * k + 1 ≤ c → c ≤ 2 * k + 2 → c < hi → NotLess cmp d (first + k) (first + c)

/-- the state of `siftDown` at the node `r`: the heap property holds at every other node `k ≥ lo`, and
the parent of `r` (if it is `≥ lo`) dominates the children of `r` -/
structure SiftPre (cmp : α → α → Int) (d : Array α) (first lo hi r : Int) : Prop where
  others : ∀ k c, lo ≤ k → k ≠ r → 2 * k + 1 ≤ c → c ≤ 2 * k + 2 → c < hi →
    NotLess cmp d (first + k) (first + c)
  parent : ∀ g c, lo ≤ g → 2 * g + 1 ≤ r → r ≤ 2 * g + 2 → 2 * r + 1 ≤ c → c ≤ 2 * r + 2 → c < hi →
    NotLess cmp d (first + g) (first + c)

theorem siftChild_spec (cmp : α → α → Int) (d : Array α) (first hi r : Int)
    (hr : 0 ≤ r) (hf : 0 ≤ first) (hlt : 2 * r + 1 < hi) (hs : first + hi ≤ d.size) :
    ∃ c, siftChild cmp d first hi (2 * r + 1) = .ok c ∧ 2 * r + 1 ≤ c ∧ c ≤ 2 * r + 2 ∧ c < hi ∧
      (WeakCmp cmp → ∀ c', 2 * r + 1 ≤ c' → c' ≤ 2 * r + 2 → c' < hi →
        NotLess cmp d (first + c) (first + c')) := by
  unfold siftChild
  split
  · obtain ⟨x, hx⟩ := at?_eq_some d (first + (2 * r + 1)) (by omega)
    obtain ⟨y, hy⟩ := at?_eq_some d (first + (2 * r + 1) + 1) (by omega)
    simp only [get_ok hx, get_ok hy, GoM.ok_bind, GoM.pure_eq_ok]
    rw [Int.add_assoc] at hy
    split
    · rename_i hc
      refine ⟨_, rfl, by omega, by omega, by omega, fun hw c' h1 h2 _ => ?_⟩
      obtain rfl | rfl : c' = 2 * r + 1 ∨ c' = 2 * r + 1 + 1 := by omega
      · exact NotLess.of_lt hw hx hy hc
      · exact NotLess.refl hw _ _
    · rename_i hc
      refine ⟨_, rfl, by omega, by omega, by omega, fun hw c' h1 h2 _ => ?_⟩
      obtain rfl | rfl : c' = 2 * r + 1 ∨ c' = 2 * r + 1 + 1 := by omega
      · exact NotLess.refl hw _ _
      · exact NotLess.of_get hx hy hc
  · refine ⟨_, rfl, by omega, by omega, by omega, fun hw c' h1 h2 h3 => ?_⟩
    obtain rfl : c' = 2 * r + 1 := by omega
    exact NotLess.refl hw _ _

theorem siftDownLoop_spec (cmp : α → α → Int) (lo hi first : Int) : ∀ (fuel : Nat) (d : Array α) (root : Int),
    (hi - root).toNat < fuel → 0 ≤ first → 0 ≤ lo → lo ≤ root → first + hi ≤ d.size →
    ∃ d', siftDownLoop cmp fuel d root hi first = .ok d' ∧ Frame d d' (first + root) (first + hi) ∧
      (WeakCmp cmp → SiftPre cmp d first lo hi root → HeapFrom cmp d' first lo hi) := by
  intro fuel
  induction fuel with
  | zero => intro d root hf; omega
  | succ fuel ih =>
    intro d root hfu hf hlo hr hs
    simp only [siftDownLoop]
    by_cases hch : 2 * root + 1 ≥ hi
    · rw [if_pos hch]
      exact ⟨d, rfl, Frame.refl .., fun _ hpre k c hk h1 h2 h3 => hpre.others k c hk (by omega) h1 h2 h3⟩
    · rw [if_neg hch]
      obtain ⟨c, hc, hc1, hc2, hc3, hmax⟩ := siftChild_spec cmp d first hi root (by omega) hf (by omega) hs
      obtain ⟨x, hx⟩ := at?_eq_some d (first + root) (by omega)
      obtain ⟨y, hy⟩ := at?_eq_some d (first + c) (by omega)
      simp only [hc, get_ok hx, get_ok hy, GoM.ok_bind]
      split
      · rename_i hnl
        refine ⟨d, rfl, Frame.refl .., fun hw hpre k c' hk h1 h2 h3 => ?_⟩
        by_cases hkr : k = root
        · -- the root dominates its greater child, which dominates the other one
          subst hkr
          exact (NotLess.of_get hx hy (by simpa using hnl)).trans hw (hmax hw c' h1 h2 h3) (by omega)
        · exact hpre.others k c' hk hkr h1 h2 h3
      · rename_i hl
        have hl' : cmp x y < 0 := by simpa using hl
        obtain ⟨d1, hsw, hf1, hat⟩ := swap_frame d (first + root) (first + c) (first + root) (first + hi)
          (by omega) hs (by omega) (by omega)
        simp only [hsw, GoM.ok_bind]
        obtain ⟨d2, h2, hf2, hp2⟩ := ih d1 c (by omega) hf hlo (by omega) (hf1.size_le hs)
        refine ⟨d2, h2, hf1.trans (hf2.mono (by omega) (Int.le_refl _)), fun hw hpre => hp2 hw ⟨?_, ?_⟩⟩
        · -- the nodes whose value or children have changed are `root` and its parent
          intro k c' hk hkc h1 h2 h3
          by_cases hkr : k = root
          · subst hkr
            by_cases hcc : c' = c
            · subst hcc
              exact (NotLess.of_lt hw hx hy hl').congr hat.fst hat.snd
            · exact (hmax hw c' h1 h2 h3).congr hat.fst (hat.other _ (by omega))
          · by_cases hcr : c' = root
            · subst hcr
              exact (hpre.parent k c hk h1 h2 hc1 hc2 hc3).congr (hat.other _ (by omega)) hat.fst
            · exact (hpre.others k c' hk hkr h1 h2 h3).congr (hat.other _ (by omega))
                (hat.other _ (by omega))
        · -- the parent of `c` is `root`, which now holds the old value of `c`
          intro g c' hg hg1 hg2 h1 h2 h3
          obtain rfl : g = root := by omega
          exact (hpre.others c c' (by omega) (by omega) h1 h2 h3).congr hat.fst (hat.other _ (by omega))

theorem siftDown_spec (cmp : α → α → Int) (d : Array α) (lo hi first : Int)
    (hf : 0 ≤ first) (hlo : 0 ≤ lo) (hs : first + hi ≤ d.size) :
    ∃ d', siftDown cmp d lo hi first = .ok d' ∧ Frame d d' (first + lo) (first + hi) ∧
      (WeakCmp cmp → HeapFrom cmp d first (lo + 1) hi → HeapFrom cmp d' first lo hi) := by
  obtain ⟨d', h1, h2, h3⟩ := siftDownLoop_spec cmp lo hi first (hi - lo).toNat.succ d lo (by omega) hf hlo
    (Int.le_refl _) hs
  refine ⟨d', h1, h2, fun hw hh => h3 hw ⟨?_, ?_⟩⟩
  · intro k c hk hkr
    exact hh k c (by omega)
  · intro g c hg hr
    omega

/-- the root of a heap is not less than any of its elements -/
theorem heap_root_max (cmp : α → α → Int) (hw : WeakCmp cmp) (d : Array α) (first hi : Int)
    (hf : 0 ≤ first) (hs : first + hi ≤ d.size) (hh : HeapFrom cmp d first 0 hi) {m : α}
    (hm : at? d first = some m) : AllOn (fun x => ¬ cmp m x < 0) d first (first + hi) := by
  intro k x hk1 hk2 hx
  induction hn : (k - first).toNat using Nat.strongRecOn generalizing k x with
  | ind n ih =>
    by_cases hz : k = first
    · subst hz
      rw [hm] at hx; cases hx
      exact hw.irrefl _
    · -- by induction the root is not less than the parent of `k`
      obtain ⟨z, hz'⟩ := at?_eq_some d (first + (k - first - 1) / 2) (by omega)
      refine hw.le_trans
        (hh ((k - first - 1) / 2) (k - first) (by omega) (by omega) (by omega) (by omega) z x hz' ?_)
        (ih _ (by omega) _ z (by omega) (by omega) hz' rfl)
      rwa [show first + (k - first) = k by omega]

theorem heapBuild_spec (cmp : α → α → Int) (hi first : Int) (d : Array α) (i : Int)
    (hi1 : -1 ≤ i) (hf : 0 ≤ first) (hs : first + hi ≤ d.size) :
    ∃ d', heapBuild cmp d i hi first = .ok d' ∧ Frame d d' first (first + hi) ∧
      (WeakCmp cmp → HeapFrom cmp d first (i + 1) hi → HeapFrom cmp d' first 0 hi) := by
  fun_induction heapBuild cmp d i hi first with
  | case1 d i h0 ih =>
    obtain ⟨d1, h1, hf1, hh1⟩ := siftDown_spec cmp d i hi first hf h0 hs
    obtain ⟨d2, h2, hf2, hh2⟩ := ih d1 (by omega) (hf1.size_le hs)
    simp only [h1, GoM.ok_bind]
    refine ⟨d2, h2, (hf1.mono (by omega) (Int.le_refl _)).trans hf2, fun hw hh => hh2 hw ?_⟩
    rw [show i - 1 + 1 = i by omega]
    exact hh1 hw hh
  | case2 d i h0 =>
    rw [show i + 1 = 0 by omega]
    exact ⟨d, rfl, Frame.refl .., fun _ h => h⟩

/-- invariant of the second loop of `heapSort` before the iteration `i`: `[0, i]` is a heap, and
every element behind `i` dominates all elements before it -/
structure PopInv (cmp : α → α → Int) (d : Array α) (first hi i : Int) : Prop where
  heap : HeapFrom cmp d first 0 (i + 1)
  above : ∀ p q, first ≤ p → p < q → first + i < q → q < first + hi → NotLess cmp d q p

theorem heapPop_spec (cmp : α → α → Int) (hi first : Int) (d : Array α) (i : Int)
    (hi1 : -1 ≤ i) (hih : i < hi) (hf : 0 ≤ first) (hs : first + hi ≤ d.size) :
    ∃ d', heapPop cmp d i 0 first = .ok d' ∧ Frame d d' first (first + hi) ∧
      (WeakCmp cmp → PopInv cmp d first hi i → SortedOn cmp d' first (first + hi)) := by
  fun_induction heapPop cmp d i 0 first with
  | case2 d i h0 =>
    exact ⟨d, rfl, Frame.refl .., fun _ hinv p q hp hpq hq => hinv.above p q hp hpq (by omega) hq⟩
  | case1 d i h0 ih =>
    obtain ⟨d1, hsw, hf1, hat⟩ := swap_frame d first (first + i) first (first + (i + 1)) hf (by omega)
      (by omega) (by omega)
    have hs1 := hf1.size_le hs
    obtain ⟨d2, h2, hf2, hh2⟩ := siftDown_spec cmp d1 0 i first hf (Int.le_refl _) (by omega)
    rw [Int.add_zero] at hf2
    obtain ⟨d3, h3, hf3, hh3⟩ := ih d2 (by omega) (by omega) (hf2.size_le hs1)
    simp only [hsw, h2, h3, GoM.ok_bind]
    -- one iteration permutes `[0, i]`; what holds of all elements of `[0, i]` before, holds after
    have hf12 : Frame d d2 first (first + (i + 1)) := hf1.trans (hf2.mono (Int.le_refl _) (by omega))
    refine ⟨d3, rfl, (hf12.mono (Int.le_refl _) (by omega)).trans hf3, fun hw hinv => hh3 hw ⟨?_, ?_⟩⟩
    · rw [show i - 1 + 1 = i by omega]
      refine hh2 hw fun k c hk h1 h2 h3 => ?_
      exact (hinv.heap k c (by omega) h1 h2 (by omega)).congr (hat.other _ (by omega))
        (hat.other _ (by omega))
    · intro p q hp hpq hq hq' y x hy hx
      by_cases hqi : q = first + i
      · -- `i` holds the old root, the greatest element of the heap
        subst hqi
        rw [hf2.out _ (by omega), hat.snd] at hy
        exact hf12.allOn hf (heap_root_max cmp hw d first (i + 1) hf (by omega) hinv.heap hy) p x hp
          (by omega) hx
      · rw [hf12.out q (by omega)] at hy
        by_cases hpi : p ≤ first + i
        · exact hf12.allOn hf (P := fun x => ¬ cmp y x < 0)
            (fun k x h1 h2 hx => hinv.above k q h1 (by omega) (by omega) hq' y x hy hx) p x hp (by omega) hx
        · rw [hf12.out p (by omega)] at hx
          exact hinv.above p q hp hpq (by omega) hq' y x hy hx

theorem heapSort_spec (cmp : α → α → Int) (d : Array α) (a b : Int) (ha : 0 ≤ a) (hab : a < b)
    (hb : b ≤ d.size) :
    ∃ d', heapSort cmp d a b = .ok d' ∧ Frame d d' a b ∧ (WeakCmp cmp → SortedOn cmp d' a b) := by
  have hnn : (0 : Int) ≤ b - a - 1 := by omega
  obtain ⟨d1, h1, hf1, hh1⟩ := heapBuild_spec cmp (b - a) a d ((b - a - 1) / 2) (by omega) ha (by omega)
  obtain ⟨d2, h2, hf2, hh2⟩ := heapPop_spec cmp (b - a) a d1 (b - a - 1) (by omega) (by omega) ha
    (hf1.size_le (by omega))
  rw [show a + (b - a) = b by omega] at hf1 hf2 hh2
  simp only [heapSort, Int.tdiv_eq_ediv_of_nonneg hnn, h1, h2, GoM.ok_bind]
  refine ⟨d2, rfl, hf1.trans hf2, fun hw => hh2 hw ⟨?_, ?_⟩⟩
  · rw [show b - a - 1 + 1 = b - a by omega]
    refine hh1 hw fun k c hk h1 h2 h3 => ?_
    omega
  · intro p q hp hpq hq hq'
    omega

end GolibsVerif.Slices
