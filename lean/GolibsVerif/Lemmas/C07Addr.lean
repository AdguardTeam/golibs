/-
C07 — the address field and the separators: a blank or `'#'` in a text accepted by the model
of `netip.ParseAddr` lies in the zone, so the zone of an address parsed from a blank/`#`-free
field has none, and neither has any other text of that address.
-/
import GolibsVerif.Lemmas.C07
import GolibsVerif.Lemmas.NetipFmtWF

namespace GolibsVerif.C07
open GolibsVerif GolibsVerif.Netip

theorem isSep_iff (b : Nat) : isSep b = true ↔ b = 32 ∨ b = 9 ∨ b = 35 := by
  simp only [isSep, Bool.or_eq_true, isSpace_iff, hash, beq_iff_eq, or_assoc]

theorem sep_not_ok {b : Nat} (h : isSep b = true) : ¬ okByte b ∧ b ≠ 37 := by
  rcases (isSep_iff b).1 h with rfl | rfl | rfl <;> (unfold okByte; decide)

/-- If a blank/`#`-free field parses to `a`, then any other text that parses to `a` — in
particular `a.String()` under ADDR-RT — is blank/`#`-free as well: such a byte could only sit
in the zone, and the zone of `a` was cut out of the field. -/
theorem addr_text_clean (f txt : Bytes) (a : Addr) (hf : ∀ b ∈ f, isSep b = false)
    (hp : parseAddr f = some a) (hrt : parseAddr txt = some a) : ∀ b ∈ txt, isSep b = false := by
  intro b hb
  cases hs : isSep b with
  | false => rfl
  | true =>
    exfalso
    obtain ⟨hno, h37⟩ := sep_not_ok hs
    rcases (parseAddr_ok hrt).2.1 b hb with h | h | h
    · exact hno h
    · exact h37 h
    · have := hf b ((parseAddr_ok hp).2.2 b h)
      rw [hs] at this; cases this

end GolibsVerif.C07
