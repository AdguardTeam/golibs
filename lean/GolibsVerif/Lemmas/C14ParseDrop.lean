/-
C14 — locality of `time.ParseDuration` (model): a text `s` that ends with a unit byte `e`
(neither `.` nor a digit) and the same text followed by a further group `z` (which begins
with a digit) are parsed alike up to the end of `s`.  From this: appending `0s` after a final
`m`, or `0m` after a final `h`, does not change the result — the two "drop" clauses of the
contract DUR-RT (`Spec/C14.lean`), for *every* text; with the round trip on every `int64` the
contract holds, verbatim, for the model.
-/
import GolibsVerif.Model.C14Parse
import GolibsVerif.Spec.C14
import GolibsVerif.Lemmas.C14ParseMain

namespace GolibsVerif.C14

/-- the running sum stays `≤ 2^63` (the test after `d += v`) -/
theorem parseLoop_bound : ∀ (n : Nat) (s : Bytes) (d d' : Nat), d ≤ two63 →
    parseLoop n s d = some d' → d' ≤ two63 := by
  intro n
  induction n with
  | zero =>
    intro s d d' hd h
    cases s with
    | nil => simp [parseLoop] at h; omega
    | cons c t => simp [parseLoop] at h
  | succ n ih =>
    intro s d d' hd h
    cases s with
    | nil => simp [parseLoop] at h; omega
    | cons c t =>
      simp only [parseLoop] at h
      cases hg : parseGroup (c :: t) with
      | none => simp [hg] at h
      | some vr =>
        obtain ⟨v, r⟩ := vr
        simp only [hg] at h
        split at h
        · cases h
        · exact ih _ _ _ (by omega) h

/-- the loop on `pre ++ [e] ++ z` is the loop on `pre ++ [e]` followed by the loop on `z` -/
theorem parseLoop_local (e : Nat) (he : isUnit e = true) (z : Bytes) (hz : NumHead z) :
    ∀ (m : Nat) (pre : Bytes) (n d : Nat), (pre ++ [e]).length ≤ m → (pre ++ e :: z).length ≤ n →
    parseLoop n (pre ++ e :: z) d
      = (parseLoop m (pre ++ [e]) d).bind (fun d' => parseLoop z.length z d') := by
  intro m
  induction m with
  | zero => intro pre n d hm; simp at hm
  | succ m ih =>
    intro pre n d hm hn
    cases n with
    | zero => simp at hn
    | succ n =>
      rw [parseLoop_succ n _ (by simp) d, parseLoop_succ m _ (by simp) d,
        parseGroup_append pre e z he hz]
      cases hg : parseGroup (pre ++ [e]) with
      | none => rfl
      | some vr =>
        obtain ⟨hsuf, hl⟩ := parseGroup_rest hg
        simp only [List.length_append, List.length_cons, List.length_nil] at hm hn hl
        simp only [Option.map_some, Option.bind]
        split
        · rfl
        · -- the rest of the round is a suffix of `pre ++ [e]`: nothing, or again a text ending in `e`
          rcases List.suffix_concat_iff.1 hsuf with h0 | ⟨r, hr, -⟩
          · rw [h0, List.nil_append]
            have : ∀ d', parseLoop m [] d' = some d' := fun d' => by cases m <;> rfl
            rw [this]
            exact parseLoop_fuel n z _ (by omega)
          · rw [hr, List.append_assoc]
            rw [hr, List.length_append] at hl
            exact ih r n _ (by simp only [List.length_append]; omega)
              (by simp only [List.length_append, List.length_cons] at hl ⊢; omega)

theorem parseAfterSign_append_zero (e u : Nat) (he : isUnit e = true)
    (hu : parseGroup [48, u] = some (0, [])) (neg : Bool) (pre : Bytes) :
    parseAfterSign neg (pre ++ e :: [48, u]) = parseAfterSign neg (pre ++ [e]) := by
  have hz : NumHead [48, u] := by intro c t h; cases h; rfl
  have h1 : pre ++ e :: [48, u] ≠ [48] := by
    intro h; have := congrArg List.length h
    simp only [List.length_append, List.length_cons, List.length_nil] at this; omega
  have h2 : pre ++ e :: [48, u] ≠ [] := by simp
  have h3 : pre ++ [e] ≠ [48] := by
    intro h
    have := congrArg List.getLast? h
    simp at this
    have := isUnit_iff.1 he; omega
  have h4 : pre ++ [e] ≠ [] := by simp
  unfold parseAfterSign
  simp only [h1, h2, h3, h4, if_false]
  rw [parseLoop_local e he [48, u] hz (pre ++ [e]).length pre _ 0 (Nat.le_refl _) (Nat.le_refl _)]
  cases hl : parseLoop (pre ++ [e]).length (pre ++ [e]) 0 with
  | none => rfl
  | some d' =>
    have hb := parseLoop_bound _ _ 0 d' (by unfold two63; omega) hl
    have hm : (d' + 0) % 18446744073709551616 = d' := by
      unfold two63 at hb; rw [Nat.add_zero]; exact Nat.mod_eq_of_lt (by omega)
    have : parseLoop [48, u].length [48, u] d' = some d' := by
      show parseLoop (1 + 1) (48 :: [u]) d' = some d'
      have hc : ¬ (d' > two63) := by omega
      simp only [parseLoop, hu, hm, hc, if_false]
    simp only [Option.bind, this]

/-- a further group `0<u>` behind a text ending in `m` / `h` does not change what
`ParseDuration` returns (value or error) -/
theorem parseDuration_append_zero (e u : Nat) (he : isUnit e = true) (hs : e ≠ 45 ∧ e ≠ 43)
    (hu : parseGroup [48, u] = some (0, [])) (pre : Bytes) :
    parseDuration ((pre ++ [e]) ++ [48, u]) = parseDuration (pre ++ [e]) := by
  cases pre with
  | nil =>
    show parseDuration (e :: [48, u]) = parseDuration [e]
    unfold parseDuration
    have h : ¬ (e = 45 ∨ e = 43) := by omega
    simp only [h, if_false]
    exact parseAfterSign_append_zero e u he hu false []
  | cons c p =>
    show parseDuration (c :: ((p ++ [e]) ++ [48, u])) = parseDuration (c :: (p ++ [e]))
    have e0 : (p ++ [e]) ++ [48, u] = p ++ e :: [48, u] := by simp
    unfold parseDuration
    by_cases h : c = 45 ∨ c = 43
    · simp only [h, if_true, e0]
      exact parseAfterSign_append_zero e u he hu _ p
    · simp only [h, if_false, e0]
      exact parseAfterSign_append_zero e u he hu false (c :: p)

/-- **DUR-RT holds for the model of `time.ParseDuration`.** -/
theorem durRT_parseDuration : DurRT parseDuration where
  rt := parse_stdString_all
  drop0s := by
    intro s d hl h
    obtain ⟨pre, rfl⟩ := List.getLast?_eq_some_iff.1 hl
    rw [parseDuration_append_zero 109 115 (by decide) (by omega) (by decide) pre] at h
    exact h
  drop0m := by
    intro s d hl h
    obtain ⟨pre, rfl⟩ := List.getLast?_eq_some_iff.1 hl
    rw [parseDuration_append_zero 104 109 (by decide) (by omega) (by decide) pre] at h
    exact h

end GolibsVerif.C14
