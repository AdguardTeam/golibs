import GolibsVerif.Lemmas.C02IPAddr

/-! C02: `IsValidIPPortString` vs `netip.ParseAddrPort`. -/
namespace GolibsVerif.C02
open GolibsVerif.Netutil GolibsVerif.Str GolibsVerif.Netip GolibsVerif

/-- the end of `ParseAddrPort`: the port, the address, and the check that brackets go with
IPv6 and only with IPv6 -/
def addrPortTail (ip port : Bytes) (v6 : Bool) : Option (Addr × Nat) :=
  match parseUintDec port 65535 with
  | none => none
  | some p =>
    match parseAddr ip with
    | none => none
    | some a =>
      if v6 ∧ a.is4 then none
      else if ¬ v6 ∧ a.is6 then none
      else some (a, p)

/-- `parseAddr` returns IPv6 exactly on input with a colon, so the bracket check is "brackets
iff there is a colon" -/
theorem addrPortTail_isSome (ip port : Bytes) (v6 : Bool) :
    (addrPortTail ip port v6).isSome =
      ((parseUintDec port 65535).isSome && (parseAddr ip).isSome && (v6 == decide (58 ∈ ip))) := by
  unfold addrPortTail
  cases parseUintDec port 65535 with
  | none => rfl
  | some p =>
    cases hpa : parseAddr ip with
    | none => rfl
    | some addr =>
      by_cases h58 : 58 ∈ ip
      · have := parseAddr_colon ip addr hpa h58
        cases v6 <;> simp [this, h58]
      · have := parseAddr_nocolon ip addr hpa h58
        cases v6 <;> simp [this, h58]

/-- the part of `ParseAddrPort` after the split at the last colon (the model text, tied by
`rfl`) -/
def portTail (ip port : Bytes) : Option (Addr × Nat) :=
  if ip = [] ∨ port = [] then none
  else
    let r : Option (Bytes × Bool) :=
      if ip.head? = some 91 then
        if ip.length < 2 ∨ ip.getLast? ≠ some 93 then none
        else some ((ip.drop 1).dropLast, true)
      else some (ip, false)
    match r with
    | none => none
    | some (ip, v6) => addrPortTail ip port v6

theorem parseAddrPort_eq_tail (s : Bytes) :
    parseAddrPort s =
      if lastIndexByte s 58 = -1 then none
      else portTail (s.take (lastIndexByte s 58).toNat) (s.drop ((lastIndexByte s 58).toNat + 1)) := rfl

theorem parseAddrPort_split (a b : Bytes) (hb : 58 ∉ b) :
    parseAddrPort (a ++ 58 :: b) = portTail a b := by
  rw [parseAddrPort_eq_tail, lastIndexByte_append_sep 58 a b hb]
  have h1 : ¬ ((a.length : Int) = -1) := by omega
  simp only [h1, if_false, Int.toNat_natCast, drop_succ_append_cons, List.take_left]

theorem splitAddrPort_nocolon (s : Bytes) (h : 58 ∉ s) : splitAddrPort s = .ok none := by
  simp [splitAddrPort, lastIndexByte_not_mem 58 s h, pure, Except.pure]

theorem hasPrefix_one (a : Bytes) (x : Nat) : hasPrefix a [x] = true ↔ a.head? = some x := by
  rw [hasPrefix_iff, List.head?_eq_some_iff]
  exact ⟨fun ⟨t, h⟩ => ⟨t, h.symm⟩, fun ⟨t, h⟩ => ⟨t, h.symm⟩⟩

theorem hasSuffix_one (a : Bytes) (z : Nat) : hasSuffix a [z] = true ↔ a.getLast? = some z := by
  rw [hasSuffix_iff, List.getLast?_eq_some_iff]
  exact ⟨fun ⟨t, h⟩ => ⟨t, h.symm⟩, fun ⟨t, h⟩ => ⟨t, h.symm⟩⟩

theorem bracket_form (a : Bytes) (h1 : a.head? = some 91) (h2 : a.getLast? = some 93) :
    ∃ mid, a = 91 :: (mid ++ [93]) := by
  rcases GoM.ends_cases a with rfl | ⟨x, rfl⟩ | ⟨x, mid, z, rfl⟩
  · simp at h1
  · simp at h1 h2; omega
  · simp at h1
    rw [GoM.getLast?_cons_snoc] at h2
    simp at h2
    exact ⟨mid, by rw [h1, h2]⟩

theorem bracket_facts (mid : Bytes) :
    (91 :: (mid ++ [93])).head? = some 91 ∧ (91 :: (mid ++ [93])).getLast? = some 93 ∧
    ((91 :: (mid ++ [93])).drop 1).dropLast = mid ∧ ¬ (91 :: (mid ++ [93])).length < 2 :=
  ⟨rfl, GoM.getLast?_cons_snoc 91 mid 93, by simp, by simp⟩

/-- what `splitAddrPort` returns for the text before and after the last colon: an address with a
colon must be bracketed, and loses the brackets -/
def splitSpec (ip port : Bytes) : Option (Bytes × Bytes) :=
  if ip = [] ∨ port = [] then none
  else if 58 ∈ ip then
    if ip.head? = some 91 ∧ ip.getLast? = some 93 then some ((ip.drop 1).dropLast, port) else none
  else some (ip, port)

theorem splitAddrPort_split (ip port : Bytes) (hb : 58 ∉ port) :
    splitAddrPort (ip ++ 58 :: port) = .ok (splitSpec ip port) := by
  unfold splitAddrPort splitSpec
  rw [lastIndexByte_append_sep 58 ip port hb]
  have h1 : ¬ ((ip.length : Int) = -1) := by omega
  simp only [h1, if_false, GoM.sliceTo_append_len, GoM.sliceFrom_append_cons, bind, Except.bind]
  by_cases hab : ip = [] ∨ port = []
  · simp [hab, pure, Except.pure]
  · simp only [hab, if_false, pure, Except.pure, containsByte, List.contains_iff_mem]
    by_cases h58 : 58 ∈ ip
    · simp only [h58, if_true]
      by_cases hbr : ip.head? = some 91 ∧ ip.getLast? = some 93
      · obtain ⟨mid, rfl⟩ := bracket_form ip hbr.1 hbr.2
        obtain ⟨f1, f2, f3, _⟩ := bracket_facts mid
        rw [if_pos hbr]
        simp only [(hasPrefix_one _ _).2 f1, (hasSuffix_one _ _).2 f2, GoM.slice_mid_snoc, f3]
        rfl
      · have hg : (!hasPrefix ip [91] || !hasSuffix ip [93]) = true := by
          cases hp : hasPrefix ip [91] with
          | false => rfl
          | true =>
            cases hsf : hasSuffix ip [93] with
            | false => rfl
            | true => exact absurd ⟨(hasPrefix_one _ _).1 hp, (hasSuffix_one _ _).1 hsf⟩ hbr
        simp only [hg, hbr, if_true, if_false]
    · simp [h58]

/-- `splitAddrPort` never panics: it returns nil when there is no colon, and otherwise what
`splitSpec` says of the text before and after the last one -/
theorem splitAddrPort_cases (s : Bytes) :
    (58 ∉ s ∧ splitAddrPort s = .ok none) ∨
    ∃ a b, s = a ++ 58 :: b ∧ 58 ∉ b ∧ splitAddrPort s = .ok (splitSpec a b) := by
  rcases last_cases 58 s with hs | ⟨a, b, rfl, hb⟩
  · exact Or.inl ⟨hs, splitAddrPort_nocolon s hs⟩
  · exact Or.inr ⟨a, b, rfl, hb, splitAddrPort_split a b hb⟩

/-- `ParseAddrPort` after its split accepts exactly when `splitSpec` yields an address `ParseAddr`
accepts and a port: both sides want brackets exactly around an address with a colon -/
theorem portTail_isSome (a b : Bytes) :
    (portTail a b).isSome = match splitSpec a b with
      | none => false
      | some (ip, port) => isUint16 port && (parseAddr ip).isSome := by
  unfold portTail splitSpec
  by_cases hab : a = [] ∨ b = []
  · simp [hab]
  · simp only [hab, if_false]
    have hport := isUint16_eq b (fun h => hab (Or.inr h))
    by_cases h58 : 58 ∈ a
    · simp only [h58, if_true]
      by_cases hbr : a.head? = some 91 ∧ a.getLast? = some 93
      · obtain ⟨mid, rfl⟩ := bracket_form a hbr.1 hbr.2
        obtain ⟨f1, f2, f3, f4⟩ := bracket_facts mid
        have h58m : 58 ∈ mid := by simpa using h58
        simp only [hbr, and_self, if_true, f3, f4, ne_eq, not_true_eq_false, or_false, if_false,
          addrPortTail_isSome, hport, h58m, decide_true, BEq.rfl, Bool.and_true]
      · simp only [hbr, if_false]
        by_cases hh : a.head? = some 91
        · have : a.getLast? ≠ some 93 := fun h => hbr ⟨hh, h⟩
          simp [hh, this]
        · simp [hh, addrPortTail_isSome, h58]
    · simp only [h58, if_false, hport]
      by_cases hh : a.head? = some 91
      · -- brackets around something without a colon
        rw [parseAddr_bracket a h58 hh]
        simp only [hh, if_true]
        by_cases hbad : a.length < 2 ∨ a.getLast? ≠ some 93
        · simp [hbad]
        · have hin : 58 ∉ a.tail.dropLast := fun hm =>
            h58 (List.mem_of_mem_tail (List.dropLast_subset _ hm))
          simp [hbad, addrPortTail_isSome, hin]
      · simp [hh, addrPortTail_isSome, h58]

/-- `IsValidIPPortString` accepts exactly what `netip.ParseAddrPort` accepts -/
theorem isValidIPPortString_eq (s : Bytes) :
    isValidIPPortString s = .ok ((parseAddrPort s).isSome) := by
  unfold isValidIPPortString
  rcases splitAddrPort_cases s with ⟨hs, h⟩ | ⟨a, b, rfl, hb, h⟩
  · rw [h]
    simp [parseAddrPort, lastIndexByte_not_mem 58 s hs, bind, Except.bind, pure, Except.pure]
  · rw [h, parseAddrPort_split a b hb, portTail_isSome]
    simp only [bind, Except.bind, pure, Except.pure]
    rcases splitSpec a b with _ | ⟨ip, port⟩
    · rfl
    · cases hu : isUint16 port <;> simp [hu, isValidIPString_eq]

end GolibsVerif.C02
