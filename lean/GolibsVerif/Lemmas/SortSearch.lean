/-
`slices.BinarySearch` / `BinarySearchFunc` of `Go/Sort.lean`: the loop never indexes out of range
and, on a slice partitioned by `lt` (every element satisfying `lt` precedes every element that
does not — true of a sorted slice), returns the number of elements satisfying `lt`.
-/
import GolibsVerif.Lemmas.SortBasic
import GolibsVerif.Lemmas.GoM

namespace GolibsVerif.Slices

variable {α : Type}

/-- `lt` holds on a prefix of the slice only -/
def PartitionedBy (lt : α → Bool) (d : Array α) : Prop :=
  ∀ p q x y, p < q → at? d p = some x → at? d q = some y → lt y = true → lt x = true

theorem binarySearchLoop_spec (lt : α → Bool) (d : Array α) (i j : Int) (hi : 0 ≤ i) (hij : i ≤ j)
    (hj : j ≤ d.size) :
    ∃ r, binarySearchLoop lt d i j = .ok r ∧ i ≤ r ∧ r ≤ j ∧
      (PartitionedBy lt d → (∀ k x, k < i → at? d k = some x → lt x = true) →
        (∀ k x, j ≤ k → at? d k = some x → lt x = false) →
        (∀ k x, k < r → at? d k = some x → lt x = true) ∧ (∀ k x, r ≤ k → at? d k = some x → lt x = false)) := by
  fun_induction binarySearchLoop lt d i j with
  | case2 i j hlt =>
    obtain rfl : j = i := by omega
    exact ⟨j, rfl, Int.le_refl _, Int.le_refl _, fun _ h1 h2 => ⟨h1, h2⟩⟩
  | case1 i j hlt h ihT ihF =>
    obtain ⟨x, hx⟩ := at?_eq_some d h (by omega)
    simp only [get_ok hx, GoM.ok_bind]
    cases hl : lt x with
    | true =>
      obtain ⟨r, h1, h2, h3, h4⟩ := ihT (by omega) (by omega) hj
      refine ⟨r, h1, by omega, h3, fun hp hlo hhi => h4 hp (fun k y hk hy => ?_) hhi⟩
      by_cases hk' : k = h
      · subst hk'; rw [hx] at hy; cases hy; exact hl
      · exact hp k h y x (by omega) hy hx hl
    | false =>
      obtain ⟨r, h1, h2, h3, h4⟩ := ihF hi (by omega) (by omega)
      refine ⟨r, h1, h2, by omega, fun hp hlo hhi => h4 hp hlo (fun k y hk hy => ?_)⟩
      by_cases hk' : k = h
      · subst hk'; rw [hx] at hy; cases hy; exact hl
      · cases hy' : lt y with
        | false => rfl
        | true => rw [hp h k x y (by omega) hx hy hy'] at hl; cases hl

theorem at?_toArray (l : List α) (k : Nat) : at? l.toArray (k : Int) = l[k]? := by
  rw [at?_ofNat]; simp

theorem at?_toArray_some {l : List α} {p : Int} {x : α} (h : at? l.toArray p = some x) :
    ∃ hp : p.toNat < l.length, 0 ≤ p ∧ l[p.toNat] = x := by
  have h0 := (at?_bounds h).1
  rw [at?_of_nonneg h0] at h
  have h' : l[p.toNat]? = some x := by simpa using h
  obtain ⟨hp, hx⟩ := List.getElem?_eq_some_iff.1 h'
  exact ⟨hp, h0, hx⟩

theorem PartitionedBy.of_pairwise {lt : α → Bool} {l : List α}
    (h : l.Pairwise fun x y => lt y = true → lt x = true) : PartitionedBy lt l.toArray := by
  intro p q x y hpq hx hy
  obtain ⟨hp, hp0, rfl⟩ := at?_toArray_some hx
  obtain ⟨hq, hq0, rfl⟩ := at?_toArray_some hy
  exact List.pairwise_iff_getElem.1 h _ _ hp hq (by omega)

/-- `BinarySearch(Func)`: always succeeds; on a slice partitioned by `lt` the index `i` is the
boundary of `lt`, and the flag is `eq` of the element there, if any -/
theorem binarySearchBy_spec (lt eq : α → Bool) (l : List α) :
    ∃ i : Nat, i ≤ l.length ∧
      binarySearchBy lt eq l = .ok ((i : Int), match l[i]? with | some x => eq x | none => false) ∧
      (PartitionedBy lt l.toArray → (∀ k x, k < i → l[k]? = some x → lt x = true) ∧
        (∀ k x, i ≤ k → l[k]? = some x → lt x = false)) := by
  obtain ⟨r, h1, h2, h3, h4⟩ := binarySearchLoop_spec lt l.toArray 0 (l.toArray.size : Int)
    (Int.le_refl _) (by omega) (Int.le_refl _)
  have hsz : l.toArray.size = l.length := by simp
  have hr : ((r.toNat : Nat) : Int) = r := by omega
  refine ⟨r.toNat, by omega, ?_, fun hp => ?_⟩
  · simp only [binarySearchBy, h1, GoM.ok_bind, hr]
    by_cases hlt : r < (l.toArray.size : Int)
    · obtain ⟨x, hx⟩ := at?_eq_some l.toArray r ⟨h2, hlt⟩
      have hx' : l[r.toNat]? = some x := by rw [← at?_toArray, hr]; exact hx
      simp only [if_pos hlt, get_ok hx, GoM.ok_bind, GoM.pure_eq_ok, hx']
    · have : l[r.toNat]? = none := List.getElem?_eq_none (by omega)
      simp only [if_neg hlt, GoM.pure_eq_ok, this]
  · obtain ⟨h5, h6⟩ := h4 hp (fun k x hk hx => by have := at?_bounds hx; omega)
      (fun k x hk hx => by have := at?_bounds hx; omega)
    exact ⟨fun k x hk hx => h5 (k : Int) x (by omega) ((at?_toArray l k).trans hx),
      fun k x hk hx => h6 (k : Int) x (by omega) ((at?_toArray l k).trans hx)⟩

end GolibsVerif.Slices
