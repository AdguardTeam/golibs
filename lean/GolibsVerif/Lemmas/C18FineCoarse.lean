/-
C18 — the coarse event-driven system of `Model/C18.lean` inside the fine-grained system of
`Model/C18Fine.lean`: every coarse event is a block of script commands of the fine system
(stimulus + run to quiescence), and the block produces exactly the coarse outputs.  Helper
definitions and the per-event lemma for `coarse_embeds_in_fine` (`Theorems/C18Fine.lean`).
-/
import GolibsVerif.Lemmas.C18
import GolibsVerif.Lemmas.C18Fine


namespace GolibsVerif.C18
open Fine

/-- the coarse output a fine event stands for (the other events are internal to the coarse
step: returns of callbacks, `New`, select / re-check, `close(done)`) -/
def outOf : FEv → Option Out
  | .untilCall => some .untilNext
  | .after d _ => some (.after d)
  | .refreshCall _ ctx => some (.refresh ctx)
  | .handleCall e => some (.handle .start e)
  | .shutRet e => some (.shutdownReturns e)
  | _ => none

def lpcOf : Loop → LPc
  | .waiting => .select
  | .refreshing => .inRefresh
  | .exited => .exited

/-- where the goroutine inside `Shutdown` is when the coarse system is in `fin`: not called /
inside the final `Refresh` / returned -/
def SRel : Final → SPc → Prop
  | .idle, sp => sp = .idle
  | .refreshing, sp => sp = .inRefresh
  | .returned, sp => ∃ e, sp = .returned e

/-- A quiescent fine state that a coarse state stands for: the loop goroutine blocked in the
select on an unfired timer / inside `Refresh` / gone. -/
def Rel (s : St) (fs : FSt) : Prop :=
  fs.lpc = lpcOf s.loop ∧ SRel s.fin fs.spc ∧ fs.closed = s.closed ∧ (s.loop ≠ .exited → fs.ready = false)

theorem SRel.quiet {f : Final} {sp : SPc} (h : SRel f sp) (l : LPc) (c r : Bool) :
    shutRunnable ⟨l, sp, c, r⟩ = false := by
  cases f
  · simp [shutRunnable, show sp = .idle from h]
  · simp [shutRunnable, show sp = .inRefresh from h]
  · obtain ⟨e, h⟩ := h
    simp [shutRunnable, h]

/-- the script commands one coarse event stands for; commands that do not apply in the state
(a return without a call in flight, …) are no-ops of the fine system, as the event is a no-op
of the coarse one -/
def expandEv (env : Env) (s : St) : Ev → List Cmd
  | .tick => [.tick, .newL]
  | .refreshReturns .loop e => [.refL e, .hdlL, .untL (env.dur s.k) (env.imm s.k), .newL]
  | .refreshReturns .shutdown e => [.refF e]
  | .shutdown => [.shut, .newF]

def cmdsActs (ros : Bool) : FSt → List Cmd → List Act
  | _, [] => []
  | fs, c :: cs => cmdActs ros fs c ++ cmdsActs ros (frun ros fs (cmdActs ros fs c)) cs

theorem cmdsActs_append (ros : Bool) (xs ys : List Cmd) :
    ∀ fs, cmdsActs ros fs (xs ++ ys) = cmdsActs ros fs xs ++ cmdsActs ros (frun ros fs (cmdsActs ros fs xs)) ys := by
  induction xs with
  | nil => intro fs; simp [cmdsActs, frun]
  | cons c cs ih => intro fs; simp [cmdsActs, ih, frun_append]

/-- the coarse history as a script of the fine system -/
def expand (env : Env) (ros : Bool) : St → List Ev → List Cmd
  | _, [] => []
  | s, ev :: evs => expandEv env s ev ++ expand env ros (step env ros s ev).1 evs

/-- the script of a whole coarse run: `Start` (the loop reaches its first `UntilNext`), the
first schedule answer, then the events -/
def coarseScript (env : Env) (ros : Bool) (evs : List Ev) : List Cmd :=
  [.untL (env.dur 0) (env.imm 0), .newL] ++ expand env ros (init env).1 evs

/-- … and its actions: ONE execution of the fine system -/
def coarseAsFineActs (env : Env) (ros : Bool) (evs : List Ev) : List Act :=
  startActs ros ++ cmdsActs ros (frun ros finit (startActs ros)) (coarseScript env ros evs)

attribute [local simp] cmdsActs cmdActs Cmd.act Cmd.imm settleShut settleLoop loopRunnable fstep frun ftrace outOf
  lpcOf selectDoneTimer List.filterMap_cons

/-- the schedule answers while the loop goroutine is inside `UntilNext` -/
theorem embed_loopTop (env : Env) (ros : Bool) (s : St) (sp : SPc) (hS : SRel s.fin sp) :
    Rel (loopTop true env s).1 (frun ros ⟨.inUntil, sp, s.closed, false⟩
      (cmdsActs ros ⟨.inUntil, sp, s.closed, false⟩ [.untL (env.dur s.k) (env.imm s.k), .newL])) ∧
    .untilNext :: (ftrace ros ⟨.inUntil, sp, s.closed, false⟩
        (cmdsActs ros ⟨.inUntil, sp, s.closed, false⟩ [.untL (env.dur s.k) (env.imm s.k), .newL])).filterMap outOf =
      (loopTop true env s).2 := by
  have hq := hS.quiet
  rw [loopTop_eq]
  cases hc : s.closed <;> cases hi : env.imm s.k <;> simp [Rel, hq, hS]

theorem embed_refreshRet (ros : Bool) (sp : SPc) (c : Bool) (e : Nat)
    (hq : ∀ l c r, shutRunnable ⟨l, sp, c, r⟩ = false) :
    frun ros ⟨.inRefresh, sp, c, false⟩ (cmdsActs ros ⟨.inRefresh, sp, c, false⟩ [.refL e, .hdlL]) =
      ⟨.inUntil, sp, c, false⟩ ∧
    (ftrace ros ⟨.inRefresh, sp, c, false⟩ (cmdsActs ros ⟨.inRefresh, sp, c, false⟩ [.refL e, .hdlL])).filterMap outOf =
      (if e ≠ 0 then [Out.handle .start e] else []) ++ [.untilNext] := by
  by_cases he : e = 0 <;> simp [hq, he]

/-- One coarse event = one block of the fine system: the block leads from a related state to
a related state and its observable events are exactly the coarse outputs.  (`Shutdown` is
called at most once: the fine system models the first call only.) -/
theorem embed_step (env : Env) (ros : Bool) (s : St) (fs : FSt) (ev : Ev) (hinv : Inv s) (hR : Rel s fs)
    (hsh : ev = .shutdown → s.closed = false) :
    Rel (step env ros s ev).1 (frun ros fs (cmdsActs ros fs (expandEv env s ev))) ∧
    (ftrace ros fs (cmdsActs ros fs (expandEv env s ev))).filterMap outOf = (step env ros s ev).2 := by
  obtain ⟨l, sp, c, r⟩ := fs
  obtain ⟨sl, sc, sf, sk⟩ := s
  obtain ⟨h1, h2, h3, h4⟩ := hR
  obtain ⟨i1, i2⟩ := hinv
  simp only at h1 h2 h3 h4 i1 i2 hsh
  subst h1 h3
  have hq := h2.quiet
  cases ev with
  | tick =>
    cases sl <;> simp at i1 h4 <;> subst_vars <;> simp [step, stepG, timerCase, refreshStart, expandEv, Rel, hq, h2]
  | refreshReturns who e =>
    cases who with
    | loop =>
      cases sl with
      | refreshing =>
        obtain rfl : r = false := h4 (by simp)
        obtain ⟨a1, a2⟩ := embed_refreshRet ros sp c e hq
        obtain ⟨b1, b2⟩ := embed_loopTop env ros ⟨.refreshing, c, sf, sk⟩ sp h2
        have hx : expandEv env ⟨.refreshing, c, sf, sk⟩ (.refreshReturns .loop e) =
            [.refL e, .hdlL] ++ [.untL (env.dur sk) (env.imm sk), .newL] := rfl
        dsimp only [lpcOf] at b1 b2 ⊢
        rw [hx, cmdsActs_append, frun_append, ftrace_append, List.filterMap_append, a1, a2]
        simp only [step, stepG, ← b2]
        exact ⟨b1, List.append_assoc _ [Out.untilNext] _⟩
      | _ => simp at i1 h4 <;> subst_vars <;> simp [step, stepG, expandEv, Rel, hq, h2]
    | shutdown =>
      cases sl <;> cases sf <;> cases c <;> simp [SRel] at i1 i2 h4 h2 <;>
        (try obtain ⟨e0, h2⟩ := h2) <;> subst_vars <;>
        simp [step, stepG, expandEv, shutRunnable, Rel, SRel]
  | shutdown =>
    -- `done` is open, so `Shutdown` has not been called
    obtain rfl : c = false := hsh rfl
    obtain rfl : sf = .idle := i2.2 rfl
    obtain rfl : sp = .idle := h2
    cases ros <;> cases sl <;> simp at h4 <;> subst_vars <;>
      simp [step, stepG, refreshStart, expandEv, shutRunnable, Rel, SRel]

theorem embed_init (env : Env) (ros : Bool) :
    Rel (init env).1 (frun ros finit (startActs ros ++
      cmdsActs ros (frun ros finit (startActs ros)) [.untL (env.dur 0) (env.imm 0), .newL])) ∧
    (ftrace ros finit (startActs ros ++
      cmdsActs ros (frun ros finit (startActs ros)) [.untL (env.dur 0) (env.imm 0), .newL])).filterMap outOf =
      (init env).2 := by
  obtain ⟨b1, b2⟩ := embed_loopTop env ros ⟨.waiting, false, .idle, 0⟩ .idle rfl
  have hs : frun ros finit (startActs ros) = ⟨.inUntil, .idle, false, false⟩ := rfl
  rw [frun_append, ftrace_append, List.filterMap_append, hs]
  exact ⟨b1, b2⟩

/-- `Shutdown` is called at most once, and not again once `done` is closed -/
theorem embed_runFrom (env : Env) (ros : Bool) :
    ∀ (evs : List Ev) (s : St) (fs : FSt), Inv s → Rel s fs →
      evs.count .shutdown ≤ (if s.closed then 0 else 1) →
      (ftrace ros fs (cmdsActs ros fs (expand env ros s evs))).filterMap outOf =
        flat (runFrom env ros s evs).2 := by
  intro evs
  induction evs with
  | nil => intro s fs _ _ _; rfl
  | cons ev evs ih =>
    intro s fs hinv hR hcnt
    have hsh : ev = .shutdown → s.closed = false := by
      rintro rfl
      cases hc : s.closed <;> simp [hc] at hcnt ⊢
    obtain ⟨hR', hout⟩ := embed_step env ros s fs ev hinv hR hsh
    have hcnt' : evs.count .shutdown ≤ (if (step env ros s ev).1.closed then 0 else 1) := by
      by_cases he : ev = .shutdown
      · subst he
        simp [hsh rfl] at hcnt
        simp [hcnt]
      · rw [closed_of_ne_shutdown (step_spec env ros s ev) he]
        simpa [List.count_cons, he] using hcnt
    rw [expand, cmdsActs_append, ftrace_append, List.filterMap_append, hout,
      ih _ _ (inv_step env ros s ev hinv) hR' hcnt']
    exact (flat_cons ..).symm

end GolibsVerif.C18
