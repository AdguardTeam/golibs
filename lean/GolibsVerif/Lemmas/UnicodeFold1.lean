/-
Contract FOLD-1 (`C13.Fold1`, `Spec/C13.lean`) as a theorem about the model `Unicode.simpleFold`
of Go's `unicode.SimpleFold` over the tables regenerated from the toolchain's
`src/unicode/tables.go`: `fold1_model`, for all runes `a : Nat`.

A rune that is not ASCII, not a `caseOrbit` key and in no `CaseRange` is a fixed point
(`simpleFold_cases`); on the ≈ 3000 others the Lean kernel evaluates `tableFold`, which is the
model (`tableFold_eq`).  The ASCII runes and the `caseOrbit` keys are walked round their cycle
(`periodOk`, `asciiOk`).  For a range `cr` of `CaseRanges` one other range `cr'` is picked
(`partner`; any range of the table will do for the proof), and for each rune `a` of `cr` that is
no key it is checked that `cr` sends `a` to a rune `b` of `cr'`, that `b` is no key, and that
`cr'` sends `b` back (`swapOk`): then `SimpleFold` is `rangeFold` by `cr` at `a` and by `cr'`
at `b` (`simpleFold_of_range`), so `a` has period 2.  Whether a rune is a key is read off a bit
mask of the keys (`keyMask`), so that no rune needs a search.

The checkers force every intermediate rune to a numeral (`force`) before it is used again:
the kernel evaluates lazily and would otherwise re-evaluate `f (f a)` at each use.
-/
import GolibsVerif.Lemmas.C13Fold
import GolibsVerif.Lemmas.UnicodeSearch

namespace GolibsVerif.Unicode
open GolibsVerif.Gen.UniFold
open GolibsVerif.C13 (Fold1 iter lowerASCII lowerASCII_eq swapFold orbitFuel orbitMem folds orbitMem_of_iter iter_of_orbitMem)

/-! ## Checkers for kernel evaluation -/

/-- `k n`, with `n` evaluated first (a match on `n` makes the kernel compute it) -/
def force {β : Type} (n : Nat) (k : Nat → β) : β :=
  match n with
  | 0 => k 0
  | m + 1 => k (m + 1)

@[simp] theorem force_eq {β : Type} (n : Nat) (k : Nat → β) : force n k = k n := by
  cases n <;> rfl

/-- `p lo ∧ p (lo+1) ∧ … ∧ p (lo+n-1)` -/
def rangeAll (p : Nat → Bool) : Nat → Nat → Bool
  | _, 0 => true
  | lo, n + 1 => force lo fun l => p l && rangeAll p (l + 1) n

theorem rangeAll_spec {p : Nat → Bool} : ∀ (n lo : Nat), rangeAll p lo n = true →
    ∀ r, lo ≤ r → r < lo + n → p r = true
  | 0, _, _, _, _, _ => by omega
  | n + 1, lo, h, r, h1, h2 => by
    simp only [rangeAll, force_eq, Bool.and_eq_true] at h
    by_cases hr : r = lo
    · subst hr; exact h.1
    · exact rangeAll_spec n (lo + 1) h.2 r (by omega) (by omega)

/-- the walk `cur, f cur, f (f cur), …` meets `a` within `n` steps -/
def returnsWithin (f : Nat → Nat) (a : Nat) : Nat → Nat → Bool
  | 0, _ => false
  | n + 1, cur => force cur fun c => c == a || returnsWithin f a n (f c)

theorem returnsWithin_spec {f : Nat → Nat} {a : Nat} : ∀ (n cur : Nat), returnsWithin f a n cur = true →
    ∃ k, k < n ∧ iter f k cur = a
  | 0, _, h => by simp [returnsWithin] at h
  | n + 1, cur, h => by
    simp only [returnsWithin, force_eq, Bool.or_eq_true, beq_iff_eq] at h
    rcases h with h | h
    · exact ⟨0, by omega, h⟩
    · obtain ⟨k, hk, hk'⟩ := returnsWithin_spec n (f cur) h
      exact ⟨k + 1, by omega, hk'⟩

/-- the `SimpleFold` cycle through `a` closes within `orbitFuel` steps -/
def periodOk (a : Nat) : Bool := returnsWithin tableFold a orbitFuel (tableFold a)

theorem periodOk_spec {a : Nat} (h : periodOk a = true) :
    ∃ n, 0 < n ∧ n ≤ orbitFuel ∧ iter simpleFold n a = a := by
  unfold periodOk at h
  rw [tableFold_eq] at h
  obtain ⟨k, hk, hk'⟩ := returnsWithin_spec _ _ h
  exact ⟨k + 1, by omega, by omega, hk'⟩

/-- The set of `caseOrbit` keys as a bit mask: once the kernel has computed it, whether a rune
is a key is one shift. -/
def keyMask : Nat := caseOrbit.foldl (fun m e => m ||| 1 <<< e.1) 0

theorem testBit_foldl (a : Nat) : ∀ (l : List (Nat × Nat)) (m : Nat),
    (l.foldl (fun m e => m ||| 1 <<< e.1) m).testBit a = (m.testBit a || l.any fun e => decide (e.1 = a))
  | [], m => by simp
  | e :: l, m => by
    rw [List.foldl_cons, testBit_foldl a l, Nat.testBit_or, Nat.one_shiftLeft, Nat.testBit_two_pow, List.any_cons,
      Bool.or_assoc]

theorem testBit_keyMask {a : Nat} : keyMask.testBit a = true ↔ ∃ e ∈ caseOrbit, e.1 = a := by
  simp [keyMask, testBit_foldl]

/-- `a` is a `caseOrbit` key (`keys` is `keyMask`), or `cr` sends it to a rune `b` of `cr'`,
`128 ≤ b ≤ MaxRune`, that is no key and that `cr'` sends back.  (`Nat.ble`: the kernel compares
numerals at once, where `decide` of a conjunction goes through the `Decidable` instances.) -/
def swapOk (keys : Nat) (cr cr' : CaseRange) (a : Nat) : Bool :=
  keys.testBit a ||
    force (rangeFold cr a) fun b =>
      !keys.testBit b && Nat.ble 128 b && Nat.ble b maxRune && Nat.ble cr'.1 b && Nat.ble b cr'.2.1 &&
        rangeFold cr' b == a

theorem swapOk_spec {cr cr' : CaseRange} {a : Nat} (hcr : cr ∈ caseRanges) (hcr' : cr' ∈ caseRanges)
    (h128 : 128 ≤ a) (hmax : a ≤ maxRune) (ha : inRange cr a) (h : swapOk keyMask cr cr' a = true) :
    (∃ e ∈ caseOrbit, e.1 = a) ∨ simpleFold (simpleFold a) = a := by
  simp only [swapOk, force_eq, Bool.or_eq_true, Bool.and_eq_true, Bool.not_eq_true', beq_iff_eq,
    Nat.ble_eq] at h
  rcases h with h | ⟨⟨⟨⟨⟨hnb, hb1⟩, hb2⟩, hin1⟩, hin2⟩, hback⟩
  · exact .inl (testBit_keyMask.mp h)
  by_cases hk : ∃ e ∈ caseOrbit, e.1 = a
  · exact .inl hk
  right
  have hna : ∀ e ∈ caseOrbit, e.1 ≠ a := fun e he h => hk ⟨e, he, h⟩
  have hnb : ∀ e ∈ caseOrbit, e.1 ≠ rangeFold cr a := fun e he h => by
    rw [testBit_keyMask.mpr ⟨e, he, h⟩] at hnb; cases hnb
  rw [simpleFold_of_range h128 hmax hna hcr ha, simpleFold_of_range hb1 hb2 hnb hcr' ⟨hin1, hin2⟩, hback]

/-- every rune of `cr` is ASCII, a `caseOrbit` key, or swapped with a rune of `cr'` -/
def rangePeriodOk (keys : Nat) (cr cr' : CaseRange) : Bool :=
  decide (cr.2.1 < 128) ||
    decide (128 ≤ cr.1 ∧ cr.2.1 ≤ maxRune) && rangeAll (swapOk keys cr cr') cr.1 (cr.2.1 + 1 - cr.1)

theorem rangePeriodOk_spec {cr cr' : CaseRange} (hcr : cr ∈ caseRanges) (hcr' : cr' ∈ caseRanges)
    (h : rangePeriodOk keyMask cr cr' = true) {a : Nat} (ha : inRange cr a) :
    a < 128 ∨ (∃ e ∈ caseOrbit, e.1 = a) ∨ simpleFold (simpleFold a) = a := by
  simp only [rangePeriodOk, Bool.or_eq_true, Bool.and_eq_true, decide_eq_true_eq] at h
  rcases h with h | ⟨⟨h128, hmax⟩, hall⟩
  · exact .inl (Nat.lt_of_le_of_lt ha.2 h)
  · exact .inr (swapOk_spec hcr hcr' (Nat.le_trans h128 ha.1) (Nat.le_trans ha.2 hmax) ha
      (rangeAll_spec _ _ hall a ha.1 (by have := ha.2; omega)))

/-- The range to take as `cr'` for `cr`, looked for from `cr` outwards (about half of the ranges have
it within five places, the singletons of IPA and Latin Extended-B up to 190 places away): `after`
are the ranges from `cr` on, `before` those before it, nearest first, and `b` is the image of
`cr.Lo` under `cr`. -/
def partner (before after : List CaseRange) (cr : CaseRange) : CaseRange :=
  force (rangeFold cr cr.1) fun b =>
    (if b < cr.1 then before.find? fun cr' => Nat.ble cr'.1 b
      else after.find? fun cr' => Nat.ble b cr'.2.1).getD cr

theorem partner_mem {before after : List CaseRange} {cr : CaseRange} (hcr : cr ∈ after) :
    partner before after cr ∈ before ++ after := by
  rw [partner, force_eq]
  split
  · cases h : before.find? fun cr' => Nat.ble cr'.1 (rangeFold cr cr.1) with
    | none => exact List.mem_append_right _ hcr
    | some cr' => exact List.mem_append_left _ (List.mem_of_find?_eq_some h)
  · cases h : after.find? fun cr' => Nat.ble (rangeFold cr cr.1) cr'.2.1 with
    | none => exact List.mem_append_right _ hcr
    | some cr' => exact List.mem_append_right _ (List.mem_of_find?_eq_some h)

/-- `rangePeriodOk` for every range of `after` with its `partner`, walking down the table:
`before` is the part already passed, reversed -/
def sweepOk (keys : Nat) : List CaseRange → List CaseRange → Bool
  | _, [] => true
  | before, cr :: after =>
    rangePeriodOk keys cr (partner before (cr :: after) cr) && sweepOk keys (cr :: before) after

theorem sweepOk_spec : ∀ (before after : List CaseRange), (∀ x ∈ before ++ after, x ∈ caseRanges) →
    sweepOk keyMask before after = true →
    ∀ cr ∈ after, ∃ cr' ∈ caseRanges, rangePeriodOk keyMask cr cr' = true
  | _, [], _, _, _, hcr => nomatch hcr
  | before, c :: after, hsub, h, cr, hcr => by
    simp only [sweepOk, Bool.and_eq_true] at h
    rcases List.mem_cons.mp hcr with rfl | hcr
    · exact ⟨_, hsub _ (partner_mem List.mem_cons_self), h.1⟩
    · refine sweepOk_spec (c :: before) after (fun x hx => hsub x ?_) h.2 cr hcr
      simp only [List.mem_append, List.mem_cons] at hx ⊢
      rcases hx with (rfl | hx) | hx
      · exact .inr (.inl rfl)
      · exact .inl hx
      · exact .inr (.inr hx)

/-- The ASCII clause of FOLD-1 for one rune `a`: every ASCII member of the fold orbit of `a`
has the ASCII lower case of `a`, and the other letter case `swapFold a` of `a` is in the orbit. -/
def asciiOk (a : Nat) : Bool :=
  let fs := folds tableFold a
  fs.all (fun c => decide (128 ≤ c) || lowerASCII c == lowerASCII a) &&
    (swapFold a == a || fs.contains (swapFold a))

theorem asciiOk_spec {a : Nat} (h : asciiOk a = true) {b : Nat} (hb : b < 128) :
    orbitMem simpleFold a b = true ↔ lowerASCII a = lowerASCII b := by
  simp only [asciiOk, tableFold_eq, Bool.and_eq_true, List.all_eq_true, Bool.or_eq_true, decide_eq_true_eq, beq_iff_eq,
    List.contains_iff_mem] at h
  simp only [orbitMem, Bool.or_eq_true, decide_eq_true_eq, List.contains_iff_mem]
  constructor
  · rintro (rfl | hm)
    · rfl
    · rcases h.1 b hm with h' | h'
      · omega
      · exact h'.symm
  · intro hl
    rcases lowerASCII_eq hl with rfl | rfl
    · exact .inl rfl
    · rcases h.2 with h' | h'
      · exact .inl h'
      · exact .inr h'

/-! ## The evaluations, on the tables regenerated from `$GOROOT/src/unicode/tables.go`
(`Gen/UniFold.lean`).  `decide +kernel`: the Lean kernel evaluates the checkers; no axioms. -/

theorem periodOk_ascii : rangeAll periodOk 0 128 = true := by decide +kernel

theorem periodOk_orbitKeys : caseOrbit.all (fun e => periodOk e.1) = true := by decide +kernel

theorem sweepOk_caseRanges : sweepOk keyMask [] caseRanges = true := by
  -- `force`: the kernel computes the mask once, not at every use
  rw [← force_eq keyMask fun keys => sweepOk keys [] caseRanges]
  decide +kernel

theorem asciiOk_all : rangeAll asciiOk 0 128 = true := by decide +kernel

theorem simpleFold_fffd : simpleFold C13.RuneError = C13.RuneError := by
  rw [← tableFold_eq]; decide +kernel

theorem simpleFold_period (a : Nat) : ∃ n, 0 < n ∧ n ≤ orbitFuel ∧ iter simpleFold n a = a := by
  have hascii : a < 128 → periodOk a = true := fun h => rangeAll_spec _ _ periodOk_ascii a (by omega) (by omega)
  have hkey : (∃ e ∈ caseOrbit, e.1 = a) → periodOk a = true :=
    fun ⟨e, he, h⟩ => h ▸ List.all_eq_true.mp periodOk_orbitKeys e he
  rcases simpleFold_cases a with h | h | h | ⟨cr, hcr, ha⟩
  · exact ⟨1, by decide, by decide, h⟩
  · exact periodOk_spec (hascii h)
  · exact periodOk_spec (hkey h)
  · obtain ⟨cr', hcr', hok⟩ := sweepOk_spec [] caseRanges (fun _ h => h) sweepOk_caseRanges cr hcr
    rcases rangePeriodOk_spec hcr hcr' hok ha with h | h | h
    · exact periodOk_spec (hascii h)
    · exact periodOk_spec (hkey h)
    · exact ⟨2, by decide, by decide, h⟩

/-- **FOLD-1 holds for the model of `unicode.SimpleFold`.** -/
theorem fold1_model : Fold1 simpleFold where
  period := simpleFold_period
  fffd := simpleFold_fffd
  ascii := by
    intro a b ha hb
    have hA := rangeAll_spec _ _ asciiOk_all a (by omega) (by omega)
    rw [← asciiOk_spec hA hb]
    exact ⟨fun ⟨n, hn⟩ => orbitMem_of_iter (simpleFold_period a) n b hn, iter_of_orbitMem⟩

end GolibsVerif.Unicode
