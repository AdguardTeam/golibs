import GolibsVerif.Model.NetIP
import GolibsVerif.Lemmas.GoM
import GolibsVerif.Lemmas.Strings
import GolibsVerif.Lemmas.Digits

/-! C02, IPv4 part: `isIPv4Label`, `isValidIPv4String` and `netip.parseIPv4Fields` all decide
"exactly four `.`-separated decimal octets 0..255 without leading zeros". -/
namespace GolibsVerif.C02
open GolibsVerif.Netutil GolibsVerif.Str GolibsVerif.Netip GolibsVerif

/-- the specification of a dotted quad, on the reference splitting -/
def v4Spec (s : Bytes) : Bool :=
  (splitOn 46 s).all octetOK && (splitOn 46 s).length == 4

theorem isIPv4Label_eq (l : Bytes) : isIPv4Label l = .ok (octetOK l) := by
  unfold isIPv4Label
  by_cases hlen : l.length < 1 ∨ l.length > 3
  · have : octetOK l = false := by
      cases ho : octetOK l with
      | false => rfl
      | true =>
        have h3 := octetOK_len l ho
        have h1 : l ≠ [] := ((octetOK_iff l).1 ho).1
        have := List.length_pos_iff.2 h1
        omega
    simp only [hlen, if_true, this, pure, Except.pure]
  · match l with
    | [] => simp at hlen
    | [a] =>
      by_cases ha : isDigit a = true
      · have := (isDigit_iff a).1 ha
        simp [octetOK, decVal, bind, Except.bind, pure, Except.pure, ha]; omega
      · simp [octetOK, decVal, bind, Except.bind, pure, Except.pure, ha]
    | a :: b :: t =>
      -- two or three bytes: no leading zero, all digits, value at most 255
      simp only [hlen, if_false, GoM.idx_zero_cons, bind, Except.bind, pure, Except.pure]
      by_cases h0 : a = 48
      · simp [octetOK, h0]
      · by_cases hd : (a :: b :: t).all isDigit = true
        · simp [octetOK, decVal, h0, hd]
        · simp [octetOK, decVal, h0, hd]
/-! ### golibs side -/

/-- the pieces still to be visited by the `strings.Cut` loop -/
def restPieces (s : Bytes) (ok : Bool) : List Bytes := if ok then splitOn 46 s else []

theorem v4Loop_eq (n : Nat) (label s : Bytes) (ok : Bool) :
    v4Loop n label s ok =
      .ok (octetOK label && (restPieces s ok).all octetOK && (restPieces s ok).length == n) := by
  induction n generalizing label s ok with
  | zero =>
    cases ok with
    | true =>
      have := splitOn_ne_nil 46 s
      simp [v4Loop, restPieces, isIPv4Label_eq, bind, Except.bind, pure, Except.pure, this]
    | false => simp [v4Loop, restPieces, isIPv4Label_eq, bind, Except.bind, pure, Except.pure]
  | succ n ih =>
    cases ok with
    | false => simp [v4Loop, restPieces, pure, Except.pure]
    | true =>
      unfold v4Loop
      simp only [isIPv4Label_eq, bind, Except.bind, pure, Except.pure, if_true]
      by_cases hl : octetOK label = true
      · simp only [hl, Bool.not_true, Bool.false_eq_true, if_false, Bool.true_and]
        have hs := splitOn_cut 46 s
        rcases hc : cut 46 s with ⟨l', s', ok'⟩
        rw [hc] at hs
        simp only [ih]
        cases ok' with
        | true => simp at hs; simp [restPieces, hs, Bool.and_assoc]
        | false => simp at hs; simp [restPieces, hs]; cases n <;> simp
      · simp [hl]

theorem isValidIPv4String_eq_spec (s : Bytes) : isValidIPv4String s = .ok (v4Spec s) := by
  -- the function is one more round of its loop, entered with a label that passes
  have h0 : octetOK [48] = true := by decide
  have : isValidIPv4String s = v4Loop 4 [48] s true := by
    simp only [isValidIPv4String, v4Loop, isIPv4Label_eq, h0, bind, Except.bind, if_true]; rfl
  rw [this, v4Loop_eq, h0]; rfl

theorem v4Spec_eq_match (s : Bytes) :
    v4Spec s = (match splitOn 46 s with
      | [a, b, c, d] => octetOK a && octetOK b && octetOK c && octetOK d
      | _ => false) := by
  unfold v4Spec
  rcases splitOn 46 s with _ | ⟨a, _ | ⟨b, _ | ⟨c, _ | ⟨d, _ | ⟨e, t⟩⟩⟩⟩⟩ <;> simp [Bool.and_assoc]

/-! ### netip side: invariant of the `parseIPv4Fields` automaton -/

theorem octetOK_single (c : Nat) (h : isDigit c = true) : octetOK [c] = true := by
  have := (isDigit_iff c).1 h
  rw [octetOK_iff]; simp [h, decVal]; omega

theorem octetOK_snoc (cur : Bytes) (c : Nat) (h : octetOK cur = true) (hc : isDigit c = true)
    (hz : ¬ (cur.length = 1 ∧ decVal cur = 0)) (hv : decVal cur * 10 + (c - 48) ≤ 255) :
    octetOK (cur ++ [c]) = true := by
  obtain ⟨n, hn, rfl⟩ := (Digits.octetOK_iff_dec cur).1 h
  rw [Digits.decVal_dec] at hz hv
  have hc := (isDigit_iff c).1 hc
  have h1 : 1 ≤ n := Nat.pos_of_ne_zero fun h0 => hz ⟨by rw [h0, C04.dec_lt10 0 (by omega)]; rfl, h0⟩
  refine (Digits.octetOK_iff_dec _).2 ⟨n * 10 + (c - 48), by omega, ?_⟩
  rw [C04.dec_push n _ h1 (by omega)]; congr 2; omega

theorem octetOK_lead0 (cur : Bytes) (c : Nat) (p : Bytes) (h : octetOK cur = true)
    (hz : cur.length = 1 ∧ decVal cur = 0) : octetOK (cur ++ c :: p) = false := by
  obtain ⟨n, hn, rfl⟩ := (Digits.octetOK_iff_dec cur).1 h
  rw [Digits.decVal_dec] at hz
  rw [hz.2, C04.dec_lt10 0 (by omega)]
  simp [octetOK]

theorem octetOK_big (cur : Bytes) (c : Nat) (p : Bytes)
    (hv : decVal cur * 10 + (c - 48) > 255) : octetOK (cur ++ c :: p) = false := by
  have h1 := decVal_append_ge (cur ++ [c]) p
  rw [decVal_snoc] at h1
  have : cur ++ [c] ++ p = cur ++ c :: p := by simp
  rw [this] at h1
  have : ¬ decVal (cur ++ c :: p) ≤ 255 := by omega
  simp [octetOK, this]

theorem octetOK_nondigit (cur : Bytes) (c : Nat) (p : Bytes) (hc : ¬ isDigit c = true) :
    octetOK (cur ++ c :: p) = false := by
  simp [octetOK, hc]

/-- what remains to be parsed: the partial octet `cur` continued by the first piece, then the
other pieces, `pos` dots having been seen; the result appends the values to `fields` -/
def v4TailV (cur : Bytes) (pos : Nat) (fields : List Nat) : List Bytes → Option (List Nat)
  | [] => none
  | p :: ps =>
    if octetOK (cur ++ p) && ps.all octetOK && pos + ps.length == 3 then
      some (fields ++ ((cur ++ p) :: ps).map decVal)
    else none

theorem splitOn_dot (r : Bytes) : splitOn 46 (46 :: r) = [] :: splitOn 46 r := by
  simp [splitOn]

theorem splitOn_nondot (c : Nat) (r : Bytes) (h : c ≠ 46) :
    ∃ p ps, splitOn 46 r = p :: ps ∧ splitOn 46 (c :: r) = (c :: p) :: ps :=
  splitOn_append_nosep 46 [c] r (by simpa using Ne.symm h)

theorem digit_ne_dot (c : Nat) (h : isDigit c = true) : c ≠ 46 := by
  have := (isDigit_iff c).1 h; omega

/-- Invariant of the `parseIPv4Fields` automaton, in its two kinds of state: inside an octet
(`cur` holds the digits read so far), and at the start of an octet. -/
theorem v4aux_val (rest : Bytes) :
    (∀ cur pos fields, octetOK cur = true → pos ≤ 3 →
      parseIPv4FieldsAux rest false false (decVal cur) pos cur.length fields =
        v4TailV cur pos fields (splitOn 46 rest)) ∧
    (∀ first prevDot pos fields, (first = true ∨ prevDot = true) → (rest ≠ [] ∨ pos < 3) →
      pos ≤ 3 →
      parseIPv4FieldsAux rest first prevDot 0 pos 0 fields =
        v4TailV [] pos fields (splitOn 46 rest)) := by
  induction rest with
  | nil =>
    constructor
    · intro cur pos fields hcur hpos
      by_cases h : pos < 3
      · have : ¬ pos = 3 := by omega
        simp [parseIPv4FieldsAux, v4TailV, splitOn, h, this]
      · have : pos = 3 := by omega
        simp [parseIPv4FieldsAux, v4TailV, splitOn, this, hcur]
    · intro first prevDot pos fields _ h _
      have h : pos < 3 := by simpa using h
      simp [parseIPv4FieldsAux, v4TailV, splitOn, h, octetOK]
  | cons c r ih =>
    obtain ⟨ihA, ihB⟩ := ih
    constructor
    · intro cur pos fields hcur hpos
      unfold parseIPv4FieldsAux
      by_cases hd : isDigit c = true
      · obtain ⟨p, ps, hs1, hs2⟩ := splitOn_nondot c r (digit_ne_dot c hd)
        simp only [hd, if_true, hs2, v4TailV]
        by_cases hz : cur.length = 1 ∧ decVal cur = 0
        · rw [if_pos hz, octetOK_lead0 cur c p hcur hz]; rfl
        · rw [if_neg hz]
          by_cases hv : decVal cur * 10 + (c - 48) > 255
          · rw [if_pos hv, octetOK_big cur c p hv]; rfl
          · rw [if_neg hv]
            have hok := octetOK_snoc cur c hcur hd hz (by omega)
            have := ihA (cur ++ [c]) pos fields hok hpos
            rw [decVal_snoc] at this
            simp only [List.length_append, List.length_cons, List.length_nil] at this
            rw [this, hs1, v4TailV, List.append_assoc, List.singleton_append]
      · simp only [hd]
        by_cases hdot : c = 46
        · subst hdot
          simp only [if_true, splitOn_dot, v4TailV, List.append_nil, hcur, Bool.true_and]
          by_cases hr : r = []
          · subst hr; simp [splitOn, octetOK]
          · by_cases hp : pos = 3
            · subst hp
              have hne := splitOn_ne_nil 46 r
              simp [hr]
              intro _; cases hl : splitOn 46 r with
              | nil => exact absurd hl hne
              | cons => simp
            · simp only [Bool.false_eq_true, false_or, hr, hp, if_false]
              rw [ihB false true (pos + 1) _ (Or.inr rfl) (Or.inl hr) (by omega)]
              have hne := splitOn_ne_nil 46 r
              cases hl : splitOn 46 r with
              | nil => exact absurd hl hne
              | cons q qs => simp [v4TailV, Nat.add_assoc, Nat.add_comm 1]
        · obtain ⟨p, ps, hs1, hs2⟩ := splitOn_nondot c r hdot
          simp [hdot, hs2, v4TailV, octetOK_nondigit cur c p hd]
    · intro first prevDot pos fields hfp hne hpos
      unfold parseIPv4FieldsAux
      by_cases hd : isDigit c = true
      · obtain ⟨p, ps, hs1, hs2⟩ := splitOn_nondot c r (digit_ne_dot c hd)
        have hc := (isDigit_iff c).1 hd
        have hv : ¬ (0 * 10 + (c - 48) > 255) := by omega
        simp only [hd, if_true, hs2, v4TailV, hv, if_false]
        have := ihA [c] pos fields (octetOK_single c hd) hpos
        simp only [decVal, List.foldl_cons, List.foldl_nil, List.length_cons, List.length_nil] at this
        simp only [Nat.zero_ne_one, false_and, if_false]
        rw [this, hs1]
        simp [v4TailV]
      · simp only [hd]
        by_cases hdot : c = 46
        · subst hdot
          have : (first = true ∨ r = [] ∨ prevDot = true) := by
            rcases hfp with h | h
            · exact Or.inl h
            · exact Or.inr (Or.inr h)
          simp [this, splitOn_dot, v4TailV, octetOK]
        · obtain ⟨p, ps, hs1, hs2⟩ := splitOn_nondot c r hdot
          have := octetOK_nondigit [] c p hd
          simp at this
          simp [hdot, hs2, v4TailV, this]

theorem parseIPv4Fields_val (s : Bytes) :
    parseIPv4Fields s =
      if (splitOn 46 s).all octetOK && (splitOn 46 s).length == 4 then
        some ((splitOn 46 s).map decVal) else none := by
  unfold parseIPv4Fields
  rw [(v4aux_val s).2 true false 0 [] (Or.inl rfl) (Or.inr (by omega)) (by omega)]
  cases h : splitOn 46 s with
  | nil => exact absurd h (splitOn_ne_nil 46 s)
  | cons p ps =>
    simp only [v4TailV, List.nil_append, List.all_cons, List.length_cons]
    have : (0 + ps.length == 3) = (ps.length + 1 == 4) := by
      by_cases h3 : ps.length = 3 <;> simp [h3]
    simp

theorem parseIPv4Fields_eq_spec (s : Bytes) : (parseIPv4Fields s).isSome = v4Spec s := by
  rw [parseIPv4Fields_val, v4Spec]
  split <;> simp_all

theorem isValidIPv4String_eq (s : Bytes) :
    isValidIPv4String s = .ok ((parseIPv4Fields s).isSome) := by
  rw [isValidIPv4String_eq_spec, parseIPv4Fields_eq_spec]

theorem parseIPv4Fields_len (s : Bytes) (f : List Nat) (h : parseIPv4Fields s = some f) :
    f.length = 4 := by
  rw [parseIPv4Fields_val] at h
  split at h
  · rename_i hs
    injection h with h
    rw [← h, List.length_map]
    exact beq_iff_eq.1 (Bool.and_eq_true_iff.1 hs).2
  · cases h

theorem parseIPv4Fields_chars (s : Bytes) (h : (parseIPv4Fields s).isSome = true) :
    ∀ c ∈ s, isDigit c = true ∨ c = 46 := by
  intro c hc
  rw [parseIPv4Fields_eq_spec, v4Spec, Bool.and_eq_true, List.all_eq_true] at h
  rcases mem_splitOn 46 s c hc with rfl | ⟨p, hp, hcp⟩
  · exact Or.inr rfl
  · exact Or.inl (List.all_eq_true.1 ((octetOK_iff p).1 (h.1 p hp)).2.1 c hcp)

end GolibsVerif.C02
