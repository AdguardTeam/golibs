/-
C14 — one round of the loop of `time.ParseDuration` on a group written by
`time.Duration.String`, `<int><unit>` or `<int>.<fraction><unit>`: the cut of the group
(`lexGroup`) returns the pieces it was written from, `time.leadingInt` reads back what
`time.fmtInt` wrote, `time.leadingFraction` what `time.fmtFrac` wrote (models in
`Model/C14.lean`, `Model/C14Parse.lean`), and the unit is found.
-/
import GolibsVerif.Model.C14Parse
import GolibsVerif.Lemmas.C14Duration
import GolibsVerif.Lemmas.C14ParseFloat
import GolibsVerif.Lemmas.C14ParseLex

namespace GolibsVerif.C14

/-! ### the cut of a written group -/

/-- a unit begins with a byte that is neither a digit nor `.` -/
theorem unit_head {ub : Bytes} (hu : ∀ c ∈ ub, isUnit c = true) (hne : ub ≠ []) (rest : Bytes) :
    ∀ c t, ub ++ rest = c :: t → isDig c = false ∧ c ≠ 46 := by
  obtain ⟨u, ut, rfl⟩ := List.exists_cons_of_ne_nil hne
  have h1 := isUnit_iff.1 (hu u (by simp))
  intro c t e
  cases e
  exact ⟨isDig_of_not (by omega), fun h => h1 (.inl h)⟩

theorem intText_isDig (v : Nat) : ∀ c ∈ intText v, isDig c = true := fun c hc =>
  isDig_of (by have := intText_range v c hc; omega)

theorem padDigits_isDig (k f : Nat) : ∀ c ∈ padDigits k f, isDig c = true := by
  induction k generalizing f with
  | zero => intro c hc; cases hc
  | succ k ih =>
    intro c hc
    rcases List.mem_append.1 hc with h | h
    · exact ih _ c h
    · simp at h; exact isDig_of (by omega)

theorem numHead_intText (v : Nat) (rest : Bytes) : NumHead (intText v ++ rest) := by
  intro c t h
  have hm : c ∈ intText v := by
    cases e : intText v with
    | nil => rw [intText_snoc] at e; simp at e
    | cons c' t' => rw [e] at h; cases h; exact List.mem_cons_self
  have := intText_range v c hm
  rw [← Bool.not_eq_true, isUnit_iff]
  exact fun h => h (.inr this)

/-- `<a><unit>` in front of the next group (or nothing) -/
theorem lexGroup_int (a ub rest : Bytes) (ha : ∀ c ∈ a, isDig c = true) (hu : ∀ c ∈ ub, isUnit c = true)
    (hne : ub ≠ []) (hr : NumHead rest) : lexGroup (a ++ (ub ++ rest)) = (a, [], ub, rest) := by
  obtain ⟨h1, h2⟩ := List.span_run isDig a (ub ++ rest) ha fun c t e => (unit_head hu hne rest c t e).1
  obtain ⟨h3, h4⟩ := List.span_run isUnit ub rest hu hr
  have hf : fracSplit (ub ++ rest) = ([], ub ++ rest) := by
    unfold fracSplit
    split
    · next heq => exact absurd rfl (unit_head hu hne rest _ _ heq).2
    · rfl
  unfold lexGroup
  rw [h1, h2, hf]
  simp only [h3, h4]

/-- `<a>.<f><unit>` in front of the next group (or nothing) -/
theorem lexGroup_frac (a f ub rest : Bytes) (ha : ∀ c ∈ a, isDig c = true)
    (hf : ∀ c ∈ f, isDig c = true) (hu : ∀ c ∈ ub, isUnit c = true) (hne : ub ≠ []) (hr : NumHead rest) :
    lexGroup (a ++ (46 :: (f ++ (ub ++ rest)))) = (a, f, ub, rest) := by
  obtain ⟨h1, h2⟩ := List.span_run isDig a (46 :: (f ++ (ub ++ rest))) ha fun c t e => by cases e; rfl
  obtain ⟨h5, h6⟩ := List.span_run isDig f (ub ++ rest) hf fun c t e => (unit_head hu hne rest c t e).1
  obtain ⟨h3, h4⟩ := List.span_run isUnit ub rest hu hr
  unfold lexGroup
  rw [h1, h2]
  simp only [fracSplit, h5, h6, h3, h4]

/-! ### `leadingInt` reads back what `fmtInt` wrote -/

/-- `rest` is empty or begins with a byte that is not a decimal digit: where `leadingInt` stops -/
def NoDigitHead (rest : Bytes) : Prop := ∀ c t, rest = c :: t → (c < 48 ∨ c > 57)

theorem noDigitHead_nil : NoDigitHead [] := by intro c t h; cases h

theorem leadingInt_step (c : Nat) (rest : Bytes) (x : Nat) (hc : c < 10) (hx : x * 10 + c ≤ two63) :
    leadingInt ((c + 48) :: rest) x = leadingInt rest (x * 10 + c) := by
  unfold two63 at hx
  have h1 : ¬ (c + 48 < 48 ∨ c + 48 > 57) := by omega
  have h2 : ¬ (x > two63 / 10) := by unfold two63; omega
  have h3 : ¬ (x * 10 + (c + 48) - 48 > two63) := by unfold two63; omega
  simp only [leadingInt, h1, h2, h3, if_false]
  rfl

theorem leadingInt_intText (v : Nat) (hv : v ≤ two63) : leadingInt (intText v) 0 = some (v, []) := by
  unfold intText
  by_cases h : v = 0
  · subst h
    exact leadingInt_step 0 [] 0 (by omega) (by unfold two63; omega)
  · have := digits_fold leadingInt two63 leadingInt_step v hv []
    rw [List.append_nil] at this
    rw [if_neg h, this]
    rfl

/-! ### fractions: `k` digits of `f`, most significant first -/

/-- `leadingFraction` on `k ≤ 15` printed digits: the value is `f mod 10^k`, the scale is
`10^k` (exactly), no overflow -/
theorem leadingFraction_padDigits (k : Nat) (hk : k ≤ 15) (f : Nat) (rest : Bytes) :
    ∃ sc, F64.IsNat sc (10 ^ k) ∧
      leadingFraction (padDigits k f ++ rest) 0 F64.one false
        = leadingFraction rest (f % 10 ^ k) sc false := by
  induction k generalizing f rest with
  | zero => exact ⟨F64.one, ⟨0, rfl⟩, by simp [padDigits, Nat.mod_one]⟩
  | succ k ih =>
    obtain ⟨sc, hsc, e⟩ := ih (by omega) (f / 10) ((f % 10 + 48) :: rest)
    refine ⟨F64.mul sc F64.ten, F64.scale_step sc k hsc (by omega), ?_⟩
    have e0 : padDigits (k + 1) f ++ rest = padDigits k (f / 10) ++ ((f % 10 + 48) :: rest) := by
      simp [padDigits]
    rw [e0, e]
    have hx : f / 10 % 10 ^ k < 10 ^ k := Nat.mod_lt _ (Nat.pow_pos (by omega))
    have hle : (10 : Nat) ^ k ≤ 10 ^ 14 := Nat.pow_le_pow_right (by omega) (by omega)
    have b : (10 : Nat) ^ 14 = 100000000000000 := by decide
    have h1 : ¬ (f % 10 + 48 < 48 ∨ f % 10 + 48 > 57) := by omega
    have h2 : ¬ (f / 10 % 10 ^ k > (two63 - 1) / 10) := by unfold two63; omega
    have h3 : ¬ (f / 10 % 10 ^ k * 10 + (f % 10 + 48) - 48 > two63) := by unfold two63; omega
    have h4 : f / 10 % 10 ^ k * 10 + (f % 10 + 48) - 48 = f % 10 ^ (k + 1) := by
      rw [mod_pow_succ]; omega
    have h3' : ¬ (f % 10 ^ (k + 1) > two63) := by rw [← h4]; exact h3
    simp only [leadingFraction, h1, h2, if_false, Bool.false_eq_true, h4, h3']

/-! ### the value of a written group -/

theorem unitVal_int (V : Nat) (sc : F64) (ub : Bytes) (unit : Nat) (hne : ub ≠ [])
    (hunit : unitOf ub = some unit) (hpos : 0 < unit) (hV : V * unit ≤ two63) :
    unitVal V 0 sc ub = some (V * unit) := by
  have hle : ¬ (V > two63 / unit) := by
    have : V ≤ two63 / unit := (Nat.le_div_iff_mul_le hpos).2 hV
    omega
  simp [unitVal, hne, hunit, hle]

theorem unitVal_frac (V f k p : Nat) (sc : F64) (ub : Bytes) (hne : ub ≠ [])
    (hunit : unitOf ub = some (10 ^ p)) (hs : F64.IsNat sc (10 ^ k)) (hkp : k ≤ p) (hp : p ≤ 9)
    (hf0 : 0 < f) (hf : f < 10 ^ k) (hV : V * 10 ^ p + f * 10 ^ (p - k) ≤ two63) :
    unitVal V f sc ub = some (V * 10 ^ p + f * 10 ^ (p - k)) := by
  have hpos : 0 < (10 : Nat) ^ p := Nat.pow_pos (by omega)
  have hle : ¬ (V > two63 / 10 ^ p) := by
    have : V ≤ two63 / 10 ^ p := (Nat.le_div_iff_mul_le hpos).2 (by omega)
    omega
  have hv2 : ¬ (V * 10 ^ p + f * 10 ^ (p - k) > two63) := by omega
  simp only [unitVal, hne, if_false, hunit, hle, hf0, if_true,
    F64.frac_exact f k p sc hs hkp hp hf0 hf, hv2]

/-- `g` is a group as `time.Duration.String` writes it, `<int>[.<fraction>]<unit>`, worth `v`: a
whole number `V` of any unit, or `V` with the fraction `r / 10^p` of the unit `10^p`. -/
def Written (g : Bytes) (v : Nat) : Prop :=
  ∃ V r unit frac ub, g = intText V ++ (frac ++ ub) ∧ v = V * unit + r ∧
    (∀ c ∈ ub, isUnit c = true) ∧ ub ≠ [] ∧ unitOf ub = some unit ∧
    ((r = 0 ∧ frac = [] ∧ 0 < unit) ∨ ∃ p, p ≤ 9 ∧ unit = 10 ^ p ∧ FracText p r frac)

theorem Written.numHead {g : Bytes} {v : Nat} (h : Written g v) (rest : Bytes) : NumHead (g ++ rest) := by
  obtain ⟨V, r, unit, frac, ub, rfl, -⟩ := h
  rw [List.append_assoc]
  exact numHead_intText V _

/-- a written group in front of the next group (or nothing) parses to its value -/
theorem parseGroup_written {g : Bytes} {v : Nat} (h : Written g v) (rest : Bytes) (hr : NumHead rest)
    (hv : v ≤ two63) : parseGroup (g ++ rest) = some (v, rest) := by
  obtain ⟨V, r, unit, frac, ub, rfl, rfl, hu, hne, hunit, hfr⟩ := h
  have hI : intText V ≠ [] := by rw [intText_snoc]; simp
  have whole : ∀ unit, unitOf ub = some unit → 0 < unit → V * unit ≤ two63 →
      parseGroup (intText V ++ (ub ++ rest)) = some (V * unit, rest) := by
    intro unit hunit hpos hV
    have hV' : V ≤ two63 := Nat.le_trans (Nat.le_mul_of_pos_right V hpos) hV
    rw [parseGroup_eq, lexGroup_int _ ub rest (intText_isDig V) hu hne hr]
    simp only [groupVal, hI, false_and, if_false, leadingInt_intText V hV', leadingFraction]
    rw [unitVal_int V _ ub unit hne hunit hpos hV]
    rfl
  rw [List.append_assoc, List.append_assoc]
  rcases hfr with ⟨rfl, rfl, hpos⟩ | ⟨p, hp, rfl, ⟨rfl, rfl⟩ | ⟨k, f, hk0, hkp, hf, rfl, rfl⟩⟩
  · exact whole unit hunit hpos hv
  · exact whole _ hunit (Nat.pow_pos (by omega)) hv
  · have hpos : 0 < (10 : Nat) ^ p := Nat.pow_pos (by omega)
    have hV' : V ≤ two63 := by
      have := Nat.le_mul_of_pos_right V hpos
      omega
    obtain ⟨sc, hsc, e⟩ := leadingFraction_padDigits k (by omega) f []
    rw [List.append_nil] at e
    rw [List.cons_append, parseGroup_eq,
      lexGroup_frac _ _ ub rest (intText_isDig V) (padDigits_isDig k f) hu hne hr]
    simp only [groupVal, hI, false_and, if_false, leadingInt_intText V hV', e, leadingFraction]
    rw [unitVal_frac V _ k p sc ub hne hunit hsc hkp hp (mod_pow_pos f k hk0 hf)
      (Nat.mod_lt _ (Nat.pow_pos (by omega))) hv]
    rfl

end GolibsVerif.C14
