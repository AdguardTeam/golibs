/-
Soundness of the range search of the model `Unicode.simpleFold` of `unicode.SimpleFold`
(`Go/Unicode.lean`): a range that `lookupCaseRange` returns is an entry of the table that
contains the rune (`lookupCaseRange_some`).  Hence `simpleFold_cases`: a rune that is not
ASCII, not a `caseOrbit` key and in no `CaseRange` folds to itself — for *all* `Nat`.
-/
import GolibsVerif.Go.Unicode

namespace GolibsVerif.Unicode
open GolibsVerif.Gen.UniFold

/-- `r` lies in the range `cr`: `cr.Lo ≤ r ≤ cr.Hi` -/
def inRange (cr : CaseRange) (r : Nat) : Prop := cr.1 ≤ r ∧ r ≤ cr.2.1

instance (cr : CaseRange) (r : Nat) : Decidable (inRange cr r) :=
  inferInstanceAs (Decidable (cr.1 ≤ r ∧ r ≤ cr.2.1))

theorem lookupCaseRangeLoop_some {tbl : Array CaseRange} {r : Nat} {cr : CaseRange} :
    ∀ (fuel lo hi : Nat) (hh : hi ≤ tbl.size),
      lookupCaseRangeLoop tbl r fuel lo hi hh = some cr → cr ∈ tbl.toList ∧ inRange cr r
  | 0, _, _, _, h => by simp [lookupCaseRangeLoop] at h
  | fuel + 1, lo, hi, hh, h => by
    unfold lookupCaseRangeLoop at h
    split at h
    · simp only at h
      split at h
      · next hc =>
        cases h
        exact ⟨Array.getElem_mem_toList _, hc⟩
      · split at h
        · exact lookupCaseRangeLoop_some fuel _ _ _ h
        · exact lookupCaseRangeLoop_some fuel _ _ _ h
    · cases h

/-- `lookupCaseRange` returns a range of the table that contains the rune (so
`convertCase` is called with `cr.Lo ≤ r ≤ cr.Hi`). -/
theorem lookupCaseRange_some {tbl : Array CaseRange} {r : Nat} {cr : CaseRange}
    (h : lookupCaseRange r tbl = some cr) : cr ∈ tbl.toList ∧ inRange cr r :=
  lookupCaseRangeLoop_some _ _ _ _ h

theorem foldByCaseRange_eq_self {r : Nat} (h : ∀ cr ∈ caseRanges, ¬ inRange cr r) :
    foldByCaseRange r = r := by
  unfold foldByCaseRange
  split
  · next cr hcr =>
    have := lookupCaseRange_some hcr
    exact absurd this.2 (h cr (by simpa [caseRangesA] using this.1))
  · rfl

theorem asciiFoldA_size : asciiFoldA.size = 128 := by decide +kernel

/-- **Where `SimpleFold` can move a rune at all**: a rune that is not below 128, is not a
`From` of `caseOrbit` and lies in no range of `CaseRanges` is a fixed point.  (Holds for every
natural number, in particular beyond `MaxRune`.) -/
theorem simpleFold_cases (r : Nat) :
    simpleFold r = r ∨ r < 128 ∨ (∃ e ∈ caseOrbit, e.1 = r) ∨ (∃ cr ∈ caseRanges, inRange cr r) := by
  by_cases hr : ∃ cr ∈ caseRanges, inRange cr r
  · exact .inr (.inr (.inr hr))
  have hF : foldByCaseRange r = r := foldByCaseRange_eq_self (by
    intro cr hcr hc; exact hr ⟨cr, hcr, hc⟩)
  unfold simpleFold
  split
  · exact .inl rfl
  · split
    · next h => exact .inr (.inl (by rw [asciiFoldA_size] at h; exact h))
    · simp only
      split
      · split
        · next hlo hk =>
          refine .inr (.inr (.inl ⟨caseOrbitA[_], ?_, hk⟩))
          simp [caseOrbitA]
        · exact .inl hF
      · exact .inl hF

end GolibsVerif.Unicode
