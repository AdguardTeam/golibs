/- Decimal numerals: `dec n` is the one digit string without a leading zero whose value
(`decVal`) is `n`.  A canonical octet (`octetOK`) is the numeral of a byte. -/
import GolibsVerif.Spec.C04

namespace GolibsVerif.C02
open GolibsVerif.Str GolibsVerif

/-- decimal value of a digit string (the accumulator both implementations compute) -/
def decVal (l : Bytes) : Nat := l.foldl (fun a c => a * 10 + (c - 48)) 0

/-- the specification of one IPv4 octet: non-empty, digits only, no leading zero unless the
octet is the single digit, value at most 255 -/
def octetOK (l : Bytes) : Bool :=
  !l.isEmpty && l.all isDigit && (l.length == 1 || l.head? != some 48) && decide (decVal l ≤ 255)

theorem foldl_dec_ge (t : Bytes) (acc : Nat) :
    acc ≤ t.foldl (fun a c => a * 10 + (c - 48)) acc := by
  induction t generalizing acc with
  | nil => simp
  | cons c t ih =>
    simp only [List.foldl_cons]
    exact Nat.le_trans (by omega) (ih _)

theorem decVal_snoc (l : Bytes) (c : Nat) : decVal (l ++ [c]) = decVal l * 10 + (c - 48) := by
  simp [decVal, List.foldl_append]

theorem decVal_append_ge (l t : Bytes) : decVal l ≤ decVal (l ++ t) := by
  simp only [decVal, List.foldl_append]
  exact foldl_dec_ge _ _

theorem isDigit_iff (c : Nat) : isDigit c = true ↔ 48 ≤ c ∧ c ≤ 57 := by
  simp [isDigit]

theorem octetOK_iff (l : Bytes) : octetOK l = true ↔
    l ≠ [] ∧ l.all isDigit = true ∧ (l.length = 1 ∨ l.head? ≠ some 48) ∧ decVal l ≤ 255 := by
  simp [octetOK, and_assoc]

end GolibsVerif.C02

namespace GolibsVerif.C04
open GolibsVerif.Str GolibsVerif

theorem dec_lt10 (n : Nat) (h : n < 10) : dec n = [48 + n] := by
  rw [dec]; simp [h]

theorem dec_ge10 (n : Nat) (h : 10 ≤ n) : dec n = dec (n / 10) ++ [48 + n % 10] := by
  rw [dec]; simp [Nat.not_lt.2 h]

theorem dec_push (v d : Nat) (hv : 1 ≤ v) (hd : d < 10) : dec (v * 10 + d) = dec v ++ [48 + d] := by
  rw [dec_ge10 _ (by omega), show (v * 10 + d) / 10 = v by omega, show (v * 10 + d) % 10 = d by omega]

theorem dec_ne_nil (n : Nat) : dec n ≠ [] := by
  rw [dec]; split <;> simp

theorem dec_length_le (n : Nat) (h : n < 256) : (dec n).length ≤ 3 := by
  by_cases h1 : n < 10
  · rw [dec_lt10 n h1]; simp
  · rw [dec_ge10 n (by omega)]
    by_cases h2 : n / 10 < 10
    · rw [dec_lt10 _ h2]; simp
    · rw [dec_ge10 _ (by omega), dec_lt10 _ (by omega)]; simp

theorem dec_length_pos (n : Nat) : 1 ≤ (dec n).length :=
  List.length_pos_iff.2 (dec_ne_nil n)

theorem dec_digits (n : Nat) : ∀ c ∈ dec n, 48 ≤ c ∧ c ≤ 57 := by
  induction n using Nat.strongRecOn with
  | _ n ih =>
    by_cases h : n < 10
    · rw [dec_lt10 n h]; intro c hc; simp at hc; omega
    · rw [dec_ge10 n (by omega)]
      intro c hc
      simp only [List.mem_append, List.mem_singleton] at hc
      rcases hc with hc | hc
      · exact ih (n / 10) (by omega) c hc
      · omega

end GolibsVerif.C04

namespace GolibsVerif.Digits
open GolibsVerif.Str GolibsVerif.C04 GolibsVerif.C02 GolibsVerif

/-- no leading zero: a single byte, or a first byte other than `0` -/
def NoLead0 (l : Bytes) : Prop := l.length = 1 ∨ l.head? ≠ some 48

theorem decVal_dec (n : Nat) : decVal (dec n) = n := by
  induction n using Nat.strongRecOn with
  | _ n ih =>
    by_cases h : n < 10
    · rw [dec_lt10 n h]; simp [decVal]
    · rw [dec_ge10 n (by omega), decVal_snoc, ih _ (by omega)]; omega

theorem dec_noLead0 (n : Nat) : NoLead0 (dec n) := by
  induction n using Nat.strongRecOn with
  | _ n ih =>
    by_cases h : n < 10
    · rw [dec_lt10 n h]; exact .inl rfl
    · rw [dec_ge10 n (by omega)]
      right
      by_cases h' : n / 10 < 10
      · rw [dec_lt10 _ h']; simp; omega
      · rcases ih (n / 10) (by omega) with h1 | h1
        · rw [dec_ge10 _ (by omega)] at h1; simp at h1
          exact absurd h1 (dec_ne_nil _)
        · cases hd : dec (n / 10) with
          | nil => exact absurd hd (dec_ne_nil _)
          | cons a t => rw [hd] at h1; simpa using h1

theorem dec_foldl (t : Bytes) (acc : Nat) (hacc : 1 ≤ acc) (hd : t.all isDigit = true) :
    dec (t.foldl (fun a c => a * 10 + (c - 48)) acc) = dec acc ++ t := by
  induction t generalizing acc with
  | nil => simp
  | cons c t ih =>
    rw [List.all_cons, Bool.and_eq_true] at hd
    have hc := (isDigit_iff c).1 hd.1
    rw [List.foldl_cons, ih _ (by omega) hd.2, dec_push _ _ hacc (by omega),
      show 48 + (c - 48) = c by omega, List.append_assoc, List.singleton_append]

/-- a digit string without a leading zero is the numeral of its value -/
theorem dec_decVal (l : Bytes) (hne : l ≠ []) (hd : l.all isDigit = true) (h0 : NoLead0 l) :
    dec (decVal l) = l := by
  obtain ⟨a, t, rfl⟩ := List.exists_cons_of_ne_nil hne
  rw [List.all_cons, Bool.and_eq_true] at hd
  have ha := (isDigit_iff a).1 hd.1
  rw [decVal, List.foldl_cons, Nat.zero_mul, Nat.zero_add]
  by_cases h48 : a = 48
  · -- the single digit `0`
    have ht : t = [] := by
      rcases h0 with h0 | h0
      · exact List.eq_nil_of_length_eq_zero (by simpa using h0)
      · exact absurd (by rw [h48]; rfl) h0
    subst ht h48; exact dec_lt10 0 (by omega)
  · rw [dec_foldl t _ (by omega) hd.2, dec_lt10 _ (by omega), show 48 + (a - 48) = a by omega]; rfl

theorem octetOK_iff_dec (l : Bytes) : octetOK l = true ↔ ∃ n < 256, l = dec n := by
  rw [octetOK_iff]
  constructor
  · rintro ⟨h1, h2, h3, h4⟩
    exact ⟨decVal l, by omega, (dec_decVal l h1 h2 h3).symm⟩
  · rintro ⟨n, hn, rfl⟩
    refine ⟨dec_ne_nil n, ?_, dec_noLead0 n, by rw [decVal_dec]; omega⟩
    exact List.all_eq_true.2 fun c hc => (isDigit_iff c).2 (dec_digits n c hc)

end GolibsVerif.Digits

/-- a canonical octet has at most three digits -/
theorem GolibsVerif.C02.octetOK_len (l : GolibsVerif.Bytes) (h : octetOK l = true) : l.length ≤ 3 := by
  obtain ⟨n, hn, rfl⟩ := (GolibsVerif.Digits.octetOK_iff_dec l).1 h
  exact GolibsVerif.C04.dec_length_le n hn
