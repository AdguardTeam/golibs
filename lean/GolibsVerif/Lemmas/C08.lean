/-
C08 — helper lemmas: the loop of `Parse` in closed form over per-line events;
association-list maps; a `Storage` read as two functions from keys to slices, on which `Add`
acts as a fold over the `(address, name)` pairs added; ordered-set folds against `firstSeenBy`.
-/
import GolibsVerif.Spec.C08
import GolibsVerif.Theorems.C07

namespace GolibsVerif.C08
open GolibsVerif GolibsVerif.Netip GolibsVerif.C07

def freshRec (srcName : Bytes) : Record := { addr := .invalid, source := srcName, names := [] }

/-- the event of one line, computed from the closed form of `UnmarshalText` -/
def eventOf (toASCII : Bytes → Option Bytes) (srcName : Bytes) (lineNum : Nat) (l : Bytes) : Event :=
  match refUnmarshal toASCII (freshRec srcName) (fields l) with
  | (r, none) => .delivered r
  | (_, some e) => .reported l lineNum e

def eventsFrom (toASCII : Bytes → Option Bytes) (srcName : Bytes) : List Bytes → Nat → List Event
  | [], _ => []
  | l :: ls, k => eventOf toASCII srcName k l :: eventsFrom toASCII srcName ls (k + 1)

theorem parseLoop_eq (toASCII : Bytes → Option Bytes) (hs : Bool) (src : Bytes) :
    ∀ (ls : List Bytes) (k : Nat) (st : PState),
      parseLoop toASCII hs src ls k st =
        .ok { calls := st.calls ++ callsOf hs src (eventsFrom toASCII src ls k),
              errs := st.errs ++ (if hs then [] else errsOf (eventsFrom toASCII src ls k)) } := by
  intro ls
  induction ls with
  | nil => intro k st; cases hs <;> simp [parseLoop, eventsFrom, callsOf, errsOf, pure, Except.pure]
  | cons l ls ih =>
    intro k st
    simp only [parseLoop, bind, Except.bind, unmarshalText_eq, eventsFrom]
    rw [ih]
    unfold eventOf freshRec
    rcases refUnmarshal toASCII { addr := .invalid, source := src, names := [] } (fields l) with ⟨r, e⟩
    cases e <;> cases hs <;> simp [callsOf, errsOf]

theorem parse_eq (toASCII : Bytes → Option Bytes) (isHandleSet : Bool) (srcName : Bytes) (readErr : Bool)
    (stream : Bytes) :
    parse toASCII isHandleSet srcName readErr stream =
      .ok (callsOf isHandleSet srcName (eventsFrom toASCII srcName (scanLines stream) 1),
        if readErr then .scanning else retOf isHandleSet (eventsFrom toASCII srcName (scanLines stream) 1)) := by
  unfold parse
  simp only [bind, Except.bind, parseLoop_eq, List.nil_append, pure, Except.pure, retOf]
  cases readErr <;> cases isHandleSet <;> simp
  split <;> simp_all

theorem eventOf_outcome (toASCII : Bytes → Option Bytes) (src : Bytes) (k : Nat) (l : Bytes) :
    LineOutcome toASCII src k l (eventOf toASCII src (k + 1) l) := by
  have hu := unmarshalText_eq toASCII (freshRec src) l
  unfold eventOf
  rcases h : refUnmarshal toASCII (freshRec src) (fields l) with ⟨r, e⟩
  rw [h] at hu
  cases e with
  | none =>
    have := (unmarshal_iff toASCII (freshRec src) l).2 r hu
    exact ⟨this.1, this.2⟩
  | some e =>
    refine ⟨?_, rfl, rfl⟩
    rintro ⟨a, names, hwf⟩
    have := (unmarshal_iff toASCII (freshRec src) l).1 a names hwf
    rw [hu] at this
    injection this with this
    simp at this

theorem eventsFrom_outcomes (toASCII : Bytes → Option Bytes) (src : Bytes) :
    ∀ (ls : List Bytes) (k : Nat), Outcomes toASCII src k ls (eventsFrom toASCII src ls (k + 1)) := by
  intro ls
  induction ls with
  | nil => intro k; trivial
  | cons l ls ih => intro k; exact ⟨eventOf_outcome toASCII src k l, ih (k + 1)⟩

theorem get_put {K V : Type} [DecidableEq K] (m : Map K V) (k k' : K) (v : V) :
    (m.put k v).get k' = if k = k' then some v else m.get k' := by
  induction m with
  | nil => rfl
  | cons e rest ih =>
    obtain ⟨k0, v0⟩ := e
    unfold Map.put
    split
    · rename_i h0
      subst h0
      unfold Map.get
      split <;> rfl
    · rename_i h0
      unfold Map.get
      rw [ih]
      split
      · rename_i h1
        rw [if_neg (fun hc => h0 (h1.trans hc.symm))]
      · rfl

/-- the keys of a map, in the order of the association list -/
def keys {K V : Type} (m : Map K V) : List K := m.map (·.1)

theorem keys_length {K V : Type} (m : Map K V) : (keys m).length = m.length := by simp [keys]

theorem get_eq_none_iff {K V : Type} [DecidableEq K] (m : Map K V) (k : K) :
    m.get k = none ↔ k ∉ keys m := by
  induction m with
  | nil => exact ⟨fun _ => List.not_mem_nil, fun _ => rfl⟩
  | cons e rest ih =>
    obtain ⟨k', v'⟩ := e
    unfold Map.get
    split
    · rename_i hk
      subst hk
      exact ⟨nofun, fun h => absurd List.mem_cons_self h⟩
    · rename_i hk
      rw [ih]
      constructor
      · intro h hc
        rcases List.mem_cons.1 hc with rfl | hc
        · exact hk rfl
        · exact h hc
      · exact fun h hc => h (List.mem_cons_of_mem _ hc)

theorem mem_keys_of_get {K V : Type} [DecidableEq K] {m : Map K V} {k : K} {v : V}
    (h : m.get k = some v) : k ∈ keys m :=
  Classical.byContradiction fun hc => by rw [(get_eq_none_iff m k).2 hc] at h; cases h

theorem get_of_mem_keys {K V : Type} [DecidableEq K] {m : Map K V} {k : K}
    (h : k ∈ keys m) : ∃ v, m.get k = some v := by
  cases hg : m.get k with
  | some v => exact ⟨v, rfl⟩
  | none => exact absurd h ((get_eq_none_iff m k).1 hg)

theorem mem_of_get {K V : Type} [DecidableEq K] {m : Map K V} {k : K} {v : V}
    (h : m.get k = some v) : (k, v) ∈ m := by
  induction m with
  | nil => cases h
  | cons e rest ih =>
    obtain ⟨k', v'⟩ := e
    unfold Map.get at h
    split at h
    · rename_i hk
      cases h; subst hk
      exact List.mem_cons_self
    · exact List.mem_cons_of_mem _ (ih h)

theorem get_of_mem {K V : Type} [DecidableEq K] {m : Map K V} {k : K} {v : V}
    (hn : (keys m).Nodup) (h : (k, v) ∈ m) : m.get k = some v := by
  induction m with
  | nil => cases h
  | cons e rest ih =>
    obtain ⟨k', v'⟩ := e
    have hn' : k' ∉ keys rest ∧ (keys rest).Nodup := List.nodup_cons.1 hn
    rcases List.mem_cons.1 h with h | h
    · cases h; exact if_pos rfl
    · have hk : k' ≠ k := fun hc => hn'.1 (hc ▸ List.mem_map.2 ⟨(k, v), h, rfl⟩)
      exact (if_neg hk).trans (ih hn'.2 h)

theorem nodup_keys_put {K V : Type} [DecidableEq K] (m : Map K V) (k : K) (v : V)
    (h : (keys m).Nodup) : (keys (m.put k v)).Nodup := by
  induction m with
  | nil => exact List.nodup_cons.2 ⟨List.not_mem_nil, List.nodup_nil⟩
  | cons e rest ih =>
    obtain ⟨k', v'⟩ := e
    have h' : k' ∉ keys rest ∧ (keys rest).Nodup := List.nodup_cons.1 h
    unfold Map.put
    split
    · rename_i hk; subst hk; exact h
    · rename_i hk
      refine List.nodup_cons.2 ⟨fun hc => ?_, ih h'.2⟩
      obtain ⟨w, hw⟩ := get_of_mem_keys hc
      rw [get_put, if_neg (Ne.symm hk)] at hw
      exact h'.1 (mem_keys_of_get hw)

/-! ### a storage as two functions from keys to slices

What a client can observe of a storage is, for each index, which keys are present and the
slice under each; `valsAt` is that function.  A sequence of `Add`s acts on it as the fold of
`bump` over the `(address, name)` pairs added (`Steps`), whatever the storage it starts from. -/

/-- the slice stored under a key, if the key is present -/
def valsAt {K V : Type} [DecidableEq K] (m : Map K (OSet V)) (k : K) : Option (List V) :=
  (m.get k).map (·.vals)

theorem byAddr_eq (s : Storage) (a : Addr) : byAddr s a = (valsAt s.names a).getD [] := by
  unfold byAddr valsAt
  cases s.names.get a <;> rfl

theorem byName_eq (lower : Bytes → Bytes) (s : Storage) (n : Bytes) :
    byName lower s n = (valsAt s.addrs (lower n)).getD [] := by
  unfold byName valsAt
  cases s.addrs.get (lower n) <;> rfl

theorem mem_keys_iff_valsAt {K V : Type} [DecidableEq K] (m : Map K (OSet V)) (k : K) :
    k ∈ keys m ↔ valsAt m k ≠ none := by
  unfold valsAt
  rw [Ne, Option.map_eq_none_iff, get_eq_none_iff, Classical.not_not]

/-- what a `Range` function passes to its callback, for a map without a key twice -/
theorem mem_map_vals {K V : Type} [DecidableEq K] {m : Map K (OSet V)} (hn : (keys m).Nodup)
    (k : K) (vs : List V) :
    (k, vs) ∈ m.map (fun e => (e.1, e.2.vals)) ↔ valsAt m k = some vs := by
  unfold valsAt
  rw [List.mem_map, Option.map_eq_some_iff]
  constructor
  · rintro ⟨⟨k', os⟩, he, heq⟩
    cases heq
    exact ⟨os, get_of_mem hn he, rfl⟩
  · rintro ⟨os, hg, rfl⟩
    exact ⟨(k, os), mem_of_get hg, rfl⟩

/-- the effect on the entry under one key of an element `p` that concerns this key (`hit p`)
or not: the set under the key, made if need be, gets `(key p, val p)` -/
def bump {α K : Type} [DecidableEq K] (hit : α → Bool) (key val : α → K) (o : Option (OSet K)) (p : α) :
    Option (OSet K) :=
  if hit p then some ((o.getD OSet.empty).add (key p) (val p)) else o

/-- `s'` is `s` after the pairs `ps` have been added: no key twice if there was none, and each
entry of each index bumped by the pairs that concern it -/
def Steps (lower : Bytes → Bytes) (s s' : Storage) (ps : List (Addr × Bytes)) : Prop :=
  ((keys s.names).Nodup ∧ (keys s.addrs).Nodup → (keys s'.names).Nodup ∧ (keys s'.addrs).Nodup) ∧
  (∀ a, s'.names.get a = ps.foldl (bump (fun p => p.1 = a) (fun p => lower p.2) (·.2)) (s.names.get a)) ∧
  (∀ k, s'.addrs.get k = ps.foldl (bump (fun p => lower p.2 = k) (·.1) (·.1)) (s.addrs.get k))

theorem Steps.refl (lower : Bytes → Bytes) (s : Storage) : Steps lower s s [] :=
  ⟨id, fun _ => rfl, fun _ => rfl⟩

theorem Steps.trans {lower : Bytes → Bytes} {s s₁ s₂ : Storage} {ps qs : List (Addr × Bytes)}
    (h₁ : Steps lower s s₁ ps) (h₂ : Steps lower s₁ s₂ qs) : Steps lower s s₂ (ps ++ qs) :=
  ⟨fun h => h₂.1 (h₁.1 h), fun a => by rw [h₂.2.1, h₁.2.1, List.foldl_append],
    fun k => by rw [h₂.2.2, h₁.2.2, List.foldl_append]⟩

theorem addName_spec (lower : Bytes → Bytes) (a : Addr) (s : Storage) (name : Bytes)
    (h : s.names.get a ≠ none) :
    ∃ s', addName lower a s name = .ok s' ∧ s'.names.get a ≠ none ∧ Steps lower s s' [(a, name)] := by
  unfold addName
  cases hg : s.names.get a with
  | none => exact absurd hg h
  | some ns =>
    refine ⟨_, rfl, ?_, fun hn => ⟨nodup_keys_put _ _ _ hn.1, nodup_keys_put _ _ _ hn.2⟩, fun a' => ?_,
      fun k => ?_⟩
    · simp [get_put]
    · rw [get_put]
      by_cases ha : a = a'
      · subst ha; simp [bump, hg]
      · simp [bump, ha]
    · rw [get_put]
      by_cases hk : lower name = k
      · subst hk
        simp only [bump, List.foldl_cons, List.foldl_nil, decide_true, if_true]
        cases s.addrs.get (lower name) <;> rfl
      · simp [bump, hk]

theorem foldlM_addName (lower : Bytes → Bytes) (a : Addr) :
    ∀ (names : List Bytes) (s : Storage), s.names.get a ≠ none →
      ∃ s', names.foldlM (addName lower a) s = .ok s' ∧ Steps lower s s' (names.map fun n => (a, n)) := by
  intro names
  induction names with
  | nil => intro s _; exact ⟨s, rfl, Steps.refl lower s⟩
  | cons n ns ih =>
    intro s h
    obtain ⟨s1, h1, h2, h3⟩ := addName_spec lower a s n h
    obtain ⟨s2, g1, g2⟩ := ih s1 h2
    refine ⟨s2, ?_, h3.trans g2⟩
    rw [List.foldlM_cons, h1]; exact g1

/-- `Add` never dereferences a nil pointer, and acts as adding the record's `(addr, name)`
pairs one after the other.  The empty set stored under a new address before the loop does not
show: the loop runs at least once, and its first `add` finds the same empty set that a missing
entry stands for. -/
theorem add_spec (lower : Bytes → Bytes) (s : Storage) (r : Record) :
    ∃ s', add lower s r = .ok s' ∧ Steps lower s s' (pairs [r]) := by
  have hp : pairs [r] = r.names.map fun n => (r.addr, n) := by simp [pairs]
  rw [hp]
  unfold add
  by_cases h0 : r.names.length = 0
  · rw [if_pos h0, List.eq_nil_of_length_eq_zero h0]
    exact ⟨s, rfl, Steps.refl lower s⟩
  · rw [if_neg h0]
    unfold addBody
    cases hg : s.names.get r.addr with
    | some os => exact foldlM_addName lower r.addr r.names s (by simp [hg])
    | none =>
      obtain ⟨s', h1, h2, h3, h4⟩ := foldlM_addName lower r.addr r.names
        { s with names := s.names.put r.addr OSet.empty } (by simp [get_put])
      refine ⟨s', h1, fun hn => h2 ⟨nodup_keys_put _ _ _ hn.1, hn.2⟩, fun a' => ?_, h4⟩
      rw [h3, get_put]
      by_cases ha : r.addr = a'
      · subst ha
        rw [if_pos rfl, hg]
        cases hnames : r.names with
        | nil => simp [hnames] at h0
        | cons n ns => simp [bump]
      · rw [if_neg ha]

theorem adds_spec (lower : Bytes → Bytes) :
    ∀ (rs : List Record) (s : Storage), ∃ s', adds lower s rs = .ok s' ∧ Steps lower s s' (pairs rs) := by
  intro rs
  induction rs with
  | nil => intro s; exact ⟨s, rfl, Steps.refl lower s⟩
  | cons r rs ih =>
    intro s
    obtain ⟨s1, h1, h2⟩ := add_spec lower s r
    obtain ⟨s2, g1, g2⟩ := ih s1
    have hp : pairs (r :: rs) = pairs [r] ++ pairs rs := by simp [pairs]
    refine ⟨s2, ?_, hp ▸ h2.trans g2⟩
    rw [adds, List.foldlM_cons, h1]; exact g1

theorem foldl_add_eq {α : Type} [DecidableEq α] (key : α → α) :
    ∀ (l : List α) (os : OSet α),
      l.foldl (fun os v => os.add (key v) v) os =
        { set := os.set ++ (firstSeenAux key os.set l).map key,
          vals := os.vals ++ firstSeenAux key os.set l } := by
  intro l
  induction l with
  | nil => intro os; simp [firstSeenAux]
  | cons x xs ih =>
    intro os
    rw [List.foldl_cons, ih]
    unfold OSet.add
    by_cases h : key x ∈ os.set
    · simp [h, firstSeenAux]
    · simp [h, firstSeenAux]

theorem foldl_bump {α K : Type} [DecidableEq K] (hit : α → Bool) (key val : α → K) (f : K → K)
    (hf : ∀ p, key p = f (val p)) (ps : List α) (o : Option (OSet K)) :
    ps.foldl (bump hit key val) o =
      if (ps.filter hit).map val = [] then o
      else some (((ps.filter hit).map val).foldl (fun os v => os.add (f v) v) (o.getD OSet.empty)) := by
  induction ps generalizing o with
  | nil => rfl
  | cons p ps ih =>
    rw [List.foldl_cons, ih]
    unfold bump
    by_cases h : hit p
    · simp only [h, if_true, List.filter_cons_of_pos, List.map_cons, List.foldl_cons, Option.getD_some, hf,
        reduceCtorEq, if_false]
      split
      · rename_i hnil; rw [hnil]; rfl
      · rfl
    · simp only [h, Bool.false_eq_true, if_false, List.filter_cons_of_neg, not_false_eq_true]

theorem valsAt_foldl_bump {α K : Type} [DecidableEq K] (hit : α → Bool) (key val : α → K) (f : K → K)
    (hf : ∀ p, key p = f (val p)) (ps : List α) :
    (ps.foldl (bump hit key val) none).map (·.vals) =
      if (ps.filter hit).map val = [] then none else some (firstSeenBy f ((ps.filter hit).map val)) := by
  rw [foldl_bump hit key val f hf]
  split
  · rfl
  · rw [foldl_add_eq]; rfl

theorem firstSeenBy_eq_nil {α β : Type} [DecidableEq β] (key : α → β) (l : List α) :
    firstSeenBy key l = [] ↔ l = [] := by
  cases l with
  | nil => simp [firstSeenBy, firstSeenAux]
  | cons x xs => simp [firstSeenBy, firstSeenAux]

/-- what `firstSeenAux key seen l` keeps: elements of `l` with keys outside `seen`, one for every
such key, no key twice -/
theorem firstSeenAux_spec {α β : Type} [DecidableEq β] (key : α → β) : ∀ (l : List α) (seen : List β),
    (∀ x ∈ firstSeenAux key seen l, x ∈ l ∧ key x ∉ seen) ∧
    (∀ x ∈ l, key x ∉ seen → ∃ y ∈ firstSeenAux key seen l, key y = key x) ∧
    ((firstSeenAux key seen l).map key).Nodup := by
  intro l
  induction l with
  | nil => intro seen; simp [firstSeenAux]
  | cons y ys ih =>
    intro seen
    unfold firstSeenAux
    by_cases hy : key y ∈ seen
    · obtain ⟨sub, cover, nd⟩ := ih seen
      rw [if_pos hy]
      refine ⟨fun x hx => ⟨List.mem_cons_of_mem _ (sub x hx).1, (sub x hx).2⟩, fun x hx hns => ?_, nd⟩
      rcases List.mem_cons.1 hx with rfl | hx
      · exact absurd hy hns
      · exact cover x hx hns
    · obtain ⟨sub, cover, nd⟩ := ih (seen ++ [key y])
      rw [if_neg hy]
      refine ⟨fun x hx => ?_, fun x hx hns => ?_, ?_⟩
      · rcases List.mem_cons.1 hx with rfl | hx
        · exact ⟨List.mem_cons_self, hy⟩
        · exact ⟨List.mem_cons_of_mem _ (sub x hx).1, fun hc => (sub x hx).2 (List.mem_append_left _ hc)⟩
      · by_cases hk : key y = key x
        · exact ⟨y, List.mem_cons_self, hk⟩
        · rcases List.mem_cons.1 hx with rfl | hx
          · exact absurd rfl hk
          · obtain ⟨z, hz, hkz⟩ := cover x hx (by simpa [hns] using Ne.symm hk)
            exact ⟨z, List.mem_cons_of_mem _ hz, hkz⟩
      · rw [List.map_cons, List.nodup_cons]
        refine ⟨fun hmem => ?_, nd⟩
        obtain ⟨z, hz, hkz⟩ := List.mem_map.1 hmem
        exact (sub z hz).2 (by simp [hkz])

theorem firstSeenBy_nodup {α β : Type} [DecidableEq β] (key : α → β) (l : List α) :
    ((firstSeenBy key l).map key).Nodup :=
  (firstSeenAux_spec key l []).2.2

theorem exists_mem_firstSeenBy {α β : Type} [DecidableEq β] (key : α → β) (l : List α) (c : β) :
    (∃ y ∈ firstSeenBy key l, key y = c) ↔ ∃ x ∈ l, key x = c := by
  constructor
  · rintro ⟨y, hy, rfl⟩; exact ⟨y, ((firstSeenAux_spec key l []).1 y hy).1, rfl⟩
  · rintro ⟨x, hx, rfl⟩; exact (firstSeenAux_spec key l []).2.1 x hx List.not_mem_nil

theorem mem_firstSeenBy_id {α : Type} [DecidableEq α] (l : List α) (x : α) :
    x ∈ firstSeenBy id l ↔ x ∈ l := by
  simpa using exists_mem_firstSeenBy id l x

end GolibsVerif.C08
