/-
C05: the interface with `ValidateDomainName` / `idna.ToASCII`: a validated name does not
start with a dot (`valid_no_leading_dot`, contract "leading dot is kept"), and every name the
reference decoder accepts is a valid domain name (`accepted_valid`, contract IDNA-1).
-/
import GolibsVerif.Lemmas.C05Mask
import GolibsVerif.Lemmas.C04Main

namespace GolibsVerif.C05
open GolibsVerif.Netutil GolibsVerif.Str GolibsVerif.Netip GolibsVerif GolibsVerif.Gen.Consts
open GolibsVerif.C03

theorem valid_no_leading_dot (toASCII : Bytes → Option Bytes)
    (hDot : ∀ s t, toASCII s = some t → s.head? = some 46 → t.head? = some 46)
    (a : Bytes) (h : validateDomainName toASCII a = .ok none) : a.head? ≠ some 46 :=
  C03.NameOK.no_leading_dot (by simp [DomainLabel]) hDot ((validateDomainName_iff toASCII a).1 h)

theorem head_trimSuffix (s : Bytes) (h : (trimSuffix s [46]).head? = some 46) : s.head? = some 46 := by
  unfold trimSuffix at h
  split at h
  · cases s with
    | nil => simp at h
    | cons c s =>
      cases hn : (c :: s).length - [46].length with
      | zero => rw [hn] at h; simp at h
      | succ n => rw [hn] at h; simpa using h
  · exact h

theorem spec_some_detail (ls : List Bytes) (p : Prefix) (h : arpaPrefixSpec ls = some p) :
    ∃ fam digits, ls.reverse = lblArpa :: fam :: digits ∧ (fam = lblInAddr ∨ fam = lblIp6) ∧
      digits.length ≤ 32 ∧ ∀ l ∈ digits, C04.GoodLabel l ∧ l.length ≤ 3 := by
  obtain ⟨R, hR | hR⟩ := spec_some_root ls p h
  · rw [spec_of_rev _ _ _ hR, if_pos rfl, famSpec_eq_some octetVal_iff] at h
    obtain ⟨vs, hn, hB, rfl, _⟩ := h
    refine ⟨_, _, hR, Or.inl rfl, by simp; omega, fun l hl => ?_⟩
    obtain ⟨v, hv, rfl⟩ := List.mem_map.1 hl
    exact ⟨C04.good_dec v (hB v hv), C04.dec_length_le v (hB v hv)⟩
  · rw [spec_of_rev _ _ _ hR, if_neg (by decide), if_pos rfl, famSpec_eq_some nibbleVal_iff] at h
    obtain ⟨vs, hn, hB, rfl, _⟩ := h
    refine ⟨_, _, hR, Or.inr rfl, by simpa using hn, fun l hl => ?_⟩
    obtain ⟨v, hv, rfl⟩ := List.mem_map.1 hl
    exact ⟨C04.good_hex v (hB v hv), by simp⟩

theorem frontOf_eq_flatMap (R : List Bytes) : frontOf R = R.reverse.flatMap fun l => l ++ [46] := by
  induction R with
  | nil => rfl
  | cons l R ih => simp [frontOf, ih]

theorem length_frontOf_le (R : List Bytes) (k : Nat) (h : ∀ x ∈ R, x.length ≤ k) :
    (frontOf R).length ≤ (k + 1) * R.length := by
  induction R with
  | nil => simp [frontOf]
  | cons x R ih =>
    have h1 := h x (by simp)
    have h2 := ih (fun y hy => h y (by simp [hy]))
    simp only [frontOf, List.length_append, List.length_cons, List.length_nil]
    rw [Nat.mul_add]
    omega

/-- IDNA-1 ⇒ every name the reference decoder accepts passes `ValidateDomainName`, and does not
start with a dot -/
theorem accepted_valid (toASCII : Bytes → Option Bytes)
    (hT : ∀ s, (∀ b ∈ s, b < 128) → NoXnLabel s → toASCII s = some s)
    (a : Bytes) (p : Prefix) (h : arpaPrefixSpec (splitOn 46 (asciiLower a)) = some p) :
    validateDomainName toASCII a = .ok none ∧ (asciiLower a).head? ≠ some 46 := by
  obtain ⟨fam, digits, hrev, hfam, hlen, hdig⟩ := spec_some_detail _ _ h
  have hstr := string_of_root _ _ _ hrev
  have hfl : fam.length ≤ 7 := by rcases hfam with rfl | rfl <;> decide
  constructor
  · -- the lower-cased name is its labels joined by dots: at most 32 short labels, then the root
    have hjoin : asciiLower a = C04.joinDot ((digits.reverse ++ [fam]) ++ [lblArpa]) := by
      rw [hstr, List.append_assoc digits.reverse]
      show _ = C04.joinDot (digits.reverse ++ [fam, lblArpa])
      rw [C04.joinDot_append_two, frontOf_eq_flatMap]
      simp
    refine C04.domain_ok_of_labels toASCII hT a _ hjoin (fun l hl => ?_) ?_
    · simp only [List.mem_append, List.mem_reverse, List.mem_singleton] at hl
      rcases hl with hl | rfl
      · exact (hdig l hl).1
      · rcases hfam with rfl | rfl <;> decide
    · show (C04.joinDot ((digits.reverse ++ [fam]) ++ [lblArpa])).length ≤ 253
      rw [← hjoin, hstr]
      have := length_frontOf_le digits 3 (fun x hx => (hdig x hx).2)
      simp only [List.length_append, List.length_cons]
      have : lblArpa.length = 4 := rfl
      omega
  · rw [hstr]
    cases digits with
    | nil => rcases hfam with rfl | rfl <;> simp [frontOf, lblInAddr, lblIp6]
    | cons d ds =>
      have hne := head_frontOf_ne_dot (d :: ds)
        (fun x hx h0 => by have := (hdig x hx).1.1; rw [h0] at this; cases this)
        (fun x hx hm => ((hdig x hx).1.2.2.1 46 hm).1 rfl)
      cases hf : frontOf (d :: ds) with
      | nil => simp [frontOf] at hf
      | cons c t => rw [hf] at hne; simpa using hne

end GolibsVerif.C05
