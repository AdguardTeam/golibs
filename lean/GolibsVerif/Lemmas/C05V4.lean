/-
C05, IPv4 family: canonical octets (`octetOK_iff`, `parse_octet`), the value computed by
`netip.parseIPv4Fields`, the loop of `ipv4NetFromReversed`, and `subnetFromReversedV4` against
the reference decoder (`ipv4NetFromReversed_spec`, `subnetV4_spec`; a prefix they return has `V4Shape`).
-/
import GolibsVerif.Lemmas.C05Str
import GolibsVerif.Lemmas.C02IPv4
import GolibsVerif.Lemmas.C04V4

namespace GolibsVerif.C05
open GolibsVerif.Netutil GolibsVerif.Str GolibsVerif.Netip GolibsVerif GolibsVerif.Gen.Consts

/- `octetOK` and `decVal` are, word for word, `C02.octetOK` and `C02.decVal`, so the lemmas of
`Lemmas/C02IPv4.lean` apply to them as they stand. -/

theorem octetOK_iff (l : Bytes) : octetOK l = true ↔
    l ≠ [] ∧ l.all isDigit = true ∧ (l.length = 1 ∨ l.head? ≠ some 48) ∧ decVal l ≤ 255 :=
  C02.octetOK_iff l

theorem isIPv4Label_eq (l : Bytes) : isIPv4Label l = .ok (octetOK l) := C02.isIPv4Label_eq l

theorem octetVal_eq_some (l : Bytes) (v : Nat) : octetVal l = some v ↔ octetOK l = true ∧ v = decVal l := by
  unfold octetVal
  by_cases h : octetOK l = true
  · simp [h, eq_comm]
  · simp [h]

theorem octetVal_eq_none (l : Bytes) : octetVal l = none ↔ octetOK l = false := by
  unfold octetVal
  by_cases h : octetOK l = true <;> simp [h]

theorem octetVal_le (l : Bytes) (v : Nat) (h : octetVal l = some v) : v ≤ 255 := by
  obtain ⟨h1, rfl⟩ := (octetVal_eq_some l v).1 h
  exact ((octetOK_iff l).1 h1).2.2.2

theorem octetOK_dotfree (l : Bytes) (h : octetOK l = true) : DotFree l := by
  have h2 := ((octetOK_iff l).1 h).2.1
  intro hm
  have := List.all_eq_true.1 h2 46 hm
  simp [isDigit] at this

theorem octetOK_ne_nil (l : Bytes) (h : octetOK l = true) : l ≠ [] := ((octetOK_iff l).1 h).1

/-- `strconv.ParseUint(l, 10, 8)` succeeds and the leading-zero test of `ipv4NetFromReversed`
passes iff `l` is a canonical octet -/
theorem parse_octet (l : Bytes) :
    match parseUintDec l 255 with
    | none => octetVal l = none
    | some v => if l.length > 1 ∧ l.head? = some 48 then octetVal l = none else octetVal l = some v := by
  unfold parseUintDec
  by_cases h0 : l = []
  · subst h0; simp [octetVal, octetOK]
  · simp only [h0, if_false]
    by_cases hd : l.all isDigit = true
    · simp only [hd, if_true]
      by_cases hv : l.foldl (fun a c => a * 10 + (c - 48)) 0 > 255
      · simp only [hv, if_true]
        rw [octetVal_eq_none]
        have : ¬ decVal l ≤ 255 := by unfold decVal; omega
        simp [octetOK, this]
      · simp only [hv, if_false]
        split
        · rename_i hz
          rw [octetVal_eq_none]
          have : ¬ (l.length = 1) := by omega
          simp [octetOK, hz.2, this]
        · rename_i hz
          rw [octetVal_eq_some]
          refine ⟨?_, rfl⟩
          rw [octetOK_iff]
          refine ⟨h0, hd, ?_, by unfold decVal; omega⟩
          by_cases h1 : l.length = 1
          · exact Or.inl h1
          · right; intro h48; apply hz
            have : l.length ≠ 0 := by intro e; exact h0 (List.length_eq_zero_iff.1 e)
            exact ⟨by omega, h48⟩
    · simp only [hd]
      rw [octetVal_eq_none]
      simp [octetOK, hd]

theorem traverse_cons_some (f : Bytes → Option Nat) (l : Bytes) (ls : List Bytes) (v : Nat)
    (h : f l = some v) : traverse f (l :: ls) = (traverse f ls).map (v :: ·) := by
  cases ht : traverse f ls <;> simp [traverse, h, ht]

theorem traverse_cons_none (f : Bytes → Option Nat) (l : Bytes) (ls : List Bytes)
    (h : f l = none) : traverse f (l :: ls) = none := by
  simp [traverse, h]

/-- `traverse f` succeeds with `vs` exactly when `f` maps the labels, one by one, to `vs` -/
theorem traverse_eq_some (f : Bytes → Option Nat) : ∀ (ls : List Bytes) (vs : List Nat),
    traverse f ls = some vs ↔ ls.map f = vs.map some
  | [], vs => by cases vs <;> simp [traverse]
  | l :: ls, vs => by
    cases hl : f l with
    | none => rw [traverse_cons_none _ _ _ hl]; cases vs <;> simp [hl]
    | some v =>
      rw [traverse_cons_some _ _ _ _ hl]
      cases vs with
      | nil => cases traverse f ls <;> simp
      | cons w ws =>
        simp only [List.map_cons, hl, List.cons.injEq, Option.some.injEq, ← traverse_eq_some f ls ws,
          Option.map_eq_some_iff]
        exact ⟨fun ⟨a, ha, hv, hw⟩ => ⟨hv, hw ▸ ha⟩, fun ⟨hv, ha⟩ => ⟨ws, ha, hv, rfl⟩⟩

theorem traverse_length (f : Bytes → Option Nat) (ls : List Bytes) (vs : List Nat)
    (h : traverse f ls = some vs) : vs.length = ls.length := by
  simpa using (congrArg List.length ((traverse_eq_some f ls vs).1 h)).symm

/-- for a label family whose reader `f` accepts exactly the spellings `enc v`, `v < B`:
all labels decode iff they are the spellings of the values -/
theorem traverse_fam {f : Bytes → Option Nat} {enc : Nat → Bytes} {B : Nat}
    (hf : ∀ l v, f l = some v ↔ v < B ∧ l = enc v) (ls : List Bytes) (vs : List Nat) :
    traverse f ls = some vs ↔ ls = vs.map enc ∧ ∀ v ∈ vs, v < B := by
  rw [traverse_eq_some]
  induction vs generalizing ls with
  | nil => simp
  | cons v vs ih =>
    cases ls with
    | nil => simp
    | cons l ls =>
      simp only [List.map_cons, List.cons.injEq, hf, ih, List.mem_cons, forall_eq_or_imp]
      exact ⟨fun ⟨⟨a, b⟩, c, d⟩ => ⟨⟨b, c⟩, a, d⟩, fun ⟨⟨b, c⟩, a, d⟩ => ⟨⟨a, b⟩, c, d⟩⟩

theorem octetVal_iff (l : Bytes) (v : Nat) : octetVal l = some v ↔ v < 256 ∧ l = C04.dec v := by
  rw [octetVal_eq_some]
  constructor
  · rintro ⟨h, rfl⟩
    obtain ⟨n, hn, rfl⟩ := (Digits.octetOK_iff_dec l).1 h
    exact ⟨by rwa [show decVal (C04.dec n) = n from Digits.decVal_dec n],
      by rw [show decVal (C04.dec n) = n from Digits.decVal_dec n]⟩
  · rintro ⟨h, rfl⟩
    exact ⟨(Digits.octetOK_iff_dec _).2 ⟨v, h, rfl⟩, (Digits.decVal_dec v).symm⟩

theorem nibbleVal_hexChar : ∀ v < 16, nibbleVal [C04.hexChar v] = some v := by decide

theorem nibbleVal_iff (l : Bytes) (v : Nat) : nibbleVal l = some v ↔ v < 16 ∧ l = [C04.hexChar v] := by
  constructor
  · intro h
    match l with
    | [] => simp [nibbleVal] at h
    | _ :: _ :: _ => simp [nibbleVal] at h
    | [c] =>
      simp only [nibbleVal] at h
      by_cases h1 : 48 ≤ c ∧ c ≤ 57
      · rw [if_pos h1] at h; cases h
        rw [← (C04.hexChar_table (c - 48) (by omega)).1, hexDigit, if_pos (by omega)]
        exact ⟨by omega, by congr 1; omega⟩
      · rw [if_neg h1] at h
        by_cases h2 : 97 ≤ c ∧ c ≤ 102
        · rw [if_pos h2] at h; cases h
          rw [← (C04.hexChar_table (c - 87) (by omega)).1, hexDigit, if_neg (by omega)]
          exact ⟨by omega, by congr 1; omega⟩
        · rw [if_neg h2] at h; cases h
  · rintro ⟨h, rfl⟩
    exact nibbleVal_hexChar v h

theorem traverse_octet_le (ls : List Bytes) (vs : List Nat)
    (h : traverse octetVal ls = some vs) : ∀ v ∈ vs, v ≤ 255 :=
  fun v hv => Nat.le_of_lt_succ (((traverse_fam octetVal_iff ls vs).1 h).2 v hv)

def okVal {α : Type} : Except Err α → Option α
  | .ok a => some a
  | .error _ => none

/-- one iteration of the loop on `addr = frontOf R ++ l` (last label `l`, the labels before it
`R`, nearest first), read through the reference octet parser -/
theorem ipv4NetLoop_step (f : Nat) (R : List Bytes) (l : Bytes) (ip : List Nat) (hl : DotFree l)
    (hne : frontOf R ++ l ≠ []) (hip : ip.length < 4) :
    ipv4NetLoop (f + 1) (frontOf R ++ l) ip =
      match octetVal l with
      | none => .ok (.error (if parseUintDec l 255 = none then .const .parseUint
          else .addr .lblDomain l (some (.const .leadingZero))))
      | some v =>
        match R with
        | [] => .ok (.ok (ip ++ [v]))
        | x :: R' => ipv4NetLoop f (frontOf R' ++ x) (ip ++ [v]) := by
  conv => lhs; unfold ipv4NetLoop
  simp only [hne, if_false, lastIndexByte_frontOf R l hl]
  rw [GoM.sliceFrom_append_len _ _, GoM.ok_bind]
  have hp := parse_octet l
  cases hpu : parseUintDec l 255 with
  | none => rw [hpu] at hp; simp only at hp ⊢; rw [hp]; rfl
  | some octet =>
    rw [hpu] at hp
    cases l with
    | nil => simp [parseUintDec] at hpu
    | cons c l' =>
      simp only at hp ⊢
      rw [GoM.idx_append_len _ _ _, GoM.ok_bind]
      have hcond : ((((frontOf R ++ c :: l').length : Int) - ((frontOf R).length : Int) > 1 ∧ c = 48) ↔
          ((c :: l').length > 1 ∧ (c :: l').head? = some 48)) := by
        simp; omega
      simp only [hcond]
      split at hp
      · rename_i hz; rw [hp, if_pos hz]; rfl
      · rename_i hz
        rw [hp, if_neg hz, if_neg (show ¬ ip.length ≥ 4 by omega)]
        cases R with
        | nil => simp [frontOf, pure, Except.pure]
        | cons x R' =>
          have h0 : ¬ (((frontOf (x :: R')).length : Int) = 0) := by simp [frontOf]; omega
          have : frontOf (x :: R') ++ c :: l' = (frontOf R' ++ x) ++ (46 :: c :: l') := by
            simp [frontOf]
          rw [if_neg h0, this, sliceTo_app _ _ _ (by simp [frontOf]; omega), GoM.ok_bind]

theorem ipv4NetLoop_spec (R : List Bytes) : ∀ (l : Bytes) (fuel : Nat) (ip : List Nat),
    DotFree l → (∀ x ∈ R, DotFree x) → R.length + 1 ≤ fuel → ip.length + R.length + 1 ≤ 4 →
    ∃ r, ipv4NetLoop fuel (frontOf R ++ l) ip = .ok r ∧
      (∀ ip', r = .ok ip' → ∃ vs, ip' = ip ++ vs ∧ vs.length ≤ R.length + 1 ∧ ∀ v ∈ vs, v ≤ 255) ∧
      ((l :: R).getLast? ≠ some [] → okVal r = (traverse octetVal (l :: R)).map (ip ++ ·)) := by
  induction R with
  | nil =>
    intro l fuel ip hl _ hf hip
    obtain ⟨f, rfl⟩ : ∃ f, fuel = f + 1 := ⟨fuel - 1, by omega⟩
    by_cases hne : l = []
    · subst hne
      exact ⟨.ok ip, by simp [ipv4NetLoop, frontOf, pure, Except.pure],
        fun ip' h => ⟨[], by cases h; simp, by simp, by simp⟩, fun h => absurd rfl h⟩
    · rw [ipv4NetLoop_step f [] l ip hl (by simpa [frontOf] using hne) (by omega)]
      cases ho : octetVal l with
      | none => exact ⟨_, rfl, fun _ h => (nomatch h), fun _ => by simp [okVal, traverse, ho]⟩
      | some v =>
        refine ⟨_, rfl, fun ip' h => ?_, fun _ => by simp [okVal, traverse, ho]⟩
        cases h
        exact ⟨[v], rfl, by simp, by simpa using octetVal_le l v ho⟩
  | cons x R ih =>
    intro l fuel ip hl hR hf hip
    obtain ⟨f, rfl⟩ : ∃ f, fuel = f + 1 := ⟨fuel - 1, by omega⟩
    rw [ipv4NetLoop_step f (x :: R) l ip hl (by simp [frontOf]) (by omega)]
    cases ho : octetVal l with
    | none => exact ⟨_, rfl, fun _ h => (nomatch h), fun _ => by simp [okVal, traverse, ho]⟩
    | some v =>
      obtain ⟨r, hr, hshape, hval⟩ := ih x f (ip ++ [v]) (hR x (by simp))
        (fun y hy => hR y (by simp [hy])) (by simp at hf; omega) (by simp at hip ⊢; omega)
      refine ⟨r, hr, fun ip' h => ?_, fun hlast => ?_⟩
      · obtain ⟨vs, h1, h2, h3⟩ := hshape ip' h
        refine ⟨v :: vs, by simp [h1], by simp at h2 ⊢; omega, ?_⟩
        intro w hw
        simp only [List.mem_cons] at hw
        rcases hw with rfl | hw
        · exact octetVal_le l _ ho
        · exact h3 w hw
      · rw [hval (by simpa [List.getLast?_cons_cons] using hlast), traverse_cons_some _ _ _ _ ho]
        cases traverse octetVal (x :: R) <;> simp

/-- `ipv4FromReversed` on a string with exactly three dots, as `subnetFromReversedV4` uses it -/
theorem ipv4FromReversed_spec (R : List Bytes) (l : Bytes) (hR : ∀ x ∈ R, DotFree x) (hl : DotFree l)
    (h3 : R.length = 3) :
    okVal (mapAddr (fun ad => { addr := ad, bits := 32 }) (ipv4FromReversed (frontOf R ++ l))) =
      (traverse octetVal (l :: R)).map v4Prefix := by
  have hsp : splitOn 46 (frontOf R ++ l) = (l :: R).reverse := by
    rw [splitOn_frontOf _ _ hR, splitOn_not_mem 46 l hl]; simp
  have hpf : ∀ vs : List Nat, vs.length = 4 → ({ addr := .v4 vs, bits := 32 } : Prefix) = v4Prefix vs := by
    intro vs h4
    match vs, h4 with
    | [a, b, c, d], _ => rfl
  cases hr : ipv4FromReversed (frontOf R ++ l) with
  | ok a =>
    obtain ⟨b, rfl, h4, hb, ht⟩ := (C04.ipv4FromReversed_ok _ _).1 hr
    have hlab : l :: R = b.map C04.dec := by
      have := congrArg (splitOn 46) ht
      rw [hsp, C04.splitOn_joinDot_dec _ (by intro h; simp at h; subst h; cases h4), List.map_reverse] at this
      exact List.reverse_inj.1 this
    rw [(traverse_fam octetVal_iff _ b).2 ⟨hlab, hb⟩, Option.map_some, ← hpf b h4]; rfl
  | error e =>
    cases ht : traverse octetVal (l :: R) with
    | none => rfl
    | some vs =>
      obtain ⟨hlab, hB⟩ := (traverse_fam octetVal_iff _ vs).1 ht
      have h4 : vs.length = 4 := by have := congrArg List.length hlab; simp at this; omega
      rw [(C04.ipv4FromReversed_ok _ (.v4 vs)).2 ⟨vs, rfl, h4, hB, by
        rw [← C04.joinDot_splitOn (frontOf R ++ l), hsp, hlab, ← List.map_reverse]⟩] at hr
      cases hr

/-- `"in-addr.arpa"` = `arpaV4Suffix[1:]` -/
def v4tail : Bytes := lblInAddr ++ 46 :: lblArpa
/-- `"ip6.arpa"` = `arpaV6Suffix[1:]` -/
def v6tail : Bytes := lblIp6 ++ 46 :: lblArpa

theorem v4tail_eq : GoM.sliceFrom arpaV4Suffix 1 = .ok v4tail := by decide
theorem v6tail_eq : GoM.sliceFrom arpaV6Suffix 1 = .ok v6tail := by decide

theorem dotfree_inaddr : DotFree lblInAddr := by unfold DotFree; decide
theorem dotfree_arpa : DotFree lblArpa := by unfold DotFree; decide
theorem dotfree_ip6 : DotFree lblIp6 := by unfold DotFree; decide

theorem labels_tail (R : List Bytes) (l fam : Bytes) (hR : ∀ x ∈ R, DotFree x) (hl : DotFree l)
    (hf : DotFree fam) :
    (splitOn 46 (frontOf R ++ l ++ (fam ++ 46 :: lblArpa))).reverse = lblArpa :: (l ++ fam) :: R := by
  have : frontOf R ++ l ++ (fam ++ 46 :: lblArpa) = frontOf R ++ ((l ++ fam) ++ 46 :: lblArpa) := by simp
  rw [this, splitOn_frontOf _ _ hR, splitOn_append_sep 46 _ _ (by unfold DotFree at *; simp [hl, hf]),
    splitOn_not_mem 46 _ dotfree_arpa]
  simp

/-- all of `R` decode under `f`, to at most `n` values, which `mk` packs -/
def famSpec (f : Bytes → Option Nat) (n : Nat) (mk : List Nat → Prefix) (R : List Bytes) :
    Option Prefix :=
  if R.length ≤ n then (traverse f R).map mk else none

theorem famSpec_eq (f : Bytes → Option Nat) (n : Nat) (mk : List Nat → Prefix) (R : List Bytes) :
    famSpec f n mk R =
      match traverse f R with
      | some os => if os.length ≤ n then some (mk os) else none
      | none => none := by
  unfold famSpec
  cases ht : traverse f R with
  | none => simp
  | some os => simp [traverse_length f R os ht]

/-- what `famSpec` accepts, for a family whose reader accepts exactly the spellings `enc v`, `v < B` -/
theorem famSpec_eq_some {f : Bytes → Option Nat} {enc : Nat → Bytes} {B : Nat}
    (hf : ∀ l v, f l = some v ↔ v < B ∧ l = enc v) (n : Nat) (mk : List Nat → Prefix) (R : List Bytes)
    (p : Prefix) : famSpec f n mk R = some p ↔
      ∃ vs, vs.length ≤ n ∧ (∀ v ∈ vs, v < B) ∧ R = vs.map enc ∧ p = mk vs := by
  unfold famSpec
  constructor
  · intro h
    split at h
    · rename_i hn
      cases ht : traverse f R with
      | none => simp [ht] at h
      | some vs =>
        obtain ⟨h1, h2⟩ := (traverse_fam hf R vs).1 ht
        simp only [ht, Option.map_some, Option.some.injEq] at h
        exact ⟨vs, by simpa [h1] using hn, h2, h1, h.symm⟩
    · cases h
  · rintro ⟨vs, hn, hB, rfl, rfl⟩
    rw [if_pos (by simpa using hn), (traverse_fam hf _ vs).2 ⟨rfl, hB⟩]; rfl

theorem spec_of_rev (ls : List Bytes) (fam : Bytes) (R : List Bytes)
    (h : ls.reverse = lblArpa :: fam :: R) :
    arpaPrefixSpec ls =
      if fam = lblInAddr then famSpec octetVal 4 v4Prefix R
      else if fam = lblIp6 then famSpec nibbleVal 32 v6Prefix R
      else none := by
  unfold arpaPrefixSpec
  rw [h]
  simp only [if_true, famSpec_eq]
  rfl

theorem inaddr_ne_ip6 (a b : Bytes) : a ++ lblInAddr ≠ b ++ lblIp6 := by
  intro h
  have := congrArg List.getLast? h
  simp [lblInAddr, lblIp6] at this

theorem spec_v4 (R : List Bytes) (l : Bytes) (hR : ∀ x ∈ R, DotFree x) (hl : DotFree l) :
    arpaPrefixSpec (splitOn 46 (frontOf R ++ l ++ v4tail)) =
      if l = [] then famSpec octetVal 4 v4Prefix R else none := by
  unfold v4tail
  rw [spec_of_rev _ _ _ (labels_tail R l lblInAddr hR hl dotfree_inaddr)]
  simp only [List.append_left_eq_self, show l ++ lblInAddr ≠ lblIp6 from inaddr_ne_ip6 l [], if_false]

theorem pad_eq_range (n : Nat) (l : List Nat) (h : l.length ≤ n) :
    pad n l = (List.range n).map fun i => l.getD i 0 := by
  apply List.ext_getElem
  · simp [pad]; omega
  · intro i h1 h2
    simp only [pad, List.getElem_map, List.getElem_range]
    by_cases hi : i < l.length
    · rw [List.getElem_append_left hi]; simp [List.getD_eq_getElem?_getD, hi]
    · rw [List.getElem_append_right (by omega)]
      simp [List.getD_eq_getElem?_getD, List.getElem?_eq_none (Nat.le_of_not_lt hi)]

theorem frontOf_head_dot (R : List Bytes) (h : R.getLast? = some []) : (frontOf R).head? = some 46 := by
  obtain ⟨ys, rfl⟩ := List.getLast?_eq_some_iff.1 h
  simp [frontOf_append, frontOf]

theorem length_frontOf_ge (R : List Bytes) : R.length ≤ (frontOf R).length := by
  induction R with
  | nil => simp
  | cons l R ih => simp [frontOf]; omega

/-- shape of an accepted IPv4 prefix -/
def V4Shape (p : Prefix) : Prop := ∃ os : List Nat, os.length ≤ 4 ∧ (∀ v ∈ os, v ≤ 255) ∧ p = v4Prefix os

theorem v4Shape_of_traverse (r : Except Err Prefix) (Ls : List Bytes) (hlen : Ls.length ≤ 4)
    (h : okVal r = (traverse octetVal Ls).map v4Prefix) (p : Prefix) (hp : r = .ok p) : V4Shape p := by
  subst hp
  cases ht : traverse octetVal Ls with
  | none => simp [okVal, ht] at h
  | some os =>
    simp only [okVal, ht, Option.map_some, Option.some.injEq] at h
    exact ⟨os, by rw [traverse_length _ _ _ ht]; exact hlen, traverse_octet_le _ _ ht, h⟩

/-- `ipv4NetFromReversed` on at most four labels: `ip[l]` stays inside the `[4]byte`, the slices
stay in range, the loop ends -/
theorem ipv4NetFromReversed_spec (R : List Bytes) (l : Bytes) (hl : DotFree l)
    (hR : ∀ x ∈ R, DotFree x) (h3 : R.length ≤ 3) :
    ∃ r, ipv4NetFromReversed (frontOf R ++ l) = .ok r ∧ (∀ p, r = .ok p → V4Shape p) ∧
      ((l :: R).getLast? ≠ some [] → okVal r = (traverse octetVal (l :: R)).map v4Prefix) := by
  obtain ⟨r, hr, hshape, hval⟩ := ipv4NetLoop_spec R l ((frontOf R ++ l).length + 1) [] hl hR
    (by have := length_frontOf_ge R; simp; omega) (by simp; omega)
  unfold ipv4NetFromReversed
  simp only [bind, Except.bind, pure, Except.pure, hr]
  cases r with
  | error e =>
    refine ⟨_, rfl, fun _ h => (nomatch h), fun hlast => ?_⟩
    have := hval hlast
    cases ht : traverse octetVal (l :: R) with
    | none => rfl
    | some os => simp [okVal, ht] at this
  | ok ip =>
    obtain ⟨vs, hvs, hlen, hle⟩ := hshape ip rfl
    simp only [List.nil_append] at hvs
    subst hvs
    have hpf : ({ addr := .v4 (pad 4 ip), bits := ip.length * 8 } : Prefix) = v4Prefix ip := by
      rw [pad_eq_range 4 ip (by omega), Nat.mul_comm]; rfl
    refine ⟨.ok (v4Prefix ip), by rw [← hpf], fun p h => ?_, fun hlast => ?_⟩
    · cases h; exact ⟨ip, by omega, hle, rfl⟩
    · have := hval hlast
      cases ht : traverse octetVal (l :: R) with
      | none => simp [okVal, ht] at this
      | some os => simp [okVal, ht] at this ⊢; rw [this]

theorem hasSuffix_dot_frontOf (R : List Bytes) (l : Bytes) (hl : DotFree l) (hne : l ≠ []) :
    hasSuffix (frontOf R ++ l) [46] = false := by
  cases hs : hasSuffix (frontOf R ++ l) [46] with
  | false => rfl
  | true =>
    obtain ⟨t, ht⟩ := (hasSuffix_iff _ _).1 hs
    have h1 := congrArg List.getLast? ht.symm
    rw [List.getLast?_append] at h1
    cases hgl : l.getLast? with
    | none => exact absurd (List.getLast?_eq_none_iff.1 hgl) hne
    | some z =>
      rw [hgl] at h1
      simp at h1
      subst h1
      exact absurd (List.mem_of_getLast? hgl) hl

theorem subnetV4_spec (pre : Bytes) :
    ∃ r, subnetFromReversedV4 (pre ++ v4tail) = .ok r ∧
      (pre.head? ≠ some 46 → okVal r = arpaPrefixSpec (splitOn 46 (pre ++ v4tail))) ∧
      (∀ p, r = .ok p → V4Shape p) := by
  obtain ⟨l, R, hl, hR, rfl, _⟩ := exists_frontOf pre
  rw [spec_v4 R l hR hl]
  unfold subnetFromReversedV4
  have hlen : ((frontOf R ++ l ++ v4tail).length : Int) - (arpaV4Suffix.length : Int) + 1 =
      ((frontOf R ++ l).length : Int) := by
    simp [v4tail, lblInAddr, lblArpa, arpaV4Suffix]; omega
  simp only [hlen, bind, Except.bind, pure, Except.pure]
  rw [GoM.sliceTo_append_len _ _]
  simp only
  by_cases hl0 : l = []
  · subst hl0
    cases R with
    | nil =>
      refine ⟨.ok (v4Prefix []), ?_, fun _ => rfl, fun p hp => ?_⟩
      · simp [frontOf, ipv4NetFromReversed, ipv4NetLoop, bind, Except.bind, pure, Except.pure]
        rfl
      · cases hp; exact ⟨[], by simp, by simp, rfl⟩
    | cons x R' =>
      have hx : DotFree x := hR x (by simp)
      have hR' : ∀ y ∈ R', DotFree y := fun y hy => hR y (by simp [hy])
      have hpre : frontOf (x :: R') ++ [] = (frontOf R' ++ x) ++ [46] := by simp [frontOf]
      have hlast : (frontOf (x :: R') ++ []).head? ≠ some 46 → (x :: R').getLast? ≠ some [] :=
        fun hd hg => hd (by simpa using frontOf_head_dot (x :: R') hg)
      rw [hpre] at hlast ⊢
      have hp0 : ¬ (((frontOf R' ++ x ++ [46]).length : Int) = 0) := by simp; omega
      have hsuf : hasSuffix (frontOf R' ++ x ++ [46]) [46] = true := (hasSuffix_iff _ _).2 ⟨_, rfl⟩
      simp only [hp0, if_false, hsuf, Bool.not_true, Bool.false_eq_true, if_true]
      rw [sliceTo_app _ _ _ (by simp; omega)]
      simp only [count_dot_frontOf R' x hR' hx]
      by_cases h3 : R'.length > 3
      · simp only [h3, if_true]
        refine ⟨_, rfl, fun _ => ?_, fun p hp => nomatch hp⟩
        simp [okVal, famSpec]; omega
      · simp only [h3, if_false]
        by_cases h3' : R'.length = 3
        · simp only [h3', if_true]
          have hh := ipv4FromReversed_spec R' x hR' hx h3'
          exact ⟨_, rfl, fun _ => by rw [hh]; simp [famSpec, h3'],
            v4Shape_of_traverse _ (x :: R') (by simp [h3']) hh⟩
        · simp only [h3', if_false]
          obtain ⟨r, hr, hshape, hval⟩ := ipv4NetFromReversed_spec R' x hx hR' (by omega)
          refine ⟨r, hr, fun hd => ?_, hshape⟩
          rw [hval (hlast hd)]
          simp [famSpec]; omega
  · have hsuf : hasSuffix (frontOf R ++ l) [46] = false := hasSuffix_dot_frontOf R l hl hl0
    have hp0 : ¬ (((frontOf R ++ l).length : Int) = 0) := by
      cases l with
      | nil => exact absurd rfl hl0
      | cons c t => simp; omega
    simp only [hp0, hsuf, if_false, Bool.not_false, if_true, hl0]
    exact ⟨_, rfl, fun _ => rfl, fun p hp => nomatch hp⟩

end GolibsVerif.C05
