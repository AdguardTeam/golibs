/-
C19 — the inductive invariant of the `Handle` transition system (`Model/C19Lts.lean`),
preserved by every step of every call under every schedule.
-/
import GolibsVerif.Model.C19Lts

namespace GolibsVerif.C19.Lts

/-- the call holds a pooled buffer (between `Get` and the deferred `Put`) -/
def holds (pc : PC) : Prop := pc ≠ .start ∧ pc ≠ .done

/-- the call holds `h.mu` -/
def inLock (pc : PC) : Prop := pc = .locked ∨ pc = .writing ∨ pc = .unlocking

/-- `Encode` has returned -/
def finished (pc : PC) : Prop := pc = .unlocking ∨ pc = .putting ∨ pc = .done

/-- the line call `i` must emit -/
def lineOf (P : Prog) (i : Nat) : Bytes := P.enc i (P.line i)

def linesOf (P : Prog) (l : List Nat) : Bytes := l.flatMap (lineOf P)

structure Inv (P : Prog) (s : State) : Prop where
  excl : ∀ i j, i ≠ j → holds (s.th i).pc → holds (s.th j).pc → (s.th i).obj ≠ (s.th j).obj
  owned : ∀ i, holds (s.th i).pc → s.free (s.th i).obj = false ∧ (s.th i).obj < s.nobj
  freeLt : ∀ o, s.free o = true → o < s.nobj
  mutex : ∀ i, s.mu = some i ↔ inLock (s.th i).pc
  buf : ∀ i, ((s.th i).pc = .rendered ∨ (s.th i).pc = .locked) → s.bufs (s.th i).obj = P.line i
  bufEmpty : ∀ i, (s.th i).pc = .rendering → s.bufs (s.th i).obj = []
  wr : ∀ i, (s.th i).pc = .writing → ∃ k, (s.th i).pending = (lineOf P i).drop k ∧
    s.out = linesOf P s.completed ++ (lineOf P i).take k
  idle : (∀ i, (s.th i).pc ≠ .writing) → s.out = linesOf P s.completed
  comp : ∀ i, i ∈ s.completed ↔ finished (s.th i).pc
  nodup : s.completed.Nodup

theorem upd_same {α : Type} (f : Nat → α) (i : Nat) (v : α) : upd f i v i = v := by simp [upd]

theorem upd_other {α : Type} (f : Nat → α) (i j : Nat) (v : α) (h : j ≠ i) : upd f i v j = f j := by
  simp [upd, h]

theorem inv_init (P : Prog) : Inv P init := by
  refine ⟨?_, ?_, ?_, ?_, ?_, ?_, ?_, ?_, ?_, ?_⟩ <;> simp [init, holds, inLock, finished, linesOf]

theorem drop_cons_step {α : Type} (l : List α) (k : Nat) (c : α) (rest : List α)
    (h : l.drop k = c :: rest) : l.drop (k + 1) = rest ∧ l.take (k + 1) = l.take k ++ [c] := by
  constructor
  · rw [← List.drop_drop, h]
    rfl
  · rw [List.take_add_one, ← List.head?_drop, h]
    rfl

theorem upd_false_imp {f : Nat → Bool} {o x : Nat} (h : upd f o false x = true) : f x = true := by
  unfold upd at h
  split at h
  · cases h
  · exact h

theorem upd_false_of_false {f : Nat → Bool} {o x : Nat} (h : f x = false) : upd f o false x = false :=
  Bool.eq_false_iff.mpr fun h' => Bool.eq_false_iff.mp h (upd_false_imp h')

/-! ### the invariant, call by call

Every step of the system replaces the thread of one call `i` and a cell or two of the shared
state.  `Loc P s i t` collects what `Inv` says of call `i` when its thread is `t`; a step then
has to establish `Loc` of the new thread of `i`, and to carry `Loc` of every other (unchanged)
thread over the change of the shared state, where only the clauses that read the changed cell
need an argument. -/

structure BufOk (P : Prog) (bufs : Nat → Bytes) (i : Nat) (t : Thread) : Prop where
  full : (t.pc = .rendered ∨ t.pc = .locked) → bufs t.obj = P.line i
  empty : t.pc = .rendering → bufs t.obj = []

/-- Writing to a buffer that the call does not hold. -/
theorem BufOk.frame {P : Prog} {bufs : Nat → Bytes} {i o : Nat} {t : Thread} (h : BufOk P bufs i t)
    (hne : holds t.pc → t.obj ≠ o) (v : Bytes) : BufOk P (upd bufs o v) i t :=
  ⟨fun hp => (upd_other _ _ _ _ (hne (by rcases hp with h | h <;> simp [holds, h]))).trans (h.full hp),
   fun hp => (upd_other _ _ _ _ (hne (by simp [holds, hp]))).trans (h.empty hp)⟩

structure Loc (P : Prog) (s : State) (i : Nat) (t : Thread) : Prop where
  owned : holds t.pc → s.free t.obj = false ∧ t.obj < s.nobj
  mutex : s.mu = some i ↔ inLock t.pc
  buf : BufOk P s.bufs i t
  wr : t.pc = .writing → ∃ k, t.pending = (lineOf P i).drop k ∧
    s.out = linesOf P s.completed ++ (lineOf P i).take k
  comp : i ∈ s.completed ↔ finished t.pc

theorem Inv.loc {P : Prog} {s : State} (h : Inv P s) (i : Nat) : Loc P s i (s.th i) :=
  ⟨h.owned i, h.mutex i, ⟨h.buf i, h.bufEmpty i⟩, h.wr i, h.comp i⟩

theorem Inv.others {P : Prog} {s : State} {i : Nat} (h : Inv P s) (hh : holds (s.th i).pc) :
    ∀ j, j ≠ i → holds (s.th j).pc → (s.th j).obj ≠ (s.th i).obj :=
  fun j hj hj' => h.excl j i hj hj' hh

/-- The invariant after call `i` went from `s.th i` to `t'`. -/
theorem inv_upd {P : Prog} {s s' : State} {i : Nat} {t' : Thread} (hinv : Inv P s)
    (hth : s'.th = upd s.th i t')
    (hi : Loc P s' i t') (ho : ∀ j, j ≠ i → Loc P s' j (s.th j))
    (hexcl : holds t'.pc → ∀ j, j ≠ i → holds (s.th j).pc → (s.th j).obj ≠ t'.obj)
    (freeLt : ∀ o, s'.free o = true → o < s'.nobj)
    (idle : (∀ j, (s'.th j).pc ≠ .writing) → s'.out = linesOf P s'.completed)
    (nodup : s'.completed.Nodup) : Inv P s' := by
  have loc : ∀ j, Loc P s' j (s'.th j) := by
    intro j
    rw [hth]
    by_cases hj : j = i
    · rw [hj, upd_same]
      exact hi
    · rw [upd_other _ _ _ _ hj]
      exact ho j hj
  refine ⟨?_, fun j => (loc j).owned, freeLt, fun j => (loc j).mutex, fun j => (loc j).buf.full,
    fun j => (loc j).buf.empty, fun j => (loc j).wr, idle, fun j => (loc j).comp, nodup⟩
  intro a b hab ha hb
  rw [hth] at ha hb ⊢
  by_cases h1 : a = i
  · subst h1
    rw [upd_same] at ha ⊢
    rw [upd_other _ _ _ _ (Ne.symm hab)] at hb ⊢
    exact (hexcl ha b (Ne.symm hab) hb).symm
  · rw [upd_other _ _ _ _ h1] at ha ⊢
    by_cases h2 : b = i
    · subst h2
      rw [upd_same] at hb ⊢
      exact hexcl hb a h1 ha
    · rw [upd_other _ _ _ _ h2] at hb ⊢
      exact hinv.excl a b hab ha hb

/-- If nobody is writing after a step of call `i`, and `i` was not writing before it, nobody was
writing before: the old `idle` clause applies to steps that leave `out` and `completed` alone. -/
theorem idle_keep {P : Prog} {s : State} {i : Nat} {t' : Thread} (hinv : Inv P s)
    (hpc : (s.th i).pc ≠ .writing) (h : ∀ j, (upd s.th i t' j).pc ≠ .writing) :
    s.out = linesOf P s.completed :=
  hinv.idle fun j => if hj : j = i then hj ▸ hpc else upd_other s.th i j t' hj ▸ h j

section
variable {P : Prog} {s : State} {i : Nat}

theorem inv_get_fresh (hinv : Inv P s) (hpc : (s.th i).pc = .start) :
    Inv P { s with th := upd s.th i { pc := .got, obj := s.nobj, pending := [] }
                   nobj := s.nobj + 1, bufs := upd s.bufs s.nobj [] } :=
  have hlt : ∀ j, holds (s.th j).pc → (s.th j).obj < s.nobj := fun j h => (hinv.owned j h).2
  inv_upd hinv rfl
    { -- free objects are below `nobj`, so object `nobj` is not free
      owned := fun _ =>
        ⟨Bool.eq_false_iff.mpr fun h => Nat.lt_irrefl _ (hinv.freeLt _ h), Nat.lt_succ_self _⟩
      mutex := (hinv.mutex i).trans (by simp [hpc, inLock])
      buf := ⟨by simp, nofun⟩
      wr := nofun
      comp := (hinv.comp i).trans (by simp [hpc, finished]) }
    (fun j _ => { hinv.loc j with
      owned := fun h => ⟨(hinv.owned j h).1, Nat.lt_succ_of_lt (hlt j h)⟩
      buf := (hinv.loc j).buf.frame (fun h => Nat.ne_of_lt (hlt j h)) [] })
    (fun _ j _ h => Nat.ne_of_lt (hlt j h))
    (fun o h => Nat.lt_succ_of_lt (hinv.freeLt o h))
    (idle_keep hinv (by simp [hpc]))
    hinv.nodup

theorem inv_get_reuse {o : Nat} (hinv : Inv P s)
    (hpc : (s.th i).pc = .start) (hfree : s.free o = true) :
    Inv P { s with th := upd s.th i { pc := .got, obj := o, pending := [] }, free := upd s.free o false } :=
  inv_upd hinv rfl
    { owned := fun _ => ⟨upd_same _ _ _, hinv.freeLt o hfree⟩
      mutex := (hinv.mutex i).trans (by simp [hpc, inLock])
      buf := ⟨by simp, nofun⟩
      wr := nofun
      comp := (hinv.comp i).trans (by simp [hpc, finished]) }
    (fun j _ => { hinv.loc j with
      owned := fun h => ⟨upd_false_of_false (hinv.owned j h).1, (hinv.owned j h).2⟩ })
    -- a held object is not free, `o` is
    (fun _ j _ h e => Bool.false_ne_true ((hinv.owned j h).1.symm.trans (e ▸ hfree)))
    (fun o' h => hinv.freeLt o' (upd_false_imp h))
    (idle_keep hinv (by simp [hpc]))
    hinv.nodup

theorem inv_gc (o : Nat) (hinv : Inv P s) :
    Inv P { s with free := upd s.free o false } :=
  { hinv with
    owned := fun a ha => ⟨upd_false_of_false (hinv.owned a ha).1, (hinv.owned a ha).2⟩
    freeLt := fun o' h => hinv.freeLt o' (upd_false_imp h) }

theorem inv_reset (hinv : Inv P s) (hpc : (s.th i).pc = .got) :
    Inv P { s with th := upd s.th i { s.th i with pc := .rendering }
                   bufs := upd s.bufs (s.th i).obj [] } :=
  have hh : holds (s.th i).pc := by simp [holds, hpc]
  have hne := hinv.others hh
  inv_upd hinv rfl
    { owned := fun _ => hinv.owned i hh
      mutex := (hinv.mutex i).trans (by simp [hpc, inLock])
      buf := ⟨by simp, fun _ => upd_same _ _ _⟩
      wr := nofun
      comp := (hinv.comp i).trans (by simp [hpc, finished]) }
    (fun j hj => { hinv.loc j with
      buf := (hinv.loc j).buf.frame (hne j hj) _ })
    (fun _ => hne)
    hinv.freeLt
    (idle_keep hinv (by simp [hpc]))
    hinv.nodup

theorem inv_render (hinv : Inv P s) (hpc : (s.th i).pc = .rendering) :
    Inv P { s with th := upd s.th i { s.th i with pc := .rendered }
                   bufs := upd s.bufs (s.th i).obj (s.bufs (s.th i).obj ++ P.line i) } :=
  have hh : holds (s.th i).pc := by simp [holds, hpc]
  have hne := hinv.others hh
  inv_upd hinv rfl
    { owned := fun _ => hinv.owned i hh
      mutex := (hinv.mutex i).trans (by simp [hpc, inLock])
      buf := ⟨fun _ => (upd_same _ _ _).trans (by rw [hinv.bufEmpty i hpc, List.nil_append]), nofun⟩
      wr := nofun
      comp := (hinv.comp i).trans (by simp [hpc, finished]) }
    (fun j hj => { hinv.loc j with
      buf := (hinv.loc j).buf.frame (hne j hj) _ })
    (fun _ => hne)
    hinv.freeLt
    (idle_keep hinv (by simp [hpc]))
    hinv.nodup

theorem inv_lock (hinv : Inv P s) (hpc : (s.th i).pc = .rendered)
    (hmu : s.mu = none) :
    Inv P { s with th := upd s.th i { s.th i with pc := .locked }, mu := some i } :=
  have hh : holds (s.th i).pc := by simp [holds, hpc]
  inv_upd hinv rfl
    { owned := fun _ => hinv.owned i hh
      mutex := by simp [inLock]
      buf := ⟨fun _ => hinv.buf i (Or.inl hpc), nofun⟩
      wr := nofun
      comp := (hinv.comp i).trans (by simp [hpc, finished]) }
    (fun j hj => { hinv.loc j with
      -- nobody is in the critical section while `mu` is free
      mutex := by rw [← hinv.mutex j, hmu]; simp [Ne.symm hj] })
    (fun _ => hinv.others hh)
    hinv.freeLt
    (idle_keep hinv (by simp [hpc]))
    hinv.nodup

theorem no_writer_of_lock (hinv : Inv P s)
    (hi : inLock (s.th i).pc) (a : Nat) (ha : a ≠ i) : ¬ inLock (s.th a).pc := by
  intro h
  have h1 := (hinv.mutex i).mpr hi
  have h2 := (hinv.mutex a).mpr h
  rw [h1] at h2
  exact ha (Option.some.inj h2).symm

theorem inv_marshal (hinv : Inv P s) (hpc : (s.th i).pc = .locked) :
    Inv P { s with th := upd s.th i { s.th i with pc := .writing, pending := P.enc i (s.bufs (s.th i).obj) } } :=
  have hh : holds (s.th i).pc := by simp [holds, hpc]
  have hnw := no_writer_of_lock hinv (by simp [inLock, hpc])
  inv_upd hinv rfl
    { owned := fun _ => hinv.owned i hh
      mutex := (hinv.mutex i).trans (by simp [hpc, inLock])
      buf := ⟨by simp, nofun⟩
      wr := fun _ => ⟨0, congrArg (P.enc i) (hinv.buf i (Or.inr hpc)),
        (hinv.idle fun j hw => if hj : j = i then by simp [hj, hpc] at hw
          else hnw j hj (by simp [inLock, hw])).trans (List.append_nil _).symm⟩
      comp := (hinv.comp i).trans (by simp [hpc, finished]) }
    -- no shared field changes
    (fun j _ => { hinv.loc j with })
    (fun _ => hinv.others hh)
    hinv.freeLt
    (fun h => (h i (congrArg Thread.pc (upd_same _ _ _))).elim)
    hinv.nodup

theorem inv_emit {c : Nat} {rest : Bytes} (hinv : Inv P s)
    (hpc : (s.th i).pc = .writing) (hp : (s.th i).pending = c :: rest) :
    Inv P { s with th := upd s.th i { s.th i with pending := rest }, out := s.out ++ [c] } :=
  have hh : holds (s.th i).pc := by simp [holds, hpc]
  have hnw := no_writer_of_lock hinv (by simp [inLock, hpc])
  inv_upd hinv rfl
    { hinv.loc i with
      buf := ⟨hinv.buf i, hinv.bufEmpty i⟩
      wr := fun _ => by
        obtain ⟨k, hk1, hk2⟩ := hinv.wr i hpc
        obtain ⟨d1, d2⟩ := drop_cons_step _ k c rest (hk1.symm.trans hp)
        exact ⟨k + 1, d1.symm, by simp only [hk2, d2, List.append_assoc]⟩ }
    (fun j hj => { hinv.loc j with
      wr := fun h => absurd (by simp [inLock, h]) (hnw j hj) })
    (fun _ => hinv.others hh)
    hinv.freeLt
    (fun h => (h i ((congrArg Thread.pc (upd_same _ _ _)).trans hpc)).elim)
    hinv.nodup

theorem inv_return (hinv : Inv P s)
    (hpc : (s.th i).pc = .writing) (hp : (s.th i).pending = []) :
    Inv P { s with th := upd s.th i { s.th i with pc := .unlocking }, completed := s.completed ++ [i] } :=
  have hh : holds (s.th i).pc := by simp [holds, hpc]
  have hnw := no_writer_of_lock hinv (by simp [inLock, hpc])
  have hni : i ∉ s.completed := fun h => by simpa [finished, hpc] using (hinv.comp i).mp h
  inv_upd hinv rfl
    { owned := fun _ => hinv.owned i hh
      mutex := (hinv.mutex i).trans (by simp [hpc, inLock])
      buf := ⟨by simp, nofun⟩
      wr := nofun
      comp := by simp [finished] }
    (fun j hj => { hinv.loc j with
      wr := fun h => absurd (by simp [inLock, h]) (hnw j hj)
      comp := by simp [hinv.comp j, hj] })
    (fun _ => hinv.others hh)
    hinv.freeLt
    (fun _ => by
      obtain ⟨k, hk1, hk2⟩ := hinv.wr i hpc
      rw [hk2, List.take_of_length_le (List.drop_eq_nil_iff.mp (hk1.symm.trans hp))]
      simp [linesOf])
    (List.nodup_append.mpr ⟨hinv.nodup, by simp,
      fun a ha b hb => by rw [List.mem_singleton.mp hb]; exact fun e => hni (e ▸ ha)⟩)

theorem inv_unlock (hinv : Inv P s) (hpc : (s.th i).pc = .unlocking) :
    Inv P { s with th := upd s.th i { s.th i with pc := .putting }, mu := none } :=
  have hh : holds (s.th i).pc := by simp [holds, hpc]
  have hnw := no_writer_of_lock hinv (by simp [inLock, hpc])
  inv_upd hinv rfl
    { owned := fun _ => hinv.owned i hh
      mutex := by simp [inLock]
      buf := ⟨by simp, nofun⟩
      wr := nofun
      comp := (hinv.comp i).trans (by simp [hpc, finished]) }
    (fun j hj => { hinv.loc j with
      mutex := ⟨nofun, fun h => absurd h (hnw j hj)⟩ })
    (fun _ => hinv.others hh)
    hinv.freeLt
    (idle_keep hinv (by simp [hpc]))
    hinv.nodup

theorem inv_put (hinv : Inv P s) (hpc : (s.th i).pc = .putting) :
    Inv P { s with th := upd s.th i { s.th i with pc := .done }, free := upd s.free (s.th i).obj true } :=
  have hh : holds (s.th i).pc := by simp [holds, hpc]
  inv_upd hinv rfl
    { owned := fun h => absurd rfl h.2
      mutex := (hinv.mutex i).trans (by simp [hpc, inLock])
      buf := ⟨by simp, nofun⟩
      wr := nofun
      comp := (hinv.comp i).trans (by simp [hpc, finished]) }
    (fun j hj => { hinv.loc j with
      owned := fun h =>
        ⟨(upd_other _ _ _ _ (hinv.others hh j hj h)).trans (hinv.owned j h).1, (hinv.owned j h).2⟩ })
    (fun h => absurd rfl h.2)
    (fun o h => if ho : o = (s.th i).obj then ho ▸ (hinv.owned i hh).2
      else hinv.freeLt o ((upd_other _ _ _ _ ho).symm.trans h))
    (idle_keep hinv (by simp [hpc]))
    hinv.nodup

end

theorem inv_next (P : Prog) (s s' : State) (l : Label) (hinv : Inv P s) (h : next P s l = some s') :
    Inv P s' := by
  revert h
  -- one case per branch of `next`, numbered in the order of its definition
  fun_cases next P s l
  case case1 hpc _ hf =>
    rintro ⟨⟩
    exact inv_get_reuse hinv hpc hf
  case case3 hpc =>
    rintro ⟨⟩
    exact inv_get_fresh hinv hpc
  case case5 o _ =>
    rintro ⟨⟩
    exact inv_gc o hinv
  case case9 hpc =>
    rintro ⟨⟩
    exact inv_reset hinv hpc
  case case10 hpc =>
    rintro ⟨⟩
    exact inv_render hinv hpc
  case case11 hpc hmu =>
    rintro ⟨⟩
    exact inv_lock hinv hpc hmu
  case case13 hpc =>
    rintro ⟨⟩
    exact inv_marshal hinv hpc
  case case14 hpc hp =>
    rintro ⟨⟩
    exact inv_return hinv hpc hp
  case case15 hpc _ _ hp =>
    rintro ⟨⟩
    exact inv_emit hinv hpc hp
  case case16 hpc =>
    rintro ⟨⟩
    exact inv_unlock hinv hpc
  case case17 hpc =>
    rintro ⟨⟩
    exact inv_put hinv hpc
  -- the other branches are `none`
  all_goals nofun

theorem inv_run (P : Prog) (ls : List Label) (s s' : State) (hinv : Inv P s)
    (h : run P s ls = some s') : Inv P s' := by
  induction ls generalizing s with
  | nil => simp only [run, Option.some.injEq] at h; subst h; exact hinv
  | cons l ls ih =>
    simp only [run] at h
    cases hn : next P s l with
    | none => rw [hn] at h; cases h
    | some s1 =>
      rw [hn] at h
      exact ih s1 (inv_next P s s1 l hinv hn) h

theorem inv_reachable (P : Prog) (s : State) (h : Reachable P s) : Inv P s := by
  obtain ⟨ls, hls⟩ := h
  exact inv_run P ls init s (inv_init P) hls

end GolibsVerif.C19.Lts
