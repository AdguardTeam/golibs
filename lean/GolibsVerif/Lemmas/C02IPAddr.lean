import GolibsVerif.Lemmas.C02IPv6
import GolibsVerif.Lemmas.NetipDispatch

/-! C02, dispatch part: `IsValidIPString` vs `netip.ParseAddr` (first of `.`/`:`/`%`, the
`maxSignificant` cut-off, zones: `isValidIPString_eq`); then what `IsValidIPPortString` needs of
the two sides: `isUint16` is the port parser of `ParseAddrPort` (`isUint16_eq`), and the family of
the address `parseAddrDispatch` returns goes with the presence of a colon (`dispatch_kind`). -/
namespace GolibsVerif.C02
open GolibsVerif.Netutil GolibsVerif.Str GolibsVerif.Netip GolibsVerif

theorem parseIPv6_nozone (s : Bytes) (h : 37 ∉ s) : (parseIPv6 s).isSome = v6core s := by
  rw [parseIPv6_nozone_eq s h, parseIPv6Split_isSome]

theorem parseIPv6_zone (b a : Bytes) (h : 37 ∉ b) :
    (parseIPv6 (b ++ 37 :: a)).isSome = (!a.isEmpty && v6core b) := by
  rw [parseIPv6_zone_eq b a h]
  cases a with
  | nil => rfl
  | cons x a' => rw [if_neg (by simp), parseIPv6Split_isSome]; rfl

theorem v6core_false (y : Bytes) (hhead : ∀ t, y ≠ 58 :: t)
    (hf : ∀ d r, y = d ++ r → FieldOK d r → r = [] ∨ ∃ c r', r = c :: r' ∧ c ≠ 46 ∧ c ≠ 58) :
    v6core y = false := by
  unfold v6core
  rw [lead_eq]
  have hp : hasPrefix y [58, 58] = false := by
    cases hh : hasPrefix y [58, 58] with
    | false => rfl
    | true =>
      obtain ⟨t, ht⟩ := (hasPrefix_cc y).1 hh
      exact absurd ht (hhead _)
  simp only [hp, Bool.false_eq_true, false_and, if_false]
  rcases field_cases y with hbad | ⟨d, r, rfl, h⟩
  · exact accN_bad 8 y [] none (by simp) hbad
  · obtain ⟨_, _, hacc⟩ := accN_sep 8 0 h [] none rfl (by omega)
    rw [hacc]
    rcases hf d r rfl h with rfl | ⟨c, r', rfl, h46, h58⟩
    · rfl
    · simp [sepOf, h46, h58]

theorem v6core_nosep (y : Bytes) (h : ∀ c ∈ y, c ≠ 46 ∧ c ≠ 58) : v6core y = false := by
  apply v6core_false
  · intro t ht; exact (h 58 (by simp [ht])).2 rfl
  · intro d r hy _
    cases r with
    | nil => left; rfl
    | cons c r' => right; exact ⟨c, r', rfl, h c (by simp [hy])⟩

theorem v6core_long (pre x : Bytes) (hlen : 5 ≤ pre.length) (h : ∀ c ∈ pre, c ≠ 46 ∧ c ≠ 58) :
    v6core (pre ++ x) = false := by
  apply v6core_false
  · intro t ht
    cases pre with
    | nil => simp at hlen
    | cons p pt =>
      simp at ht
      exact (h p (by simp)).2 ht.1
  · intro d r hy hfo
    right
    rcases List.append_eq_append_iff.1 hy with ⟨a', hd, _⟩ | ⟨a', hpre, hr⟩
    · have := hfo.le4
      rw [hd] at this; simp at this; omega
    · cases a' with
      | nil =>
        have := hfo.le4
        simp at hpre; rw [hpre] at hlen; omega
      | cons c a'' =>
        exact ⟨c, a'' ++ x, by simpa using hr, h c (by simp [hpre])⟩

theorem parseIPv4Fields_long (pre x : Bytes) (hlen : 4 ≤ pre.length) (h : 46 ∉ pre) :
    parseIPv4Fields (pre ++ x) = none := by
  have hs := parseIPv4Fields_eq_spec (pre ++ x)
  obtain ⟨p, ps, _, h2⟩ := splitOn_append_nosep 46 pre x h
  have hoct : octetOK (pre ++ p) = false := by
    cases ho : octetOK (pre ++ p) with
    | false => rfl
    | true => have := octetOK_len _ ho; simp at this; omega
  simp only [v4Spec, h2, List.all_cons, hoct, Bool.false_and] at hs
  simpa using hs

/-- the `:` branch of `IsValidIPString`: cut the zone off, refuse an empty one, validate the
rest; `netip.parseIPv6` does the same -/
theorem v6Branch_eq (whole : Bytes) :
    (let (withoutZone, zone, hasZone) := cut 37 whole
     if hasZone ∧ zone = [] then (return false : GoM Bool)
     else isValidIPv6String withoutZone) = .ok ((parseIPv6 whole).isSome) := by
  rcases first_cases 37 whole with hx | ⟨b, a, rfl, hb⟩
  · rw [cut_not_mem 37 _ hx]
    simp only [Bool.false_eq_true, false_and, if_false]
    rw [isValidIPv6String_eq_core, parseIPv6_nozone _ hx]
  · rw [cut_append_sep 37 b a hb, parseIPv6_zone b a hb]
    cases a with
    | nil => rfl
    | cons x a' =>
      simp only [reduceCtorEq, and_false, if_false]
      rw [isValidIPv6String_eq_core]
      rfl

/-- golibs rejects what neither parser accepts, wherever its scan stops -/
theorem aux_false (whole : Bytes) (h4 : parseIPv4Fields whole = none) (h6 : parseIPv6 whole = none) :
    ∀ rest k, isValidIPStringAux whole rest k = .ok false := by
  intro rest
  induction rest with
  | nil => intro k; rfl
  | cons c rest' ih =>
    intro k
    unfold isValidIPStringAux
    by_cases hk : k > 4
    · rw [if_pos hk]; rfl
    · rw [if_neg hk]
      by_cases h46 : c = 46
      · rw [if_pos h46, isValidIPv4String_eq, h4]; rfl
      · rw [if_neg h46]
        by_cases h58 : c = 58
        · rw [if_pos h58]; exact (v6Branch_eq whole).trans (by rw [h6]; rfl)
        · rw [if_neg h58]; exact ih (k + 1)

/-- netip rejects what neither parser accepts, whichever byte it dispatches on -/
theorem dispatch_none (whole : Bytes) (h4 : parseIPv4Fields whole = none)
    (h6 : parseIPv6 whole = none) (rest : Bytes) : parseAddrDispatch rest whole = none := by
  cases h : parseAddrDispatch rest whole with
  | none => rfl
  | some a =>
    rcases dispatch_cases h with ⟨_, e⟩ | ⟨_, e⟩
    · simp [parseIPv4, h4] at e
    · rw [h6] at e; cases e

/-- a `%` before every `.` and `:` -/
theorem rejected_zone (b a : Bytes) (hb : ∀ c ∈ b, c ≠ 46 ∧ c ≠ 58 ∧ c ≠ 37) :
    parseIPv4Fields (b ++ 37 :: a) = none ∧ parseIPv6 (b ++ 37 :: a) = none := by
  refine ⟨Option.not_isSome_iff_eq_none.1 fun hs => ?_, ?_⟩
  · have := parseIPv4Fields_chars _ hs 37 (by simp)
    simp [isDigit] at this
  · rw [← Option.not_isSome_iff_eq_none,
      parseIPv6_zone b a (fun hm => (hb 37 hm).2.2 rfl),
      v6core_nosep b (fun c hc => ⟨(hb c hc).1, (hb c hc).2.1⟩)]
    simp

/-- no `.`, `:` or `%` among the first five bytes (`maxSignificant`) -/
theorem rejected_long (pre x : Bytes) (hlen : 5 ≤ pre.length)
    (hpre : ∀ c ∈ pre, c ≠ 46 ∧ c ≠ 58 ∧ c ≠ 37) :
    parseIPv4Fields (pre ++ x) = none ∧ parseIPv6 (pre ++ x) = none := by
  refine ⟨parseIPv4Fields_long pre x (by omega) (fun hm => (hpre 46 hm).1 rfl), ?_⟩
  have h37 : 37 ∉ pre := fun hm => (hpre 37 hm).2.2 rfl
  have hsep : ∀ c ∈ pre, c ≠ 46 ∧ c ≠ 58 := fun c hc => ⟨(hpre c hc).1, (hpre c hc).2.1⟩
  rw [← Option.not_isSome_iff_eq_none]
  rcases first_cases 37 x with hx | ⟨b', a', rfl, hb'⟩
  · rw [parseIPv6_nozone _ (by simp [h37, hx]), v6core_long pre x hlen hsep]; simp
  · rw [show pre ++ (b' ++ 37 :: a') = (pre ++ b') ++ 37 :: a' by simp,
      parseIPv6_zone _ _ (by simp [h37, hb']), v6core_long pre b' hlen hsep]
    simp

/-- the two scanners in lockstep, as long as no `.`, `:`, `%` has been seen -/
theorem aux_lockstep : ∀ (rest pre : Bytes), (∀ c ∈ pre, c ≠ 46 ∧ c ≠ 58 ∧ c ≠ 37) →
    isValidIPStringAux (pre ++ rest) rest pre.length =
      .ok ((parseAddrDispatch rest (pre ++ rest)).isSome) := by
  intro rest
  induction rest with
  | nil => intro pre _; rfl
  | cons c rest' ih =>
    intro pre hpre
    by_cases hk : pre.length > 4
    · obtain ⟨h4, h6⟩ := rejected_long pre (c :: rest') (by omega) hpre
      rw [dispatch_none _ h4 h6, aux_false _ h4 h6]; rfl
    · unfold isValidIPStringAux parseAddrDispatch
      rw [if_neg hk]
      by_cases h46 : c = 46
      · simp only [h46, if_true, parseIPv4, Option.isSome_map]
        exact isValidIPv4String_eq _
      · simp only [h46, if_false]
        by_cases h58 : c = 58
        · simp only [h58, if_true]
          exact v6Branch_eq _
        · simp only [h58, if_false]
          by_cases h37 : c = 37
          · obtain ⟨h4, h6⟩ := rejected_zone pre rest' hpre
            simp only [h37, if_true]
            exact aux_false _ h4 h6 rest' (pre.length + 1)
          · simp only [h37, if_false]
            have := ih (pre ++ [c]) (by
              intro x hx
              rcases List.mem_append.1 hx with hx | hx
              · exact hpre x hx
              · simp at hx; subst hx; exact ⟨h46, h58, h37⟩)
            simpa using this

/-- `IsValidIPString` accepts exactly what `netip.ParseAddr` accepts -/
theorem isValidIPString_eq (s : Bytes) : isValidIPString s = .ok ((parseAddr s).isSome) := by
  have := aux_lockstep s [] (by simp)
  simpa [isValidIPString, parseAddr] using this

theorem isUint16Aux_eq (s : Bytes) (n : Nat) (hn : n ≤ 65535) :
    isUint16Aux s n =
      (s.all isDigit && decide (s.foldl (fun a c => a * 10 + (c - 48)) n ≤ 65535)) := by
  induction s generalizing n with
  | nil => simp [isUint16Aux, hn]
  | cons c t ih =>
    unfold isUint16Aux
    by_cases hd : isDigit c = true
    · simp only [hd, Bool.not_true, Bool.false_eq_true, if_false, List.all_cons, Bool.true_and,
        List.foldl_cons]
      by_cases hv : n * 10 + (c - 48) > 65535
      · have := foldl_dec_ge t (n * 10 + (c - 48))
        have : ¬ t.foldl (fun a c => a * 10 + (c - 48)) (n * 10 + (c - 48)) ≤ 65535 := by omega
        simp [hv, this]
      · simp only [hv, if_false]
        exact ih _ (by omega)
    · simp [hd]

theorem isUint16_eq (port : Bytes) (h : port ≠ []) :
    isUint16 port = (parseUintDec port 65535).isSome := by
  unfold isUint16 parseUintDec
  rw [isUint16Aux_eq _ _ (by omega), if_neg h]
  cases port.all isDigit with
  | false => rfl
  | true =>
    by_cases hv : port.foldl (fun a c => a * 10 + (c - 48)) 0 > 65535
    · simp only [Bool.true_and, if_true, if_pos hv]
      exact decide_eq_false (by omega)
    · simp only [Bool.true_and, if_true, if_neg hv]
      exact decide_eq_true (by omega)

theorem dispatch_kind (rest whole : Bytes) (addr : Addr)
    (h : parseAddrDispatch rest whole = some addr) :
    (addr.is4 = true ∧ addr.is6 = false ∧ (parseIPv4Fields whole).isSome = true) ∨
    (addr.is6 = true ∧ addr.is4 = false ∧ 58 ∈ rest) := by
  rcases dispatch_cases h with ⟨_, e⟩ | ⟨m, e⟩
  · cases hp : parseIPv4Fields whole with
    | none => simp [parseIPv4, hp] at e
    | some f =>
      simp only [parseIPv4, hp, Option.map_some, Option.some.injEq] at e
      subst e; exact Or.inl ⟨rfl, rfl, rfl⟩
  · have h6 := parseIPv6Split_is6 _ addr e
    exact Or.inr ⟨h6, by cases addr <;> simp [Addr.is6, Addr.is4] at h6 ⊢, m⟩

theorem parseAddr_colon (s : Bytes) (addr : Addr) (h : parseAddr s = some addr) (h58 : 58 ∈ s) :
    addr.is4 = false ∧ addr.is6 = true := by
  rcases dispatch_kind s s addr h with ⟨_, _, h3⟩ | ⟨h1, h2, _⟩
  · have := parseIPv4Fields_chars s h3 58 h58
    simp [isDigit] at this
  · exact ⟨h2, h1⟩

theorem parseAddr_nocolon (s : Bytes) (addr : Addr) (h : parseAddr s = some addr) (h58 : 58 ∉ s) :
    addr.is4 = true ∧ addr.is6 = false := by
  rcases dispatch_kind s s addr h with ⟨h1, h2, _⟩ | ⟨_, _, h3⟩
  · exact ⟨h1, h2⟩
  · exact absurd h3 h58

theorem parseAddr_bracket (s : Bytes) (h58 : 58 ∉ s) (hh : s.head? = some 91) : parseAddr s = none := by
  cases hp : parseAddr s with
  | none => rfl
  | some addr =>
    rcases dispatch_kind s s addr hp with ⟨_, _, h3⟩ | ⟨_, _, h3⟩
    · have hm : 91 ∈ s := by
        cases s with
        | nil => simp at hh
        | cons x t => simp at hh; simp [hh]
      have := parseIPv4Fields_chars s h3 91 hm
      simp [isDigit] at this
    · exact absurd h3 h58

end GolibsVerif.C02
