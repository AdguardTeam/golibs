/-
C07 — helper lemmas: the field cutting of `record.go` against the reference splitting
`fieldsOf`, and the closed form `refUnmarshal` of `UnmarshalText` over the field list.
-/
import GolibsVerif.Spec.C07
import GolibsVerif.Theorems.C03

namespace GolibsVerif.C07
open GolibsVerif GolibsVerif.Str GolibsVerif.Netutil GolibsVerif.Netip

theorem nsp_iff (b : Nat) : nsp b = true ↔ isSpace b = false := by
  unfold nsp; cases isSpace b <;> simp

theorem trimLeft_spaces (s : Bytes) : trimLeft s spaces = s.dropWhile isSpace := rfl

theorem isSpace_iff (b : Nat) : isSpace b = true ↔ b = 32 ∨ b = 9 := by
  simp [isSpace, inSet, spaces, GolibsVerif.Gen.C07.spaces]

theorem hash_not_space : isSpace hash = false := by decide

theorem splitBlank_cons_space {b : Nat} (h : isSpace b = true) (r : Bytes) :
    splitBlank (b :: r) = [] :: splitBlank r := by
  rw [splitBlank]; simp [h]

theorem splitBlank_cons_nsp {b : Nat} (h : ¬ isSpace b = true) (r : Bytes) :
    splitBlank (b :: r) = match splitBlank r with | [] => [[b]] | p :: ps => (b :: p) :: ps := by
  rw [splitBlank, if_neg h]; cases splitBlank r <;> rfl

theorem splitBlank_ne_nil (s : Bytes) : splitBlank s ≠ [] := by
  induction s with
  | nil => simp [splitBlank]
  | cons b r ih =>
    unfold splitBlank
    split
    · simp
    · split <;> simp

theorem splitBlank_word {w : Bytes} (hw : ∀ b ∈ w, isSpace b = false) : splitBlank w = [w] := by
  induction w with
  | nil => rfl
  | cons b r ih =>
    rw [splitBlank_cons_nsp (by simp [hw b]), ih (fun x hx => hw x (by simp [hx]))]

theorem splitBlank_append_space {c : Nat} (hc : isSpace c = true) (t u : Bytes) :
    splitBlank (t ++ c :: u) = splitBlank t ++ splitBlank u := by
  induction t with
  | nil => simp [splitBlank, hc]
  | cons b r ih =>
    by_cases h : isSpace b = true
    · simp [splitBlank, h, ih]
    · simp only [List.cons_append, splitBlank, h]
      rw [ih]
      cases hs : splitBlank r with
      | nil => exact absurd hs (splitBlank_ne_nil r)
      | cons p ps => simp

theorem fieldsOf_nil : fieldsOf [] = [] := by simp [fieldsOf, splitBlank]

theorem fieldsOf_cons_space {b : Nat} (h : isSpace b = true) (s : Bytes) :
    fieldsOf (b :: s) = fieldsOf s := by
  simp [fieldsOf, splitBlank, h]

theorem fieldsOf_dropWhile (s : Bytes) : fieldsOf (s.dropWhile isSpace) = fieldsOf s := by
  induction s with
  | nil => rfl
  | cons b r ih =>
    by_cases h : isSpace b = true
    · simp [List.dropWhile, h, ih, fieldsOf_cons_space h]
    · simp [List.dropWhile, h]

theorem fieldsOf_append_space {c : Nat} (hc : isSpace c = true) (t u : Bytes) :
    fieldsOf (t ++ c :: u) = fieldsOf t ++ fieldsOf u := by
  simp [fieldsOf, splitBlank_append_space hc]

theorem fieldsOf_word {w : Bytes} (hw : ∀ b ∈ w, isSpace b = false) :
    fieldsOf w = if w = [] then [] else [w] := by
  rw [fieldsOf, splitBlank_word hw]
  by_cases h : w = [] <;> simp [h]

theorem fieldsOf_cut (s : Bytes) :
    fieldsOf s = (if s.takeWhile nsp = [] then [] else [s.takeWhile nsp]) ++
      fieldsOf (trimLeft (s.dropWhile nsp) spaces) := by
  rw [trimLeft_spaces, fieldsOf_dropWhile,
    ← fieldsOf_word (fun b hb => (nsp_iff b).1 (List.mem_takeWhile hb))]
  conv => lhs; rw [← List.takeWhile_append_dropWhile (p := nsp) (l := s)]
  have hd := List.head?_dropWhile_not nsp s
  cases hdw : s.dropWhile nsp with
  | nil => simp [fieldsOf_nil]
  | cons c u =>
    have hc : isSpace c = true := by simpa [hdw, nsp] using hd
    rw [fieldsOf_append_space hc, fieldsOf_cons_space hc]

def NoLead (s : Bytes) : Prop := ∀ b, s.head? = some b → nsp b = true

theorem noLead_trimLeft (s : Bytes) : NoLead (trimLeft s spaces) := by
  intro b hb
  have := List.head?_dropWhile_not isSpace s
  rw [trimLeft_spaces] at hb
  rw [hb] at this
  simpa [nsp] using this

theorem takeWhile_ne_nil_of_noLead {s : Bytes} (hl : NoLead s) (hne : s ≠ []) :
    s.takeWhile nsp ≠ [] := by
  cases s with
  | nil => exact absurd rfl hne
  | cons b r =>
    have := hl b rfl
    simp [List.takeWhile, this]

theorem fieldsOf_cut_noLead {s : Bytes} (hl : NoLead s) (hne : s ≠ []) :
    fieldsOf s = s.takeWhile nsp :: fieldsOf (trimLeft (s.dropWhile nsp) spaces) := by
  rw [fieldsOf_cut]
  simp [takeWhile_ne_nil_of_noLead hl hne]

theorem fieldsOf_all_space {sp : Bytes} (h : ∀ b ∈ sp, isSpace b = true) : fieldsOf sp = [] := by
  induction sp with
  | nil => exact fieldsOf_nil
  | cons b r ih =>
    rw [fieldsOf_cons_space (h b (by simp))]
    exact ih (fun x hx => h x (by simp [hx]))

theorem fieldsOf_append_spaces {sp : Bytes} (h : ∀ b ∈ sp, isSpace b = true) (t : Bytes) :
    fieldsOf (t ++ sp) = fieldsOf t := by
  cases sp with
  | nil => simp
  | cons c u =>
    have hu : fieldsOf u = [] := fieldsOf_all_space (fun x hx => h x (by simp [hx]))
    rw [fieldsOf_append_space (h c (by simp)), hu]
    simp

theorem trimRight_prefix (s : Bytes) :
    ∃ sp, s = trimRight s spaces ++ sp ∧ ∀ b ∈ sp, isSpace b = true := by
  refine ⟨(s.reverse.takeWhile isSpace).reverse, ?_, ?_⟩
  · unfold trimRight
    have : inSet spaces = isSpace := rfl
    rw [this, ← List.reverse_append, List.takeWhile_append_dropWhile, List.reverse_reverse]
  · intro b hb
    rw [List.mem_reverse] at hb
    exact List.mem_takeWhile hb

theorem fieldsOf_trim (s : Bytes) : fieldsOf (trim s spaces) = fieldsOf s := by
  unfold trim
  obtain ⟨sp, h1, h2⟩ := trimRight_prefix (trimLeft s spaces)
  have := fieldsOf_append_spaces h2 (trimRight (trimLeft s spaces) spaces)
  rw [← h1, trimLeft_spaces, fieldsOf_dropWhile] at this
  exact this.symm

theorem noLead_trim (s : Bytes) : NoLead (trim s spaces) := by
  unfold trim
  obtain ⟨sp, h1, _⟩ := trimRight_prefix (trimLeft s spaces)
  have hl := noLead_trimLeft s
  intro b hb
  apply hl b
  rw [h1]
  cases ht : trimRight (trimLeft s spaces) spaces with
  | nil => rw [ht] at hb; simp at hb
  | cons x xs => rw [ht] at hb; simpa using hb

theorem mem_splitBlank {s : Bytes} : ∀ p ∈ splitBlank s, ∀ b ∈ p, isSpace b = false ∧ b ∈ s := by
  induction s with
  | nil => intro p hp b hb; simp [splitBlank] at hp; subst hp; simp at hb
  | cons c r ih =>
    intro p hp b hb
    by_cases h : isSpace c = true
    · rw [splitBlank_cons_space h] at hp
      simp only [List.mem_cons] at hp
      rcases hp with rfl | hp
      · simp at hb
      · have := ih p hp b hb; exact ⟨this.1, by simp [this.2]⟩
    · rw [splitBlank_cons_nsp h] at hp
      cases hs : splitBlank r with
      | nil => exact absurd hs (splitBlank_ne_nil r)
      | cons q qs =>
        rw [hs] at ih hp
        simp only [List.mem_cons] at hp
        rcases hp with rfl | hp
        · simp only [List.mem_cons] at hb
          rcases hb with rfl | hb
          · exact ⟨by simpa using h, by simp⟩
          · have := ih q (by simp) b hb; exact ⟨this.1, by simp [this.2]⟩
        · have := ih p (by simp [hp]) b hb; exact ⟨this.1, by simp [this.2]⟩

theorem mem_fieldsOf {s f : Bytes} (hf : f ∈ fieldsOf s) :
    f ≠ [] ∧ ∀ b ∈ f, isSpace b = false ∧ b ∈ s := by
  unfold fieldsOf at hf
  rw [List.mem_filter] at hf
  exact ⟨by simpa using hf.2, mem_splitBlank f hf.1⟩

theorem mem_fields {line f : Bytes} (hf : f ∈ fields line) :
    f ≠ [] ∧ ∀ b ∈ f, isSep b = false := by
  obtain ⟨h1, h2⟩ := mem_fieldsOf hf
  refine ⟨h1, fun b hb => ?_⟩
  obtain ⟨h3, h4⟩ := h2 b hb
  have := List.mem_takeWhile h4
  simp only [isSep, h3, Bool.false_or]
  simpa using this

theorem comment_cut (data : Bytes) : cutComment data = .ok (stripComment data) := by
  have ne : ∀ {l : Bytes}, hash ∉ l → ∀ x ∈ l, (x != hash) = true := by
    intro l hl x hx
    have : x ≠ hash := fun e => hl (e ▸ hx)
    simpa using this
  unfold cutComment stripComment
  rcases first_cases hash data with h | ⟨b, a, rfl, hb⟩
  · rw [indexByte_not_mem hash data h, List.takeWhile_eq_self (ne h)]
    rfl
  · rw [indexByte_append_sep hash b a hb, List.takeWhile_append_of_pos (ne hb), if_pos (by omega),
      GoM.sliceTo_append_len]
    simp

/-- `ValidateDomainName` as a total function (it never panics: `C03.validators_total`) -/
def vdn (toASCII : Bytes → Option Bytes) (f : Bytes) : Option Err :=
  match validateDomainName toASCII f with
  | .ok r => r
  | .error _ => none

theorem vdn_eq (toASCII : Bytes → Option Bytes) (f : Bytes) :
    validateDomainName toASCII f = .ok (vdn toASCII f) := by
  obtain ⟨r, hr⟩ := (C03.validators_total toASCII f).2.1
  simp [vdn, hr]

theorem vdn_none_iff (toASCII : Bytes → Option Bytes) (f : Bytes) :
    vdn toASCII f = none ↔ NameOK toASCII f := by
  unfold NameOK
  rw [← C03.validateDomainName_iff, vdn_eq]
  constructor
  · intro h; rw [h]
  · intro h; injection h

theorem vdn_some {toASCII : Bytes → Option Bytes} {f : Bytes} {e : Err} (h : vdn toASCII f = some e) :
    ∃ inner, e = .addr .domainName f (some inner) :=
  (C03.reject_is_addrError toASCII f e).2.1 (by rw [vdn_eq, h])

/-- the first pass over a field list, entered with name index `i` under the validator `v`: the
names it lets through and the error it stops with -/
def scan (v : Bytes → Option Err) : List Bytes → Nat → List Bytes × Option RecErr
  | [], _ => ([], none)
  | f :: fs, i =>
    match v f with
    | some e => ([], some (.name i e))
    | none => (f :: (scan v fs (i + 1)).1, (scan v fs (i + 1)).2)

theorem scan_append {v : Bytes → Option Err} {pre : List Bytes} (h : ∀ f ∈ pre, v f = none)
    (fs : List Bytes) (i : Nat) :
    scan v (pre ++ fs) i = (pre ++ (scan v fs (i + pre.length)).1, (scan v fs (i + pre.length)).2) := by
  induction pre generalizing i with
  | nil => rfl
  | cons f pre ih =>
    simp only [List.cons_append, scan, h f (by simp), ih (fun g hg => h g (by simp [hg])), List.length_cons]
    rw [show i + 1 + pre.length = i + (pre.length + 1) by omega]

theorem scan_all {v : Bytes → Option Err} {fs : List Bytes} (h : ∀ f ∈ fs, v f = none) (i : Nat) :
    scan v fs i = (fs, none) := by
  simpa [scan] using scan_append h [] i

theorem scan_none {v : Bytes → Option Err} {fs : List Bytes} {i : Nat} (h : (scan v fs i).2 = none) :
    (scan v fs i).1 = fs ∧ ∀ f ∈ fs, v f = none := by
  induction fs generalizing i with
  | nil => exact ⟨rfl, by simp⟩
  | cons f fs ih =>
    unfold scan at h ⊢
    cases hv : v f with
    | some e => simp [hv] at h
    | none =>
      simp only [hv] at h ⊢
      obtain ⟨h1, h2⟩ := ih h
      exact ⟨by rw [h1], by simpa [hv] using h2⟩

theorem cut_fields {t f t' : Bytes} (hl : NoLead t) (h : cutStringField t = .ok (f, t')) :
    NoLead t' ∧ fieldsOf t = if f = [] then [] else f :: fieldsOf t' := by
  cases (cutString_eq t).symm.trans h
  refine ⟨noLead_trimLeft _, ?_⟩
  by_cases hne : t = []
  · subst hne; rfl
  · rw [if_neg (takeWhile_ne_nil_of_noLead hl hne), fieldsOf_cut_noLead hl hne]

theorem validateLoop_eq (toASCII : Bytes → Option Bytes) (t : Bytes) (n : Nat) (seen : List Bytes)
    (hl : NoLead t) :
    validateLoop toASCII t n seen =
      .ok (n + (scan (vdn toASCII) (fieldsOf t) n).1.length, (scan (vdn toASCII) (fieldsOf t) n).2,
        seen ++ (scan (vdn toASCII) (fieldsOf t) n).1) := by
  induction t, n, seen using validateLoop.induct_unfolding toASCII with
  -- `case1`, `case3`: the panics that cannot happen
  | case1 t _ _ p h => rw [cutString_eq] at h; cases h
  | case3 _ _ _ f _ _ _ p hv => rw [vdn_eq] at hv; cases hv
  | case2 t n seen t' h => simp [(cut_fields hl h).2, scan, pure, Except.pure]
  | case4 t n seen f t' h hf e hv =>
    have hv := Except.ok.inj ((vdn_eq toASCII f).symm.trans hv)
    simp [(cut_fields hl h).2, hf, scan, hv, pure, Except.pure]
  | case5 t n seen f t' h hf hv ih =>
    have hv := Except.ok.inj ((vdn_eq toASCII f).symm.trans hv)
    rw [ih (cut_fields hl h).1]
    simp [(cut_fields hl h).2, hf, scan, hv, Nat.add_assoc, Nat.add_comm 1]

/-- The ghost output of the first pass is what the second pass returns, from any string (a
leading blank makes the first cut empty) and any state; what a cut or the validator returns
plays no part. -/
theorem two_pass (toASCII : Bytes → Option Bytes) (t : Bytes) (n : Nat) (seen : List Bytes) :
    ∀ n' err seen', validateLoop toASCII t n seen = .ok (n', err, seen') →
      ∃ g, seen' = seen ++ g ∧ n' = n + g.length ∧ fillNames g.length t = .ok g := by
  induction t, n, seen using validateLoop.induct_unfolding toASCII with
  | case1 | case3 => intro _ _ _ h; cases h
  | case2 | case4 => intro _ _ _ h; cases h; exact ⟨[], by simp, rfl, rfl⟩
  | case5 t n seen f t' hc _ _ ih =>
    intro _ _ _ h
    obtain ⟨g, rfl, rfl, hg⟩ := ih _ _ _ h
    exact ⟨f :: g, List.append_assoc .., by rw [List.length_cons]; omega,
      by simp [fillNames, hc, hg, bind, Except.bind, pure, Except.pure]⟩

/-- what `UnmarshalText` does, as a function of the field list of the line -/
def refUnmarshal (toASCII : Bytes → Option Bytes) (r : Record) : List Bytes → Record × Option RecErr
  | [] => (r, some .emptyLine)
  | f :: names =>
    if names = [] then (r, some .noHosts)
    else match parseAddr f with
      | none => ({ r with addr := .invalid }, some .addrParse)
      | some a => ({ r with addr := a, names := (scan (vdn toASCII) names 0).1 },
          (scan (vdn toASCII) names 0).2)

theorem unmarshalText_eq (toASCII : Bytes → Option Bytes) (r : Record) (line : Bytes) :
    unmarshalText toASCII r line = .ok (refUnmarshal toASCII r (fields line)) := by
  unfold unmarshalText
  simp only [bind, Except.bind, comment_cut, cut_eq]
  have hl := noLead_trim (stripComment line)
  have hf : fields line = fieldsOf (trim (stripComment line) spaces) := by
    rw [fieldsOf_trim]; rfl
  rw [hf]
  generalize trim (stripComment line) spaces = x at hl
  by_cases hx : x = []
  · subst hx; simp [fieldsOf_nil, refUnmarshal, pure, Except.pure]
  · have hw := takeWhile_ne_nil_of_noLead hl hx
    have hwl : (x.takeWhile nsp).length ≠ 0 := by
      intro h; exact hw (List.eq_nil_of_length_eq_zero h)
    rw [fieldsOf_cut_noLead hl hx]
    simp only [hwl, if_false]
    have hlt := noLead_trimLeft (x.dropWhile nsp)
    generalize trimLeft (x.dropWhile nsp) spaces = tail at hlt
    by_cases ht : tail = []
    · subst ht; simp [fieldsOf_nil, refUnmarshal, pure, Except.pure]
    · have htl : tail.length ≠ 0 := by
        intro h; exact ht (List.eq_nil_of_length_eq_zero h)
      have hfs : fieldsOf tail ≠ [] := by rw [fieldsOf_cut_noLead hlt ht]; simp
      simp only [htl, if_false, refUnmarshal, hfs, addrUnmarshalText, hwl]
      cases hp : parseAddr (x.takeWhile nsp) with
      | none => simp [pure, Except.pure]
      | some a =>
        have hv := validateLoop_eq toASCII tail 0 [] hlt
        obtain ⟨g, hg, -, hfill⟩ := two_pass toASCII tail 0 [] _ _ _ hv
        rw [List.nil_append] at hg
        subst hg
        simp only [Bool.false_eq_true, if_false, hv, Nat.zero_add, List.nil_append, hfill, pure, Except.pure]

/-! #### `refUnmarshal` on each shape of field list the theorems speak of -/

theorem ref_addr (toASCII : Bytes → Option Bytes) (r : Record) {f : Bytes} (n1 : Bytes) (rest : List Bytes)
    (hp : parseAddr f = none) :
    refUnmarshal toASCII r (f :: n1 :: rest) = ({ r with addr := .invalid }, some .addrParse) := by
  simp [refUnmarshal, hp]

theorem ref_ok {toASCII : Bytes → Option Bytes} (r : Record) {f : Bytes} {a : Addr} {names : List Bytes}
    (hne : names ≠ []) (hp : parseAddr f = some a) (hv : ∀ n ∈ names, NameOK toASCII n) :
    refUnmarshal toASCII r (f :: names) = ({ r with addr := a, names := names }, none) := by
  simp only [refUnmarshal, hne, if_false, hp,
    scan_all (fun n hn => (vdn_none_iff toASCII n).2 (hv n hn))]

theorem ref_bad {toASCII : Bytes → Option Bytes} (r : Record) {f : Bytes} {a : Addr} {pre : List Bytes}
    {bad : Bytes} (post : List Bytes) (hp : parseAddr f = some a) (hpre : ∀ n ∈ pre, NameOK toASCII n)
    (hbad : ¬ NameOK toASCII bad) :
    ∃ inner, refUnmarshal toASCII r (f :: (pre ++ bad :: post)) =
      ({ r with addr := a, names := pre },
        some (.name pre.length (.addr .domainName bad (some inner)))) := by
  cases hv : vdn toASCII bad with
  | none => exact absurd ((vdn_none_iff toASCII bad).1 hv) hbad
  | some e =>
    obtain ⟨inner, rfl⟩ := vdn_some hv
    exact ⟨inner, by
      simp [refUnmarshal, hp, scan_append (fun n hn => (vdn_none_iff toASCII n).2 (hpre n hn)), scan, hv]⟩

theorem ref_inv {toASCII : Bytes → Option Bytes} {r r' : Record} {fs : List Bytes}
    (h : refUnmarshal toASCII r fs = (r', none)) :
    ∃ f, fs = f :: r'.names ∧ r'.names ≠ [] ∧ parseAddr f = some r'.addr ∧
      (∀ n ∈ r'.names, NameOK toASCII n) ∧ r'.source = r.source := by
  match fs, h with
  | [], h => simp [refUnmarshal] at h
  | f :: names, h =>
    by_cases hne : names = []
    · simp [refUnmarshal, hne] at h
    · cases hp : parseAddr f with
      | none => simp [refUnmarshal, hne, hp] at h
      | some a =>
        simp only [refUnmarshal, hne, if_false, hp, Prod.mk.injEq] at h
        obtain ⟨rfl, h2⟩ := h
        obtain ⟨h1, hall⟩ := scan_none h2
        exact ⟨f, by rw [h1], by rwa [h1], hp, fun n hn => (vdn_none_iff toASCII n).1 (hall n (h1 ▸ hn)), rfl⟩


theorem marshalText_eq (formatAddr : Addr → Bytes) (r : Record) :
    marshalText formatAddr r = formatAddr r.addr ++ r.names.flatMap (fun n => 32 :: n) := by
  unfold marshalText
  generalize formatAddr r.addr = w
  induction r.names generalizing w with
  | nil => simp
  | cons n ns ih =>
    rw [List.foldl_cons, ih]
    simp only [List.flatMap_cons, List.append_assoc, List.cons_append, List.nil_append]

theorem fieldsOf_join (w : Bytes) (names : List Bytes)
    (hw : w ≠ [] ∧ ∀ b ∈ w, isSep b = false)
    (hn : ∀ n ∈ names, n ≠ [] ∧ ∀ b ∈ n, isSep b = false) :
    fieldsOf (w ++ names.flatMap (fun n => 32 :: n)) = w :: names := by
  have sp_of_sep : ∀ {x : Bytes}, (∀ b ∈ x, isSep b = false) → ∀ b ∈ x, isSpace b = false := by
    intro x hx b hb
    have := hx b hb
    simp only [isSep, Bool.or_eq_false_iff] at this
    exact this.1
  induction names generalizing w with
  | nil => simp [fieldsOf_word (sp_of_sep hw.2), hw.1]
  | cons n ns ih =>
    simp only [List.flatMap_cons, List.cons_append]
    rw [fieldsOf_append_space (by decide), fieldsOf_word (sp_of_sep hw.2), if_neg hw.1,
      ih n (hn n (by simp)) (fun m hm => hn m (by simp [hm]))]
    rfl

/-- the fields of what `MarshalText` writes -/
theorem fields_join (w : Bytes) (names : List Bytes)
    (hw : w ≠ [] ∧ ∀ b ∈ w, isSep b = false)
    (hn : ∀ n ∈ names, n ≠ [] ∧ ∀ b ∈ n, isSep b = false) :
    fields (w ++ names.flatMap (fun n => 32 :: n)) = w :: names := by
  have ne_hash : ∀ {b : Nat}, isSep b = false → (b != hash) = true := by
    intro b h
    simp only [isSep, Bool.or_eq_false_iff] at h
    simpa using h.2
  rw [fields, stripComment, List.takeWhile_eq_self, fieldsOf_join w names hw hn]
  simp only [List.mem_append, List.mem_flatMap, List.mem_cons]
  rintro b (hb | ⟨n, hm, rfl | hb⟩)
  · exact ne_hash (hw.2 b hb)
  · decide
  · exact ne_hash ((hn n hm).2 b hb)

theorem stripComment_append_hash (pre c : Bytes) :
    stripComment (pre ++ hash :: c) = stripComment pre := by
  unfold stripComment
  induction pre with
  | nil => simp [hash]
  | cons b t ih =>
    simp only [List.cons_append, List.takeWhile_cons]
    split
    · rw [ih]
    · rfl

end GolibsVerif.C07
