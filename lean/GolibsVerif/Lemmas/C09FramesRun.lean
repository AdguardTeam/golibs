/-
C09 — the nested interpreter (`runOp` / `runOps` / `evictLoop` of `Model/C09.lean`, the one the
differential tie drives), started in a state with the cache invariant, returns, and produces
framed executions: a `Set` is a `call` label, then the sections of its frame in the order of
the code, and what a callback does runs — as frames of its own — between the `onDelete` label
of the calling frame and that frame's next section.
-/
import GolibsVerif.Lemmas.C09Frames

namespace GolibsVerif.C09

def AllDone (l : List Frame) : Prop := ∀ f ∈ l, f.phase = .done

theorem AllDone.append {a b : List Frame} (ha : AllDone a) (hb : AllDone b) : AllDone (a ++ b) :=
  fun f hf => (List.mem_append.1 hf).elim (ha f) (hb f)

/-- a run fragment from `σ` is a framed execution that ends with cache `s'`, projects to
`log`, leaves the frames that existed alone and has finished every frame it created -/
def RunF (c : Conf) (σ : FSt) (s' : St) (log : List Rec) : Prop :=
  ∃ flog extra, FTrace c σ flog ⟨s', σ.frames ++ extra⟩ ∧ projLog flog = log ∧ AllDone extra

/-- the eviction loop of the frame `⟨k, v, _⟩` standing between `F` and `E`: a framed
execution after which that frame is at the loop head again, its `Set` fits, the frames
around it are as they were, and every frame created on the way has finished -/
def LoopF (c : Conf) (σ : FSt) (F E : List Frame) (k v : Bytes) (s' : St) (log : List Rec) : Prop :=
  ∃ flog ph' extra, FTrace c σ flog ⟨s', F ++ ⟨k, v, ph'⟩ :: (E ++ extra)⟩ ∧ projLog flog = log ∧
    AllDone extra ∧ (⟨k, v, ph'⟩ : Frame).atLoopHead c s' ∧ full c s' (k.length + v.length) = false

/-- the fragment returns, the cache invariant holds again, `OnDelete` is called exactly as
required, and what ran is a framed execution -/
def RunsOK (c : Conf) (σ : FSt) (res : GoM (St × List Rec)) : Prop :=
  ∃ s' log, res = .ok (s', log) ∧ Inv c s' ∧ cbOK c.hasCb (evsOf log) = true ∧ RunF c σ s' log

def LoopsOK (c : Conf) (σ : FSt) (F E : List Frame) (k v : Bytes) (res : GoM (St × List Rec)) :
    Prop :=
  ∃ s' log, res = .ok (s', log) ∧ Inv c s' ∧ cbOK c.hasCb (evsOf log) = true ∧
    LoopF c σ F E k v s' log

theorem move_at (s s' : St) (F E : List Frame) (f : Frame) (p : Phase) :
    (⟨s, F ++ f :: E⟩ : FSt).move F.length f p s' = ⟨s', F ++ { f with phase := p } :: E⟩ :=
  congrArg (FSt.mk s') (List.set_append_cons_length _ _ _ _)

/-- one iteration of the loop, as framed steps: the eviction, and the callback label if a
callback is configured -/
theorem iter_framed {c : Conf} {s : St} (F E : List Frame) {k v : Bytes} {ph : Phase} {s1 : St}
    {e : Entry} (hh : (⟨k, v, ph⟩ : Frame).atLoopHead c s)
    (hfull : full c s (k.length + v.length) = true) (he : evictOne s = .ok (s1, e)) :
    ∃ flog, FTrace c ⟨s, F ++ ⟨k, v, ph⟩ :: E⟩ flog ⟨s1, F ++ ⟨k, v, .loop⟩ :: E⟩ ∧
      projLog flog = evictEvents c e s1 := by
  have step1 := FStep.evict ⟨s, F ++ ⟨k, v, ph⟩ :: E⟩ F.length ⟨k, v, ph⟩ s1 e
    (List.getElem?_append_cons_length _ _ _) hh hfull he
  rw [move_at] at step1
  cases hcb : c.hasCb with
  | false =>
    simp only [hcb, Bool.false_eq_true, if_false] at step1
    exact ⟨_, ftrace_single step1, by simp [projLog, FRec.proj, evictEvents, hcb]⟩
  | true =>
    simp only [hcb, if_true] at step1
    have step2 := FStep.onDelete (c := c) ⟨s1, F ++ ⟨k, v, .cb e.key e.val⟩ :: E⟩ F.length _ e.key e.val
      (List.getElem?_append_cons_length _ _ _) rfl
    rw [move_at] at step2
    exact ⟨_, FTrace.cons step1 (ftrace_single step2), by simp [projLog, FRec.proj, evictEvents, hcb]⟩

theorem loopF_stop {c : Conf} {s : St} (F E : List Frame) {k v : Bytes} {ph : Phase}
    (hh : (⟨k, v, ph⟩ : Frame).atLoopHead c s) (hfull : full c s (k.length + v.length) = false) :
    LoopF c ⟨s, F ++ ⟨k, v, ph⟩ :: E⟩ F E k v s [] :=
  ⟨[], ph, [], by rw [List.append_nil]; exact FTrace.nil _, rfl, by simp [AllDone], hh, hfull⟩

/-- prepend an iteration (and what its callback did) to the rest of the loop -/
theorem loopF_step {c : Conf} {σ σc : FSt} {F E extra1 : List Frame} {k v : Bytes}
    {l1 : List FRec} {s' : St} {log3 : List Rec} (h1 : FTrace c σ l1 σc) (hd1 : AllDone extra1)
    (h3 : LoopF c σc F (E ++ extra1) k v s' log3) : LoopF c σ F E k v s' (projLog l1 ++ log3) := by
  obtain ⟨flog, ph', extra, ht, hp, hd, hh, hfull⟩ := h3
  exact ⟨l1 ++ flog, ph', extra1 ++ extra, by simpa using ftrace_append h1 ht,
    by simp [projLog_append, hp], hd1.append hd, hh, hfull⟩

theorem evictQuiet_ok {c : Conf} (ok : ConfOk c) (F E : List Frame) {k v : Bytes}
    (hadd : k.length + v.length ≤ c.maxElem) :
    ∀ (n : Nat) (s : St) (ph : Phase), (⟨k, v, ph⟩ : Frame).atLoopHead c s → Inv c s →
      s.lru.length ≤ n → (c.lru = true ∨ full c s (k.length + v.length) = false) →
      LoopsOK c ⟨s, F ++ ⟨k, v, ph⟩ :: E⟩ F E k v (evictQuiet c (k.length + v.length) n s) := by
  intro n
  induction n with
  | zero =>
    intro s ph hh h hlen hor
    cases hfull : full c s (k.length + v.length) with
    | false => exact ⟨_, [], by simp [evictQuiet, hfull], h, rfl, loopF_stop F E hh hfull⟩
    | true =>
      exact absurd (List.length_eq_zero_iff.1 (Nat.le_zero.1 hlen)) (evict_nonempty ok h hadd hfull)
  | succ n ih =>
    intro s ph hh h hlen hor
    cases hfull : full c s (k.length + v.length) with
    | false => exact ⟨_, [], by simp [evictQuiet, hfull], h, rfl, loopF_stop F E hh hfull⟩
    | true =>
      have hl := lru_of_full hor hfull
      obtain ⟨s1, e, he, h1, hlen1⟩ := evictStep ok hadd h hl hfull
      obtain ⟨fl1, ht1, hp1⟩ := iter_framed F E hh hfull he
      obtain ⟨s2, l2, hr, h2, hcb, hF⟩ := ih s1 .loop (Or.inr rfl) h1 (by omega) (Or.inl hl)
      refine ⟨s2, evictEvents c e s1 ++ l2, by simp [evictQuiet, hfull, he, hr], h2, ?_,
        hp1 ▸ loopF_step ht1 (extra1 := []) (by simp [AllDone]) (by simpa using hF)⟩
      rw [evsOf_append]
      exact cbOK_append _ _ _ (cbOK_evictEvents c e s1) hcb

theorem RunF.nil (c : Conf) (σ : FSt) : RunF c σ σ.cache [] :=
  ⟨[], [], by rw [List.append_nil]; exact FTrace.nil σ, rfl, by simp [AllDone]⟩

theorem runF_atomic {c : Conf} {s s' : St} {F : List Frame} {ev : Ev}
    (hs : FStep c ⟨s, F⟩ (.sec none ev) ⟨s', F⟩) : RunF c ⟨s, F⟩ s' [⟨ev, s'⟩] :=
  ⟨_, [], by rw [List.append_nil]; exact ftrace_single hs, by simp [projLog, FRec.proj],
    by simp [AllDone]⟩

/-- a refused `Set`: the call, then the refusing section -/
theorem runF_refuse {c : Conf} {s : St} (F : List Frame) {k v : Bytes}
    (hc : setCheck c s k v ≠ .proceed) : RunF c ⟨s, F⟩ s [⟨.refused k v, s⟩] := by
  have step2 := FStep.refuse (c := c) ⟨s, F ++ [⟨k, v, .start⟩]⟩ F.length ⟨k, v, .start⟩
    (List.getElem?_append_cons_length _ _ _) rfl hc
  rw [move_at] at step2
  exact ⟨_, [⟨k, v, .done⟩], FTrace.cons (FStep.call ⟨s, F⟩ k v) (ftrace_single step2),
    by simp [projLog, List.filterMap_cons, FRec.proj], by simp [AllDone]⟩

theorem runF_append {c : Conf} {σ : FSt} {s1 : St} {fl1 : List FRec} {e1 : List Frame} {s2 : St}
    {l2 : List Rec} (ht1 : FTrace c σ fl1 ⟨s1, σ.frames ++ e1⟩) (hd1 : AllDone e1)
    (h2 : RunF c ⟨s1, σ.frames ++ e1⟩ s2 l2) : RunF c σ s2 (projLog fl1 ++ l2) := by
  obtain ⟨fl2, e2, ht2, hp2, hd2⟩ := h2
  exact ⟨fl1 ++ fl2, e1 ++ e2, by simpa using ftrace_append ht1 ht2, by simp [projLog_append, hp2],
    hd1.append hd2⟩

/-- the three claims of `run_framed`, which is an induction along the mutual recursion of the
interpreter: about one call, about the eviction loop of the frame `⟨k, v, ph⟩` standing
between `F` and `E`, and about a list of calls -/
def OpOK (c : Conf) (op : Op) (s : St) : Prop :=
  ∀ F : List Frame, Inv c s → RunsOK c ⟨s, F⟩ (runOp c op s)

def LoopOK (c : Conf) (add : Nat) (cbs : List (List Op)) (s : St) : Prop :=
  ∀ (F E : List Frame) (k v : Bytes) (ph : Phase), k.length + v.length = add →
    (⟨k, v, ph⟩ : Frame).atLoopHead c s → Inv c s → add ≤ c.maxElem →
    (c.lru = true ∨ full c s add = false) →
    LoopsOK c ⟨s, F ++ ⟨k, v, ph⟩ :: E⟩ F E k v (evictLoop c add cbs s)

def OpsOK (c : Conf) (ops : List Op) (s : St) : Prop :=
  ∀ F : List Frame, Inv c s → RunsOK c ⟨s, F⟩ (runOps c ops s)

theorem run_framed (c : Conf) (ok : ConfOk c) :
    (∀ op s, OpOK c op s) ∧ (∀ add cbs s, LoopOK c add cbs s) ∧ (∀ ops s, OpsOK c ops s) := by
  apply runOp.mutual_induct c (motive_1 := OpOK c) (motive_2 := LoopOK c) (motive_3 := OpsOK c)
  · -- Set: too large
    intro k v cbs s hchk F h
    exact ⟨_, _, by simp [runOp, hchk], h, rfl, runF_refuse F (k := k) (v := v) (by simp [hchk])⟩
  · intro k v cbs s hchk F h
    exact ⟨_, _, by simp [runOp, hchk], h, rfl, runF_refuse F (k := k) (v := v) (by simp [hchk])⟩
  · -- Set: the call, the loop, the storing section
    intro k v cbs s hchk ih F h
    obtain ⟨hadd, hor⟩ := setCheck_proceed hchk
    obtain ⟨s1, l1, hr, h1, hcb, fl, ph', extra, ht, hp, hd, hh, hfull⟩ :=
      ih F [] k v .start rfl (Or.inl ⟨rfl, hchk⟩) h hadd hor
    obtain ⟨s2, r, hc⟩ := setCommit_total h1 k v
    replace ht : FTrace c _ fl ⟨s1, F ++ ⟨k, v, ph'⟩ :: extra⟩ := ht
    have step3 := FStep.commit ⟨s1, F ++ ⟨k, v, ph'⟩ :: extra⟩ F.length ⟨k, v, ph'⟩ s2 r
      (List.getElem?_append_cons_length _ _ _) hh hfull hc
    rw [move_at] at step3
    refine ⟨s2, l1 ++ [⟨.commit k v r, s2⟩], by simp [runOp, hchk, hr, hc],
      setCommit_inv h1 hfull hc, ?_, (⟨_, _⟩ :: fl) ++ [⟨_, _⟩], ⟨k, v, .done⟩ :: extra,
      ftrace_append (FTrace.cons (FStep.call ⟨s, F⟩ k v) ht) (ftrace_single step3), ?_, ?_⟩
    · rw [evsOf_append]
      exact cbOK_append _ _ _ hcb rfl
    · simpa [projLog, List.filterMap_cons, FRec.proj] using hp
    · intro f hf
      rcases List.mem_cons.1 hf with rfl | hf
      · rfl
      · exact hd f hf
  · -- Get
    intro k s F h
    obtain ⟨s', r, hg⟩ := get_total h k
    exact ⟨s', [⟨.get k r, s'⟩], by simp [runOp, hg], get_inv h hg, rfl,
      runF_atomic (FStep.get ⟨s, F⟩ s' k r hg)⟩
  · -- Del
    intro k s F h
    have hd := del_char h k
    exact ⟨_, _, by simp [runOp, hd], h.erase k, rfl, runF_atomic (FStep.del ⟨s, F⟩ _ k hd)⟩
  · -- Clear
    intro s F h
    exact ⟨clear s, [⟨.clear, clear s⟩], by simp [runOp], Inv.init c, rfl,
      runF_atomic (FStep.clear ⟨s, F⟩)⟩
  · -- Stats
    intro s F h
    exact ⟨_, _, by simp [runOp], h, rfl, runF_atomic (FStep.stats ⟨s, F⟩)⟩
  · -- loop, callback script exhausted
    intro add s F E k v ph hadd hh h hle hor
    subst hadd
    simpa [evictLoop] using evictQuiet_ok ok F E hle s.lru.length s ph hh h (Nat.le_refl _) hor
  · -- loop, one more iteration with a callback script
    intro add ops rest s hfull ihrest ihops F E k v ph hadd hh h hle hor
    subst hadd
    have hl := lru_of_full hor hfull
    obtain ⟨s1, e, he, h1, _⟩ := evictStep ok hle h hl hfull
    obtain ⟨fl1, ht1, hp1⟩ := iter_framed F E hh hfull he
    have hcbrun : RunsOK c ⟨s1, F ++ ⟨k, v, .loop⟩ :: E⟩
        (if c.hasCb then runOps c ops s1 else pure (s1, [])) := by
      cases hcb : c.hasCb with
      | true => exact ihops s1 _ h1
      | false => exact ⟨_, [], rfl, h1, rfl, RunF.nil c _⟩
    obtain ⟨s2, l2, hr2, h2, hcb2, fl2, extra1, ht2, hp2, hd1⟩ := hcbrun
    obtain ⟨s3, l3, hr3, h3, hcb3, hF⟩ :=
      ihrest s2 F (E ++ extra1) k v .loop rfl (Or.inr rfl) h2 hle (Or.inl hl)
    refine ⟨s3, evictEvents c e s1 ++ l2 ++ l3, ?_, h3, ?_, ?_⟩
    · cases hcb : c.hasCb <;> simp [hcb] at hr2 <;> simp [evictLoop, hfull, he, hcb, hr2, hr3]
    · simp only [evsOf_append]
      exact cbOK_append _ _ _ (cbOK_append _ _ _ (cbOK_evictEvents c e s1) hcb2) hcb3
    · have := loopF_step (ftrace_append ht1 ht2) hd1 (by simpa using hF)
      simpa [projLog_append, hp1, hp2] using this
  · -- loop, the `Set` fits
    intro add ops rest s hfull F E k v ph hadd hh h hle hor
    subst hadd
    have hf' : full c s (k.length + v.length) = false := by simpa using hfull
    exact ⟨_, [], by simp [evictLoop, hf'], h, rfl, loopF_stop F E hh hf'⟩
  · -- no more calls
    intro s F h
    exact ⟨_, [], by simp [runOps], h, rfl, RunF.nil c _⟩
  · -- a call, then the rest
    intro op rest s ihop ihrest F h
    obtain ⟨s1, l1, hr1, h1, hcb1, fl1, e1, ht1, hp1, hd1⟩ := ihop F h
    subst hp1
    obtain ⟨s2, l2, hr2, h2, hcb2, hF2⟩ := ihrest s1 (F ++ e1) h1
    refine ⟨s2, projLog fl1 ++ l2, by simp [runOps, hr1, hr2], h2, ?_, runF_append ht1 hd1 hF2⟩
    rw [evsOf_append]
    exact cbOK_append _ _ _ hcb1 hcb2

theorem RunF.trace {c : Conf} {s s' : St} {log : List Rec} (h : RunF c ⟨s, []⟩ s' log) :
    Trace c s log s' := by
  obtain ⟨flog, _, ht, hp, _⟩ := h
  exact hp ▸ (ftrace_proj ht (fun i f hf => by simp at hf)).2

theorem script_ok (r : RawConf) (ops : List Op) :
    RunsOK (newConf r) FSt.init (runScript r ops) :=
  (run_framed (newConf r) (newConf_ok r)).2.2 ops St.init [] (Inv.init _)

end GolibsVerif.C09
