/-
`net/netip` parser model, what it accepts: every address returned by `parseAddr` is
well-formed (`WF`: four resp. sixteen bytes below 256, never the zero `Addr`), the accepted
text consists of hex digits, `'.'`, `':'` and at most one `'%'` followed by the zone, and the
zone of the result is that piece of the text.
-/
import GolibsVerif.Lemmas.NetipFmtRT

namespace GolibsVerif.Netip
open GolibsVerif GolibsVerif.Str GolibsVerif.C04 GolibsVerif.Netutil

/-- `v6Step` returns `.inl none` for an error, `.inl (some st')` when the loop ends with success
and `.inr st'` when it goes on; `Sum.elim id some` merges the two outcomes that have a next
state. -/
theorem v6Step_next {st st' : V6State} (h : Sum.elim id some (v6Step st) = some st') :
    (∃ f, parseIPv4Fields st.s = some f ∧ st.ip.length + 4 ≤ 16 ∧ st'.s = [] ∧ st'.ip = st.ip ++ f) ∨
    (∃ d sep, d.length ≤ 4 ∧ (∀ c ∈ d, (hexVal c).isSome = true) ∧ (∀ c ∈ sep, c = 58) ∧
      st.s = d ++ sep ++ st'.s ∧ st'.ip = st.ip ++ [C02.accOf d / 256, C02.accOf d % 256]) := by
  obtain ⟨s, ip, el⟩ := st
  rcases C02.field_cases s with hbad | ⟨d, r, rfl, hf⟩
  · have : v6Step ⟨s, ip, el⟩ = .inl none := by
      unfold v6Step
      rcases hbad with h | h
      · simp [h]
      · simp only [h, if_true]
    rw [this] at h; cases h
  · rw [C02.v6Step_sep hf] at h
    have hinv := C02.sepOf_inv r
    have field : ∀ sep, (∀ c ∈ sep, c = 58) → r = sep ++ st'.s →
        st'.ip = ip ++ [C02.accOf d / 256, C02.accOf d % 256] →
        ∃ d' sep, d'.length ≤ 4 ∧ (∀ c ∈ d', (hexVal c).isSome = true) ∧ (∀ c ∈ sep, c = 58) ∧
          d ++ r = d' ++ sep ++ st'.s ∧ st'.ip = ip ++ [C02.accOf d' / 256, C02.accOf d' % 256] :=
      fun sep h1 h2 h3 => ⟨d, sep, hf.le4, hf.hex, h1, by rw [h2, List.append_assoc], h3⟩
    cases hs : C02.sepOf r with
    | eos =>
      rw [hs] at h hinv
      cases h; exact Or.inr (field [] (by simp) hinv rfl)
    | dot =>
      rw [hs] at h
      dsimp only at h
      by_cases h1 : el.isNone = true ∧ ip.length ≠ 12
      · rw [if_pos h1] at h; cases h
      · rw [if_neg h1] at h
        by_cases h2 : ip.length + 4 > 16
        · rw [if_pos h2] at h; cases h
        · rw [if_neg h2] at h
          cases hp : parseIPv4Fields (d ++ r) with
          | none => rw [hp] at h; cases h
          | some f => rw [hp] at h; cases h; exact Or.inl ⟨f, rfl, Nat.le_of_not_gt h2, rfl, rfl⟩
    | one t =>
      rw [hs] at h hinv
      cases h; exact Or.inr (field [58] (by simp) hinv.1 rfl)
    | two t =>
      rw [hs] at h hinv
      dsimp only at h
      by_cases he : el.isSome = true
      · rw [if_pos he] at h; cases h
      · rw [if_neg he] at h
        by_cases ht : t = []
        · rw [if_pos ht] at h; cases h
          exact Or.inr (field [58, 58] (by simp) (by rw [hinv, ht]; rfl) rfl)
        · rw [if_neg ht] at h; cases h
          exact Or.inr (field [58, 58] (by simp) hinv rfl)
    | bad => rw [hs] at h; cases h

def Addr.zone : Addr → Bytes
  | .v6 _ z => z
  | _ => []

/-- bytes that can occur outside the zone -/
def okByte (c : Nat) : Prop := (hexVal c).isSome = true ∨ c = 46 ∨ c = 58

theorem okByte_of_digit {c : Nat} (h : isDigit c = true) : okByte c :=
  Or.inl (digit_hex ((C02.isDigit_iff c).1 h))

theorem hexVal_getD_le (c : Nat) : (hexVal c).getD 0 ≤ 15 := by
  unfold hexVal
  split
  · simp; omega
  · split
    · simp; omega
    · split
      · simp; omega
      · simp

theorem foldl_hex_lt (d : Bytes) : ∀ a,
    d.foldl (fun a c => a * 16 + (hexVal c).getD 0) a < (a + 1) * 16 ^ d.length := by
  induction d with
  | nil => intro a; simp
  | cons c d ih =>
    intro a
    have := hexVal_getD_le c
    calc _ < (a * 16 + (hexVal c).getD 0 + 1) * 16 ^ d.length := ih _
      _ ≤ ((a + 1) * 16) * 16 ^ d.length := Nat.mul_le_mul_right _ (by omega)
      _ = (a + 1) * 16 ^ (d.length + 1) := by rw [Nat.pow_succ', Nat.mul_assoc]

theorem accOf_lt (d : Bytes) (h : d.length ≤ 4) : C02.accOf d < 65536 :=
  calc C02.accOf d < (0 + 1) * 16 ^ d.length := foldl_hex_lt d 0
    _ ≤ 16 ^ 4 := by rw [Nat.zero_add, Nat.one_mul]; exact Nat.pow_le_pow_right (by omega) h

/-- invariant of the IPv6 loop on the bytes written so far -/
def IpOK (ip : List Nat) : Prop := ip.length % 2 = 0 ∧ ip.length ≤ 16 ∧ ∀ x ∈ ip, x < 256

theorem ipOK_push (ip : List Nat) (acc : Nat) (h : IpOK ip) (hlt : ip.length < 16) (ha : acc < 65536) :
    IpOK (ip ++ [acc / 256, acc % 256]) := by
  obtain ⟨h1, h2, h3⟩ := h
  refine ⟨by simp; omega, by simp; omega, ?_⟩
  intro x hx
  simp only [List.mem_append, List.mem_cons, List.not_mem_nil, or_false] at hx
  rcases hx with hx | rfl | rfl
  · exact h3 x hx
  · omega
  · omega

theorem v6Step_inv {st st' : V6State} (h : Sum.elim id some (v6Step st) = some st') (hP : IpOK st.ip)
    (hlt : st.ip.length < 16) : IpOK st'.ip ∧ ∃ pre, st.s = pre ++ st'.s ∧ ∀ c ∈ pre, okByte c := by
  rcases v6Step_next h with ⟨f, hf, hlen, hs, hip⟩ | ⟨d, sep, hd4, hd, hsep, hs, hip⟩
  · obtain ⟨g1, g2, _⟩ := fields_canon _ _ hf
    obtain ⟨h1, h2, h3⟩ := hP
    rw [hip, hs]
    refine ⟨⟨by simp [g1]; omega, by simp [g1]; omega, ?_⟩, st.s, by simp, ?_⟩
    · intro x hx
      rcases List.mem_append.1 hx with hx | hx
      · exact h3 x hx
      · exact g2 x hx
    · intro c hc
      rcases C02.parseIPv4Fields_chars st.s (by rw [hf]; rfl) c hc with h | h
      · exact okByte_of_digit h
      · exact Or.inr (Or.inl h)
  · rw [hip]
    refine ⟨ipOK_push _ _ hP hlt (accOf_lt d hd4), d ++ sep, hs, ?_⟩
    intro c hc
    rcases List.mem_append.1 hc with hc | hc
    · exact Or.inl (hd c hc)
    · exact Or.inr (Or.inr (hsep c hc))

theorem v6Loop_inv : ∀ (fuel : Nat) (st st' : V6State), v6Loop fuel st = some st' → IpOK st.ip →
    IpOK st'.ip ∧ ∃ pre, st.s = pre ++ st'.s ∧ ∀ c ∈ pre, okByte c := by
  intro fuel
  induction fuel with
  | zero => intro st st' h hP; cases h; exact ⟨hP, [], rfl, by simp⟩
  | succ fuel ih =>
    intro st st' h hP
    by_cases hlt : st.ip.length < 16
    · rw [v6Loop_succ _ _ hlt] at h
      cases hr : v6Step st with
      | inl r =>
        rw [hr] at h; subst h
        exact v6Step_inv (by rw [hr]; rfl) hP hlt
      | inr st2 =>
        rw [hr] at h
        obtain ⟨hP2, pre, hs, hpre⟩ := v6Step_inv (st' := st2) (by rw [hr]; rfl) hP hlt
        obtain ⟨hP', pre', hs', hpre'⟩ := ih st2 st' h hP2
        refine ⟨hP', pre ++ pre', by rw [hs, hs', List.append_assoc], ?_⟩
        intro c hc
        rcases List.mem_append.1 hc with hc | hc
        · exact hpre c hc
        · exact hpre' c hc
    · rw [v6Loop, if_neg hlt] at h
      cases h; exact ⟨hP, [], rfl, by simp⟩

theorem finish6_ok {fuel : Nat} {t : Bytes} {el : Option Nat} {st : V6State} {zone : Bytes} {a : Addr}
    (hv : v6Loop fuel ⟨t, [], el⟩ = some st) (h : finish6 zone st = some a) :
    WF a ∧ a.zone = zone ∧ ∀ c ∈ t, okByte c := by
  obtain ⟨⟨_, h2, h3⟩, pre, hs, hpre⟩ := v6Loop_inv fuel _ st hv ⟨rfl, by simp, by simp⟩
  unfold finish6 at h
  split at h
  · cases h
  · next hs0 =>
    have hs0 : st.s = [] := by simpa using hs0
    rw [hs0, List.append_nil] at hs
    simp only at hs
    subst hs
    refine (fun hw : WF a ∧ a.zone = zone => ⟨hw.1, hw.2, hpre⟩) ?_
    split at h
    · split at h
      · cases h
      · next e _ =>
        cases h
        refine ⟨⟨?_, ?_⟩, rfl⟩
        · simp only [List.length_append, List.length_take, List.length_replicate, List.length_drop]
          omega
        · intro x hx
          simp only [List.mem_append, List.mem_replicate] at hx
          rcases hx with (hx | ⟨_, rfl⟩) | hx
          · exact h3 x (List.mem_of_mem_take hx)
          · omega
          · exact h3 x (List.mem_of_mem_drop hx)
    · split at h
      · cases h
      · cases h; exact ⟨⟨by omega, h3⟩, rfl⟩

theorem parseIPv6Split_ok {s zone : Bytes} {a : Addr} (h : C02.parseIPv6Split (some (s, zone)) = some a) :
    WF a ∧ a.zone = zone ∧ ∀ c ∈ s, okByte c := by
  have colon : okByte 58 := Or.inr (Or.inr rfl)
  by_cases hl : ∃ t, s = 58 :: 58 :: t
  · obtain ⟨t, rfl⟩ := hl
    rw [split_lead] at h
    obtain ⟨st, hv, hfin⟩ := Option.bind_eq_some_iff.1 h
    obtain ⟨fuel, hfuel⟩ := afterEll_eq_loop 9 t [] 0
    obtain ⟨h1, h2, h3⟩ := finish6_ok (hfuel ▸ hv) hfin
    exact ⟨h1, h2, by simpa [colon] using h3⟩
  · rw [split_nolead s zone (fun t e => hl ⟨t, e⟩)] at h
    obtain ⟨st, hv, hfin⟩ := Option.bind_eq_some_iff.1 h
    exact finish6_ok hv hfin

theorem parseIPv6_ok {input : Bytes} {a : Addr} (h : parseIPv6 input = some a) :
    WF a ∧ ∃ s, (∀ c ∈ s, okByte c) ∧ ((input = s ∧ a.zone = []) ∨ input = s ++ 37 :: a.zone) := by
  rcases first_cases 37 input with h37 | ⟨core, z, rfl, hcore⟩
  · rw [C02.parseIPv6_nozone_eq _ h37] at h
    obtain ⟨h1, h2, h3⟩ := parseIPv6Split_ok h
    exact ⟨h1, input, h3, Or.inl ⟨rfl, h2⟩⟩
  · rw [C02.parseIPv6_zone_eq _ _ hcore] at h
    split at h
    · cases h
    · obtain ⟨h1, h2, h3⟩ := parseIPv6Split_ok h
      exact ⟨h1, core, h3, Or.inr (by rw [h2])⟩

/-- **What `ParseAddr` accepts.**  If `ParseAddr s = a` then `a` is well-formed, every byte of
`s` that is not a hex digit, `'.'`, `':'` or `'%'` belongs to the zone of `a`, and the zone of
`a` is made of bytes of `s`. -/
theorem parseAddr_ok {s : Bytes} {a : Addr} (h : parseAddr s = some a) :
    WF a ∧ (∀ b ∈ s, okByte b ∨ b = 37 ∨ b ∈ a.zone) ∧ (∀ b ∈ a.zone, b ∈ s) := by
  rcases dispatch_cases h with ⟨_, h4⟩ | ⟨_, h6⟩
  · unfold parseIPv4 at h4
    cases hf : parseIPv4Fields s with
    | none => simp [hf] at h4
    | some f =>
      simp only [hf, Option.map_some, Option.some.injEq] at h4
      subst h4
      obtain ⟨g1, g2, _⟩ := fields_canon _ _ hf
      refine ⟨⟨g1, g2⟩, fun b hb => Or.inl ?_, fun b hb => by simp [Addr.zone] at hb⟩
      rcases C02.parseIPv4Fields_chars s (by rw [hf]; rfl) b hb with h | h
      · exact okByte_of_digit h
      · exact Or.inr (Or.inl h)
  · obtain ⟨hwf, p, hp, ⟨e, ez⟩ | e⟩ := parseIPv6_ok h6
    · subst e
      exact ⟨hwf, fun b hb => Or.inl (hp b hb), fun b hb => by rw [ez] at hb; simp at hb⟩
    · refine ⟨hwf, fun b hb => ?_, fun b hb => by rw [e]; simp [hb]⟩
      rw [e] at hb
      simp only [List.mem_append, List.mem_cons] at hb
      rcases hb with hb | rfl | hb
      · exact Or.inl (hp b hb)
      · exact Or.inr (Or.inl rfl)
      · exact Or.inr (Or.inr hb)

/-- **Every address `ParseAddr` returns is well-formed.** -/
theorem parseAddr_wf (s : Bytes) (a : Addr) (h : parseAddr s = some a) : WF a :=
  (parseAddr_ok h).1

end GolibsVerif.Netip
