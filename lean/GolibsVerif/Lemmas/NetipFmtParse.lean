/-
`net/netip` formatter model: the IPv6 loop of the parser model (`v6Loop`) run on
colon-joined canonical hex groups, with and without a `::`.
-/
import GolibsVerif.Lemmas.NetipFmtBasic

namespace GolibsVerif.Netip
open GolibsVerif GolibsVerif.Str GolibsVerif.C04 GolibsVerif.Netutil

def bytesOf (gs : List Nat) : List Nat := gs.flatMap (fun x => [x / 256, x % 256])

theorem bytesOf_cons (x : Nat) (gs : List Nat) : bytesOf (x :: gs) = x / 256 :: x % 256 :: bytesOf gs := by
  simp [bytesOf]

theorem bytesOf_length (gs : List Nat) : (bytesOf gs).length = 2 * gs.length := by
  induction gs with
  | nil => rfl
  | cons x gs ih => rw [bytesOf_cons]; simp [ih]; omega

theorem bytesOf_append (a b : List Nat) : bytesOf (a ++ b) = bytesOf a ++ bytesOf b := by
  simp [bytesOf]

theorem bytesOf_replicate_zero (n : Nat) : bytesOf (List.replicate n 0) = List.replicate (2 * n) 0 := by
  induction n with
  | zero => rfl
  | succ n ih =>
    rw [List.replicate_succ, bytesOf_cons, ih, show 2 * (n + 1) = 2 * n + 1 + 1 by omega,
      List.replicate_succ, List.replicate_succ]

theorem hexVal_58 : hexVal 58 = none := by decide
theorem hexVal_46 : hexVal 46 = none := by decide
theorem hexVal_37 : hexVal 37 = none := by decide

theorem digit_hex {c : Nat} (h : 48 ≤ c ∧ c ≤ 57) : (hexVal c).isSome = true := by
  unfold hexVal; simp [h.1, h.2]

theorem hex_ne {c : Nat} (h : (hexVal c).isSome = true) : c ≠ 58 ∧ c ≠ 46 ∧ c ≠ 37 := by
  refine ⟨?_, ?_, ?_⟩ <;> (intro e; subst e; revert h; decide)

theorem step_last (x : Nat) (hx : x < 65536) (ip : List Nat) (el : Option Nat) :
    v6Step ⟨hexStr x, ip, el⟩ = .inl (some ⟨[], ip ++ [x / 256, x % 256], el⟩) := by
  have h := C02.v6Step_sep (hexStr_fieldOK x hx [] (by simp)) ip el
  rwa [List.append_nil, (hexStr_spec x hx).2.2.2] at h

theorem hexStr_field_colon (x : Nat) (hx : x < 65536) (t : Bytes) : C02.FieldOK (hexStr x) (58 :: t) :=
  hexStr_fieldOK x hx _ (by intro c h; cases h; exact hexVal_58)

theorem step_colon (x : Nat) (hx : x < 65536) (t : Bytes) (ht : HexHead t) (ip : List Nat)
    (el : Option Nat) :
    v6Step ⟨hexStr x ++ 58 :: t, ip, el⟩ = .inr ⟨t, ip ++ [x / 256, x % 256], el⟩ := by
  obtain ⟨c, rest, rfl, hc⟩ := ht
  rw [C02.v6Step_sep (hexStr_field_colon x hx _), (hexStr_spec x hx).2.2.2]
  simp [C02.sepOf, (hex_ne hc).1]

theorem step_dcolon (x : Nat) (hx : x < 65536) (rest : Bytes) (ip : List Nat) :
    v6Step ⟨hexStr x ++ 58 :: 58 :: rest, ip, none⟩ =
      if rest = [] then .inl (some ⟨[], ip ++ [x / 256, x % 256], some (ip.length + 2)⟩)
      else .inr ⟨rest, ip ++ [x / 256, x % 256], some (ip.length + 2)⟩ := by
  rw [C02.v6Step_sep (hexStr_field_colon x hx _), (hexStr_spec x hx).2.2.2]
  simp [C02.sepOf]

theorem colonJoin_head (y : Nat) (hy : y < 65536) (gs : List Nat) (t : Bytes) :
    HexHead (colonJoin (y :: gs) ++ t) := by
  rw [colonJoin, List.append_assoc]
  exact hexStr_head y hy _

theorem colonJoin_cons_cons (x y : Nat) (gs : List Nat) :
    colonJoin (x :: y :: gs) = hexStr x ++ 58 :: colonJoin (y :: gs) := by
  simp [colonJoin, sepGroups_cons]

/-- one iteration of the loop; `C02.accN_succ` is the same unfolding for acceptance alone -/
theorem v6Loop_succ (k : Nat) (st : V6State) (h : st.ip.length < 16) :
    v6Loop (k + 1) st = match v6Step st with
      | .inl r => r
      | .inr st' => v6Loop k st' := by
  simp only [v6Loop, h, if_true]
  rcases v6Step st with _ | _ <;> rfl

/-- Groups in front of a tail `T` are read one per iteration; what the iteration at the last
group does depends on `T` and is left as the parameter `R` (of the bytes written and the
iterations left). -/
theorem loop_groups_then (T : Bytes) (el : Option Nat) (R : List Nat → Nat → Option V6State)
    (hlast : ∀ (x k : Nat) (ip : List Nat), x < 65536 → ip.length < 16 →
      v6Loop (k + 1) ⟨hexStr x ++ T, ip, el⟩ = R (ip ++ [x / 256, x % 256]) k) :
    ∀ (gs : List Nat) (x k : Nat) (ip : List Nat),
      (∀ y ∈ x :: gs, y < 65536) → ip.length + 2 * (gs.length + 1) ≤ 16 →
      v6Loop (gs.length + 1 + k) ⟨colonJoin (x :: gs) ++ T, ip, el⟩ = R (ip ++ bytesOf (x :: gs)) k := by
  intro gs
  induction gs with
  | nil =>
    intro x k ip hlt hlen
    rw [show ([] : List Nat).length + 1 + k = k + 1 by simp; omega]
    simp only [colonJoin, sepGroups, List.flatMap_nil, List.append_nil]
    exact hlast x k ip (hlt x (by simp)) (by simp at hlen; omega)
  | cons y gs ih =>
    intro x k ip hlt hlen
    have hx := hlt x (by simp)
    have hy := hlt y (by simp)
    rw [show (y :: gs).length + 1 + k = (gs.length + 1 + k) + 1 by simp; omega,
      v6Loop_succ _ _ (by simp at hlen ⊢; omega), colonJoin_cons_cons, List.append_assoc, List.cons_append,
      step_colon x hx _ (colonJoin_head y hy gs T)]
    simp only
    rw [ih y k _ (fun z hz => hlt z (by simp at hz ⊢; exact Or.inr hz)) (by simp at hlen ⊢; omega)]
    simp [bytesOf_cons]

theorem loop_groups (gs : List Nat) (x k : Nat) (ip : List Nat) (el : Option Nat)
    (hlt : ∀ y ∈ x :: gs, y < 65536) (hlen : ip.length + 2 * (gs.length + 1) ≤ 16) :
    v6Loop (gs.length + 1 + k) ⟨colonJoin (x :: gs), ip, el⟩ = some ⟨[], ip ++ bytesOf (x :: gs), el⟩ := by
  have := loop_groups_then [] el (fun ip _ => some ⟨[], ip, el⟩)
    (fun x k ip hx hip => by rw [v6Loop_succ _ _ hip, List.append_nil, step_last x hx]) gs x k ip hlt hlen
  rwa [List.append_nil] at this

/-- the loop after a `::`, which may end the text -/
def afterEll (k : Nat) (t : Bytes) (ip : List Nat) (e : Nat) : Option V6State :=
  if t = [] then some ⟨[], ip, some e⟩ else v6Loop k ⟨t, ip, some e⟩

theorem afterEll_eq_loop (k : Nat) (t : Bytes) (ip : List Nat) (e : Nat) :
    ∃ fuel, afterEll k t ip e = v6Loop fuel ⟨t, ip, some e⟩ := by
  unfold afterEll
  split
  · next ht => exact ⟨0, by rw [ht]; rfl⟩
  · exact ⟨k, rfl⟩

theorem loop_groups_ell (gs : List Nat) (x k : Nat) (ip : List Nat) (t : Bytes)
    (hlt : ∀ y ∈ x :: gs, y < 65536) (hlen : ip.length + 2 * (gs.length + 1) ≤ 16) :
    v6Loop (gs.length + 1 + k) ⟨colonJoin (x :: gs) ++ 58 :: 58 :: t, ip, none⟩ =
      afterEll k t (ip ++ bytesOf (x :: gs)) (ip.length + 2 * (gs.length + 1)) := by
  have := loop_groups_then (58 :: 58 :: t) none (fun ip' k => afterEll k t ip' (ip'.length))
    (fun x k ip hx hip => by
      rw [v6Loop_succ _ _ hip, step_dcolon x hx, afterEll]
      by_cases ht : t = [] <;> simp [ht]) gs x k ip hlt hlen
  rw [this, List.length_append, bytesOf_length, List.length_cons]

theorem colonJoin_ne_nil (y : Nat) (hy : y < 65536) (gs : List Nat) : colonJoin (y :: gs) ≠ [] := by
  obtain ⟨c, r, h, _⟩ := colonJoin_head y hy gs []
  rw [List.append_nil] at h
  rw [h]; simp

theorem afterEll_groups (hs : List Nat) (k : Nat) (ip : List Nat) (e : Nat) (hlt : ∀ y ∈ hs, y < 65536)
    (hk : hs.length ≤ k) (hlen : ip.length + 2 * hs.length ≤ 16) :
    afterEll k (colonJoin hs) ip e = some ⟨[], ip ++ bytesOf hs, some e⟩ := by
  cases hs with
  | nil => simp [afterEll, colonJoin, bytesOf]
  | cons y hs =>
    obtain ⟨k', rfl⟩ : ∃ k', k = hs.length + 1 + k' := ⟨k - (hs.length + 1), by simp at hk; omega⟩
    rw [afterEll, if_neg (colonJoin_ne_nil y (hlt y (by simp)) hs)]
    exact loop_groups hs y k' ip (some e) hlt (by simpa using hlen)

end GolibsVerif.Netip
