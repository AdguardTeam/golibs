/-
Checked indexing and slicing (`GoM.idx`, `GoM.slice`, `sliceFrom`, `sliceTo`) at natural-number
positions (`idx_ofNat_lt`, `slice_ofNat`, …) and of `a ++ b` at `a.length` (`idx_append_len`,
`sliceFrom_append_len`, `sliceTo_append_len`, `slice_append_mid`); what `>>=` and `pure` of the
panic monad do on `.ok` and `.error` (`ok_bind`, `error_bind`, `pure_eq_ok`, `bind_eq_ok`); and
`ascii_ofList`, for evaluating test vectors that mention `ascii "…"`.
-/
import GolibsVerif.Go.Basic

namespace GolibsVerif.GoM

@[simp] theorem idx_zero_cons (a : Nat) (t : Bytes) : idx (a :: t) 0 = .ok a := by
  simp [idx]

theorem idx_ofNat_lt (s : Bytes) (i : Nat) (h : i < s.length) : idx s (i : Int) = .ok s[i] := by
  simp [idx, h]

theorem idx_ofNat_ge (s : Bytes) (i : Nat) (h : s.length ≤ i) :
    idx s (i : Int) = .error (.indexOutOfRange i s.length) := by
  simp [idx, List.getElem?_eq_none h]

theorem idx_neg (s : Bytes) (i : Int) (h : i < 0) :
    idx s i = .error (.indexOutOfRange i s.length) := by
  simp [idx, h]

theorem idx_last_snoc (a : Nat) (mid : Bytes) (z : Nat) :
    idx (a :: (mid ++ [z])) (((a :: (mid ++ [z])).length : Int) - 1) = .ok z := by
  have : (((a :: (mid ++ [z])).length : Int) - 1) = ((mid.length + 1 : Nat) : Int) := by
    simp
  rw [this, idx_ofNat_lt _ _ (by simp)]
  simp

theorem slice_ofNat (s : Bytes) (lo hi : Nat) (h1 : lo ≤ hi) (h2 : hi ≤ s.length) :
    slice s (lo : Int) (hi : Int) = .ok ((s.drop lo).take (hi - lo)) := by
  unfold slice
  have : (0 : Int) ≤ lo ∧ (lo : Int) ≤ hi ∧ (hi : Int) ≤ s.length := by omega
  simp [this]

theorem sliceFrom_ofNat (s : Bytes) (lo : Nat) (h : lo ≤ s.length) :
    sliceFrom s (lo : Int) = .ok (s.drop lo) := by
  rw [sliceFrom, slice_ofNat s lo s.length h (Nat.le_refl _), List.take_of_length_le (by simp)]

theorem slice_mid_snoc (a : Nat) (mid : Bytes) (z : Nat) :
    slice (a :: (mid ++ [z])) 1 (((a :: (mid ++ [z])).length : Int) - 1) = .ok mid := by
  have : (((a :: (mid ++ [z])).length : Int) - 1) = ((mid.length + 1 : Nat) : Int) := by
    simp
  rw [this]
  have h := slice_ofNat (a :: (mid ++ [z])) 1 (mid.length + 1) (by omega) (by simp)
  rw [show ((1 : Nat) : Int) = 1 from rfl] at h
  rw [h]
  simp

theorem getLast?_cons_snoc (a : Nat) (mid : Bytes) (z : Nat) :
    (a :: (mid ++ [z])).getLast? = some z := by
  rw [← List.cons_append, List.getLast?_concat]

/-- a byte string by its first and last byte: empty, one byte, or `a :: (mid ++ [z])` (the shapes
on which `s[0]`, `s[1:len-1]`, `s[len-1]` evaluate: `idx_zero_cons`, `slice_mid_snoc`,
`idx_last_snoc`) -/
theorem ends_cases : ∀ l : Bytes, l = [] ∨ (∃ a, l = [a]) ∨ ∃ a mid z, l = a :: (mid ++ [z])
  | [] => Or.inl rfl
  | [a] => Or.inr (Or.inl ⟨a, rfl⟩)
  | a :: b :: t => Or.inr (Or.inr ⟨a, (b :: t).dropLast, (b :: t).getLast (by simp), by
      rw [List.dropLast_concat_getLast]⟩)

/-! ### indexing and slicing at the end of a known prefix -/

theorem idx_append_len (d r : Bytes) (c : Nat) : idx (d ++ c :: r) (d.length : Int) = .ok c := by
  simp [idx]

theorem sliceFrom_append_len (d r : Bytes) : sliceFrom (d ++ r) (d.length : Int) = .ok r := by
  unfold sliceFrom
  rw [slice_ofNat _ _ _ (by simp) (Nat.le_refl _)]
  simp

theorem sliceFrom_append_cons (d r : Bytes) (c : Nat) :
    sliceFrom (d ++ c :: r) ((d.length : Int) + 1) = .ok r := by
  have := sliceFrom_append_len (d ++ [c]) r
  simpa using this

theorem sliceTo_append_len (a b : Bytes) : sliceTo (a ++ b) (a.length : Int) = .ok a := by
  unfold sliceTo
  have := slice_ofNat (a ++ b) 0 a.length (by omega) (by simp)
  simp only [Int.natCast_zero] at this
  rw [this]; simp

theorem idx_one_cons (a b : Nat) (r : Bytes) : idx (a :: b :: r) 1 = .ok b :=
  idx_append_len [a] r b

theorem sliceFrom_one_cons (a : Nat) (t : Bytes) : sliceFrom (a :: t) 1 = .ok t :=
  sliceFrom_append_len [a] t

theorem sliceFrom_two_cons (a b : Nat) (r : Bytes) : sliceFrom (a :: b :: r) 2 = .ok r :=
  sliceFrom_append_len [a, b] r

theorem sliceTo_ofNat (s : Bytes) (hi : Nat) (h : hi ≤ s.length) :
    sliceTo s (hi : Int) = .ok (s.take hi) := by
  have := slice_ofNat s 0 hi (Nat.zero_le _) h
  simpa [sliceTo] using this

theorem slice_append_mid (a b c : Bytes) :
    slice (a ++ (b ++ c)) (a.length : Int) ((a.length + b.length : Nat) : Int) = .ok b := by
  rw [slice_ofNat _ _ _ (Nat.le_add_right _ _) (by simp only [List.length_append]; omega)]
  simp

theorem sliceTo_length_sub (pre suf : Bytes) :
    sliceTo (pre ++ suf) (((pre ++ suf).length : Int) - suf.length) = .ok pre := by
  have h : (((pre ++ suf).length : Int) - suf.length) = (pre.length : Int) := by
    simp only [List.length_append]; omega
  rw [h, sliceTo_append_len]

theorem ok_bind {α β} (a : α) (f : α → GoM β) : ((.ok a : GoM α) >>= f) = f a := rfl

theorem error_bind {α β} (e : GoPanic) (f : α → GoM β) :
    ((.error e : GoM α) >>= f) = .error e := rfl

theorem pure_eq_ok {α} (a : α) : (pure a : GoM α) = .ok a := rfl

theorem bind_eq_ok {α β} (x : GoM α) (f : α → GoM β) (b : β) :
    (x >>= f) = .ok b ↔ ∃ a, x = .ok a ∧ f a = .ok b := by
  cases x with
  | ok a => exact ⟨fun h => ⟨a, rfl, h⟩, fun ⟨_, h1, h2⟩ => by cases h1; exact h2⟩
  | error e => exact ⟨(fun h => nomatch h), fun ⟨_, h1, _⟩ => nomatch h1⟩

end GolibsVerif.GoM

namespace GolibsVerif

/-- `ascii` of a string literal without decoding the literal's UTF-8 bytes: a literal unifies with
`String.ofList` of its characters, and the kernel evaluates `"…".toList` in quadratic time.
Rewrite with it before evaluating a test vector that mentions `ascii "…"`. -/
theorem ascii_ofList (l : List Char) : ascii (String.ofList l) = l.map Char.toNat := by
  simp [ascii]

end GolibsVerif
