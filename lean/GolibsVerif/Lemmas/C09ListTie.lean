/-
C09 — the critical sections of `Model/C09.lean` execute *legal* list instructions, and the
abstract list machine of `Spec/C09List.lean` then computes exactly the model's `St.lru`
(through the annotation "entry ↦ address of its `item.used`").  Together with
`Lemmas/C09List.lean` (`sim_run`) this makes every history of the cache model a pointer-level
execution that never fails and whose heap represents the model's list.
-/
import GolibsVerif.Lemmas.C09
import GolibsVerif.Lemmas.C09List

namespace GolibsVerif.C09.LL

theorem ann_lookup (z : Ann) (k : Bytes) :
    lookup (z.map Prod.fst) k = (annFind z k).map Prod.fst := by
  simp only [lookup, annFind, List.find?_map]; rfl

theorem ann_remove_fst (z : Ann) (k : Bytes) :
    (annRemove z k).map Prod.fst = remove (z.map Prod.fst) k := by
  simp only [remove, annRemove, List.filter_map]; rfl

theorem annFind_mem {z : Ann} {k : Bytes} {p : Entry × Ptr} (h : annFind z k = some p) :
    p ∈ z ∧ p.1.key = k := by
  unfold annFind at h
  exact ⟨List.mem_of_find?_eq_some h, by simpa using List.find?_some h⟩

theorem annRemove_of_none {z : Ann} {k : Bytes} (h : annFind z k = none) : annRemove z k = z := by
  unfold annFind at h; unfold annRemove
  rw [List.filter_eq_self]
  intro p hp
  have := List.find?_eq_none.1 h p hp
  simpa using this

theorem annRemove_of_notin {z : Ann} {k : Bytes} (h : k ∉ z.map (fun p => p.1.key)) :
    annRemove z k = z := by
  unfold annRemove
  rw [List.filter_eq_self]
  intro p hp
  simp only [ne_eq, decide_not, Bool.not_eq_eq_eq_not, Bool.not_true, decide_eq_false_iff_not]
  intro e
  exact h (List.mem_map.2 ⟨p, hp, e⟩)

/-- removing key `k` from the annotated list erases the address of the entry with key `k` -/
theorem ann_remove_snd : ∀ {z : Ann} {k : Bytes} {e : Entry} {o : Ptr},
    (z.map (fun p => p.1.key)).Nodup → (z.map Prod.snd).Nodup → annFind z k = some (e, o) →
    (annRemove z k).map Prod.snd = (z.map Prod.snd).erase o := by
  intro z
  induction z with
  | nil => intro k e o _ _ hf; cases hf
  | cons p z' ih =>
    obtain ⟨e', o'⟩ := p
    intro k e o hk ha hf
    simp only [List.map_cons, List.nodup_cons] at hk ha
    by_cases hek : e'.key = k
    · have : (e, o) = (e', o') := by
        simp only [annFind, List.find?_cons, hek, decide_true] at hf
        exact (Option.some.inj hf).symm
      cases this
      have hrest : annRemove z' k = z' := annRemove_of_notin (hek ▸ hk.1)
      simp only [annRemove, List.filter_cons, hek, ne_eq, not_true_eq_false, decide_false,
        Bool.false_eq_true, if_false, List.map_cons, List.erase_cons_head]
      exact congrArg _ hrest
    · have hf' : annFind z' k = some (e, o) := by
        simpa only [annFind, List.find?_cons, hek, decide_false] using hf
      have ho : o ∈ z'.map Prod.snd := List.mem_map.2 ⟨(e, o), (annFind_mem hf').1, rfl⟩
      have hoo : o' ≠ o := fun e => ha.1 (e ▸ ho)
      have ih := ih hk.2 ha.2 hf'
      simp only [annRemove, List.filter_cons, hek, ne_eq, not_false_eq_true, decide_true, if_true,
        List.map_cons]
      rw [List.erase_cons_tail (by simpa using hoo)]
      exact congrArg _ ih

/-- the entry found under `k` sits at an address of the list, and removing the key erases
exactly that address -/
theorem annFind_snd {z : Ann} {k : Bytes} {e : Entry} {o : Ptr}
    (hk : (z.map (fun p => p.1.key)).Nodup) (ha : (z.map Prod.snd).Nodup)
    (hf : annFind z k = some (e, o)) :
    o ∈ z.map Prod.snd ∧ (annRemove z k).map Prod.snd = (z.map Prod.snd).erase o :=
  ⟨List.mem_map.2 ⟨(e, o), (annFind_mem hf).1, rfl⟩, ann_remove_snd hk ha hf⟩

theorem execOps_append (s : Ptr) : ∀ (a b : List LOp) (h : Heap),
    execOps s (a ++ b) h = (execOps s a h >>= execOps s b) := by
  intro a
  induction a with
  | nil => intro b h; rfl
  | cons op a ih =>
    intro b h
    simp only [List.cons_append, execOps, bind, Except.bind]
    cases execOp s op h with
    | error e => rfl
    | ok h1 => simpa [bind, Except.bind] using ih b h1

theorem legalRun_append (s : Ptr) : ∀ (a b : List LOp) (st : LAbs),
    LegalRun s (a ++ b) st ↔ LegalRun s a st ∧ LegalRun s b (absRun a st) := by
  intro a
  induction a with
  | nil => simp [LegalRun, absRun]
  | cons op a ih => simp [LegalRun, absRun, ih, and_assoc]

theorem absRun_append : ∀ (a b : List LOp) (st : LAbs), absRun (a ++ b) st = absRun b (absRun a st) := by
  intro a
  induction a with
  | nil => intro _ _; rfl
  | cons op a ih => intro b st; exact ih b _

/-- The list instructions of a section depend on the annotated list and the event only: with
distinct keys and addresses, a fresh address `x` and (for an eviction) a non-empty list they
are legal, and the abstract list machine computes the addresses of `annNext`. -/
theorem opsOf_legal {s x : Ptr} {z : Ann} (ev : Ev) (objs : List Ptr)
    (hkeys : (z.map (fun p => p.1.key)).Nodup) (hadr : (z.map Prod.snd).Nodup)
    (hx : x ∉ s :: z.map Prod.snd) (hne : ∀ k v, ev = .evict k v → z ≠ []) :
    LegalRun s (opsOf z x ev) ⟨z.map Prod.snd, objs⟩ ∧
    (absRun (opsOf z x ev) ⟨z.map Prod.snd, objs⟩).list = (annNext z x ev).map Prod.snd := by
  cases ev with
  | evict k v =>
    cases z with
    | nil => exact absurd rfl (hne k v rfl)
    | cons p z' => exact ⟨⟨by simp [Legal], trivial⟩, by simp [opsOf, absRun, absStep, annNext]⟩
  | commit k v r =>
    cases hf : annFind z k with
    | none =>
      simp only [opsOf, hf, annNext, annRemove_of_none hf, List.append_nil]
      exact ⟨⟨hx, ⟨by simp [absStep], hx⟩, trivial⟩, by simp [absRun, absStep]⟩
    | some p =>
      obtain ⟨e, o⟩ := p
      obtain ⟨ho, hrm⟩ := annFind_snd hkeys hadr hf
      simp only [opsOf, hf, annNext]
      refine ⟨⟨hx, ⟨by simp [absStep], hx⟩, by simp [absStep, Legal, ho], trivial⟩, ?_⟩
      simp only [List.cons_append, List.nil_append, absRun, absStep, List.map_append, List.map_cons,
        List.map_nil]
      rw [List.erase_append_left _ ho, hrm]
  | get k r =>
    cases r with
    | none => exact ⟨trivial, rfl⟩
    | some v =>
      cases hf : annFind z k with
      | none => simp only [opsOf, hf, annNext]; exact ⟨trivial, rfl⟩
      | some p =>
        obtain ⟨e, o⟩ := p
        obtain ⟨ho, hrm⟩ := annFind_snd hkeys hadr hf
        simp only [opsOf, annNext, hf]
        refine ⟨⟨ho, trivial⟩, ?_⟩
        simp only [absRun, absStep, List.map_append, List.map_cons, List.map_nil]
        rw [hrm]
  | del k =>
    cases hf : annFind z k with
    | none => simp only [opsOf, hf, annNext, annRemove_of_none hf]; exact ⟨trivial, rfl⟩
    | some p =>
      obtain ⟨e, o⟩ := p
      obtain ⟨ho, hrm⟩ := annFind_snd hkeys hadr hf
      simp only [opsOf, hf, annNext]
      exact ⟨⟨ho, trivial⟩, by simp only [absRun, absStep]; rw [hrm]⟩
  | clear => exact ⟨⟨trivial, trivial⟩, rfl⟩
  | _ => exact ⟨trivial, rfl⟩

/-- what a section does to the entries is what `annNext` does to the annotated list -/
theorem annNext_fst {c : Conf} (hl : c.lru = true) {st st' : St} {ev : Ev} (hinv : Inv c st)
    (hstep : CStep c st ev st') (x : Ptr) {z : Ann} (hz : z.map Prod.fst = st.lru) :
    (annNext z x ev).map Prod.fst = st'.lru := by
  have hrem : ∀ k, (annRemove z k).map Prod.fst = remove st.lru k := fun k => by
    rw [← hz, ann_remove_fst]
  cases hstep with
  | evict _ add e _ _ _ he =>
    rw [(evictOne_ok he).1] at hz
    show z.tail.map Prod.fst = st'.lru
    rw [List.map_tail, hz]; rfl
  | commit _ k v r _ _ hc =>
    rw [setCommit_char hinv k v] at hc
    cases hc
    simp [annNext, hrem, hl]
  | get _ k r hg =>
    have hlook : lookup st.lru k = (annFind z k).map Prod.fst := by rw [← hz, ann_lookup]
    rw [get_char hinv k, hlook] at hg
    cases hf : annFind z k with
    | none => rw [hf] at hg; cases hg; exact hz
    | some p => rw [hf] at hg; cases hg; simp [annNext, hf, hrem, hl]
  | del _ k hd =>
    rw [del_char hinv k] at hd
    cases hd
    simp [annNext, hrem]
  | clear => rfl
  | _ => exact hz

/-- **One critical section.**  With LRU on, from a model state satisfying the invariant and an
annotation of its list by pairwise distinct node addresses (none the sentinel), the list
instructions of the section are legal, and running them on the Lean list of addresses gives
the annotation of the model's next list. -/
theorem ann_step {c : Conf} (hl : c.lru = true) {st st' : St} {ev : Ev} (hinv : Inv c st)
    (hstep : CStep c st ev st') {s x : Ptr} {z : Ann} (objs : List Ptr)
    (hz : z.map Prod.fst = st.lru) (hnd : (s :: z.map Prod.snd).Nodup)
    (hx : x ∉ s :: z.map Prod.snd) :
    (annNext z x ev).map Prod.fst = st'.lru ∧
    LegalRun s (opsOf z x ev) ⟨z.map Prod.snd, objs⟩ ∧
    (absRun (opsOf z x ev) ⟨z.map Prod.snd, objs⟩).list = (annNext z x ev).map Prod.snd := by
  refine ⟨annNext_fst hl hinv hstep x hz, opsOf_legal ev objs ?_ (List.nodup_cons.1 hnd).2 hx ?_⟩
  · have := hinv.nodup
    rwa [← hz, List.map_map] at this
  · -- an eviction starts from a non-empty list
    rintro k v rfl rfl
    cases hstep with
    | evict _ _ _ _ _ _ he => exact absurd ((evictOne_ok he).1.symm.trans hz.symm) (by simp)

/-- **Every history.**  Along any trace of the cache model (LRU on), whatever addresses the
allocator hands out, the list instructions of the successive critical sections run at
pointer level without failing and keep the heap representing the model's list. -/
theorem ann_trace {c : Conf} (hl : c.lru = true) {s : Ptr} (ν : Nat → List Ptr → Ptr)
    (hν : ∀ i l, ν i l ∉ s :: l) {st st' : St} {log : List Rec} (ht : Trace c st log st') :
    Inv c st → ∀ (i : Nat) (z : Ann) (objs : List Ptr) (h : Heap), z.map Prod.fst = st.lru →
      Sim h s ⟨z.map Prod.snd, objs⟩ →
      ∃ h' objs', execOps s (runAnn ν i z log).2 h = .ok h' ∧
        (runAnn ν i z log).1.map Prod.fst = st'.lru ∧
        Sim h' s ⟨(runAnn ν i z log).1.map Prod.snd, objs'⟩ := by
  induction ht with
  | nil st => intro _ i z objs h hz hs; exact ⟨h, objs, rfl, hz, hs⟩
  | @cons st st1 st2 ev rest hstep _ ih =>
    intro hinv i z objs h hz hs
    have hinv1 : Inv c st1 := (step_ok hstep hinv (Agree.self st)).1
    obtain ⟨h1, h2, h3⟩ := ann_step hl hinv hstep objs hz hs.repr.nodup (hν i (z.map Prod.snd))
    obtain ⟨h', e1, s1⟩ := sim_run _ hs h2
    have hs1 : Sim h' s ⟨(annNext z (ν i (z.map Prod.snd)) ev).map Prod.snd,
        (absRun (opsOf z (ν i (z.map Prod.snd)) ev) ⟨z.map Prod.snd, objs⟩).objs⟩ := by
      rw [← h3]; exact s1
    obtain ⟨h'', objs'', e2, hz2, s2⟩ := ih hinv1 (i + 1) _ _ h' h1 hs1
    refine ⟨h'', objs'', ?_, hz2, s2⟩
    simp only [runAnn]
    rw [execOps_append, e1]
    exact e2

/-- LRU off: whatever the events, the heap keeps representing the empty list. -/
theorem off_run {s : Ptr} (ν : Nat → Ptr) (hν : ∀ i, ν i ≠ s) : ∀ (log : List Rec) (i : Nat)
    (objs : List Ptr) (h : Heap), Sim h s ⟨[], objs⟩ →
    ∃ h' objs', execOps s (runOff ν i log) h = .ok h' ∧ Sim h' s ⟨[], objs'⟩ := by
  intro log
  induction log with
  | nil => exact fun _ objs h hs => ⟨h, objs, rfl, hs⟩
  | cons r rest ih =>
    intro i objs h hs
    have hstep : ∃ h1 objs1, execOps s (opsOfOff (ν i) r.ev) h = .ok h1 ∧ Sim h1 s ⟨[], objs1⟩ := by
      cases hev : r.ev with
      | commit k v b =>
        obtain ⟨h1, e1, s1⟩ := sim_run [.alloc (ν i)] hs ⟨by simpa [Legal] using hν i, trivial⟩
        exact ⟨h1, _, e1, s1⟩
      | clear =>
        obtain ⟨h1, e1, s1⟩ := sim_run [.clear] hs ⟨trivial, trivial⟩
        exact ⟨h1, _, e1, s1⟩
      | _ => exact ⟨h, objs, rfl, hs⟩
    obtain ⟨h1, objs1, e1, s1⟩ := hstep
    obtain ⟨h2, objs2, e2, s2⟩ := ih (i + 1) objs1 h1 s1
    refine ⟨h2, objs2, ?_, s2⟩
    simp only [runOff]
    rw [execOps_append, e1]; exact e2

end GolibsVerif.C09.LL
