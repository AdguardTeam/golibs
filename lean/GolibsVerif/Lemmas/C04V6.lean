/- C04: the fixed-length walk of `ipv6FromReversed`, one group of four bytes at a time. -/
import GolibsVerif.Lemmas.C04Basic

namespace GolibsVerif.C04
open GolibsVerif.Netutil GolibsVerif.Str GolibsVerif.Netip GolibsVerif.Gen.Consts GolibsVerif

/-- the four bytes the canonical name spends on one address byte -/
def nib (x : Nat) : Bytes := [hexChar (x % 16), 46, hexChar (x / 16), 46]

def ip6Arpa : Bytes := [105, 112, 54, 46, 97, 114, 112, 97]

theorem ptr6_eq (b : List Nat) : ptr6 b = b.reverse.flatMap nib ++ ip6Arpa := by
  unfold ptr6
  rw [joinDot_append_two]
  congr 1
  generalize b.reverse = l
  induction l with
  | nil => rfl
  | cons x l ih => simp [nibbleLabels, nib, ih]

theorem flatMap_nib_length (l : List Nat) : (l.flatMap nib).length = 4 * l.length := by
  induction l with
  | nil => rfl
  | cons x l ih => simp [List.flatMap_cons, nib, ih]; omega

theorem ptr6_length (b : List Nat) : (ptr6 b).length = 4 * b.length + 8 := by
  rw [ptr6_eq, List.length_append, flatMap_nib_length]; simp [ip6Arpa]

/-- what one iteration of the walk makes of the four bytes it reads -/
def group (c0 d1 c2 d3 : Nat) : Except Err Nat :=
  if fromHexByte c0 = 255 then .error (.rune .arpa c0)
  else if fromHexByte c2 = 255 then .error (.rune .arpa c2)
  else if d1 ≠ 46 then .error (.const .notAReversedIP)
  else if d3 ≠ 46 then .error (.const .notAReversedIP)
  else .ok (fromHexByte c2 * 16 + fromHexByte c0)

theorem group_ok_iff (c0 d1 c2 d3 b : Nat) : group c0 d1 c2 d3 = .ok b ↔
    fromHexByte c0 ≠ 255 ∧ fromHexByte c2 ≠ 255 ∧ d1 = 46 ∧ d3 = 46 ∧
      fromHexByte c2 * 16 + fromHexByte c0 = b := by
  unfold group
  by_cases n0 : fromHexByte c0 = 255
  · simp [n0]
  by_cases n2 : fromHexByte c2 = 255
  · simp [n0, n2]
  by_cases e1 : d1 = 46
  · by_cases e3 : d3 = 46
    · simp [n0, n2, e1, e3]
    · simp [n0, n2, e1, e3]
  · simp [n0, n2, e1]

theorem group_nib (b : Nat) (hb : b < 256) : group (hexChar (b % 16)) 46 (hexChar (b / 16)) 46 = .ok b := by
  rw [group_ok_iff, (hexChar_table (b % 16) (by omega)).2.1, (hexChar_table (b / 16) (by omega)).2.1]
  omega

theorem group_ok (c0 d1 c2 d3 b : Nat) (h0 : ¬ (65 ≤ c0 ∧ c0 ≤ 90)) (h2 : ¬ (65 ≤ c2 ∧ c2 ≤ 90))
    (h : group c0 d1 c2 d3 = .ok b) : b < 256 ∧ [c0, d1, c2, d3] = nib b := by
  obtain ⟨n0, n2, rfl, rfl, rfl⟩ := (group_ok_iff c0 d1 c2 d3 b).1 h
  obtain ⟨hlo, elo⟩ := fromHexByte_inv c0 h0 n0
  obtain ⟨hhi, ehi⟩ := fromHexByte_inv c2 h2 n2
  have hm : (fromHexByte c2 * 16 + fromHexByte c0) % 16 = fromHexByte c0 := by omega
  have hq : (fromHexByte c2 * 16 + fromHexByte c0) / 16 = fromHexByte c2 := by omega
  rw [nib, hm, hq, ← elo, ← ehi]
  exact ⟨by omega, rfl⟩

theorem loop_step (arpa : Bytes) (n i : Nat) (ip : List Nat) (c0 d1 c2 d3 : Nat) (rest : Bytes)
    (h : arpa.drop (4 * i) = c0 :: d1 :: c2 :: d3 :: rest) :
    ipv6FromReversedLoop arpa (n + 1) i ip =
      match group c0 d1 c2 d3 with
      | .error e => .ok (.error e)
      | .ok b => ipv6FromReversedLoop arpa n (i + 1) (b :: ip) := by
  have e0 : GoM.idx arpa ((i : Int) * 4) = .ok c0 :=
    idx_of_drop arpa (4 * i) 0 c0 _ (by omega) (by rw [h]; rfl)
  have e1 : GoM.idx arpa ((i : Int) * 4 + 1) = .ok d1 :=
    idx_of_drop arpa (4 * i) 1 d1 _ (by omega) (by rw [h]; rfl)
  have e2 : GoM.idx arpa ((i : Int) * 4 + 2) = .ok c2 :=
    idx_of_drop arpa (4 * i) 2 c2 _ (by omega) (by rw [h]; rfl)
  have e3 : GoM.idx arpa ((i : Int) * 4 + 3) = .ok d3 :=
    idx_of_drop arpa (4 * i) 3 d3 _ (by omega) (by rw [h]; rfl)
  rw [ipv6FromReversedLoop]
  simp only [bind, Except.bind, pure, Except.pure, e0, e1, e2, e3, group]
  by_cases n0 : fromHexByte c0 = 255
  · simp only [n0, if_true]
  by_cases n2 : fromHexByte c2 = 255
  · simp only [n0, n2, if_true, if_false]
  by_cases h1 : d1 = 46
  · by_cases h3 : d3 = 46
    · simp only [n0, n2, h1, h3, ne_eq, not_true_eq_false, if_false]
    · simp only [n0, n2, h1, h3, ne_eq, not_true_eq_false, not_false_eq_true, if_false, if_true]
  · simp only [n0, n2, h1, ne_eq, not_false_eq_true, if_false, if_true]

theorem drop_four (arpa : Bytes) (k : Nat) (h : k + 4 ≤ arpa.length) :
    ∃ c0 d1 c2 d3 rest, arpa.drop k = c0 :: d1 :: c2 :: d3 :: rest :=
  ⟨_, _, _, _, _, by
    rw [List.drop_eq_getElem_cons (by omega), List.drop_eq_getElem_cons (by omega),
      List.drop_eq_getElem_cons (by omega), List.drop_eq_getElem_cons (by omega)]⟩

/-- the walk over `n` groups from group `i` returns (no index is out of range when the string is
long enough; it is checked to be exactly 72 bytes before the walk starts), and on a string
without upper-case letters it accepts exactly the spellings `nib b` of bytes, which it collects
back to front -/
theorem loop_spec (arpa : Bytes) : ∀ (n i : Nat) (ip : List Nat), 4 * (i + n) ≤ arpa.length →
    ∃ r, ipv6FromReversedLoop arpa n i ip = .ok r ∧
      (NoUpper arpa → ∀ out, r = .ok out ↔
        ∃ bs : List Nat, bs.length = n ∧ (∀ b ∈ bs, b < 256) ∧ out = bs.reverse ++ ip ∧
          (arpa.drop (4 * i)).take (4 * n) = bs.flatMap nib) := by
  intro n
  induction n with
  | zero =>
    intro i ip _
    refine ⟨.ok ip, rfl, fun _ out => ⟨fun h => ⟨[], rfl, by simp, by cases h; rfl, by simp⟩, ?_⟩⟩
    rintro ⟨bs, hl, _, rfl, _⟩
    rw [List.length_eq_zero_iff.1 hl]; rfl
  | succ n ih =>
    intro i ip hlen
    obtain ⟨c0, d1, c2, d3, rest, hd⟩ := drop_four arpa (4 * i) (by omega)
    rw [loop_step arpa n i ip c0 d1 c2 d3 rest hd]
    -- the window is this group followed by the window of the remaining groups
    have hwin : (arpa.drop (4 * i)).take (4 * (n + 1)) =
        [c0, d1, c2, d3] ++ (arpa.drop (4 * (i + 1))).take (4 * n) := by
      rw [show 4 * (i + 1) = 4 * i + 4 by omega, ← List.drop_drop, hd,
        show 4 * (n + 1) = 4 * n + 1 + 1 + 1 + 1 by omega]
      rfl
    -- so a window that spells `b' :: bs'` has a first group that reads as `b'`
    have hhead : ∀ b' bs', b' < 256 →
        (arpa.drop (4 * i)).take (4 * (n + 1)) = (b' :: bs').flatMap nib →
        group c0 d1 c2 d3 = .ok b' ∧ (arpa.drop (4 * (i + 1))).take (4 * n) = bs'.flatMap nib := by
      intro b' bs' hb' h
      rw [hwin, List.flatMap_cons] at h
      obtain ⟨h1, h2⟩ := List.append_inj h rfl
      cases h1
      exact ⟨group_nib b' hb', h2⟩
    cases hg : group c0 d1 c2 d3 with
    | error e =>
      refine ⟨_, rfl, fun _ out => ⟨fun h => (nomatch h), ?_⟩⟩
      rintro ⟨bs, hl, hb, _, ht⟩
      match bs, hl with
      | b' :: bs', _ => rw [(hhead b' bs' (hb b' (by simp)) ht).1] at hg; cases hg
    | ok b =>
      obtain ⟨r, hr, hiff⟩ := ih (i + 1) (b :: ip) (by omega)
      refine ⟨r, hr, fun hlow out => ?_⟩
      have hmem : ∀ c ∈ c0 :: d1 :: c2 :: d3 :: rest, ¬ (65 ≤ c ∧ c ≤ 90) := fun c hc =>
        hlow c (List.mem_of_mem_drop (hd ▸ hc))
      obtain ⟨hb, hnib⟩ := group_ok c0 d1 c2 d3 b (hmem c0 (by simp)) (hmem c2 (by simp)) hg
      rw [hiff hlow out]
      constructor
      · rintro ⟨bs, hl, hbb, rfl, ht⟩
        exact ⟨b :: bs, by simp [hl], by simpa [hb] using hbb, by simp,
          by rw [hwin, hnib, ht, List.flatMap_cons]⟩
      · rintro ⟨bs, hl, hbb, rfl, ht⟩
        match bs, hl with
        | b' :: bs', hl =>
          obtain ⟨h1, h2⟩ := hhead b' bs' (hbb b' (by simp)) ht
          cases hg.symm.trans h1
          exact ⟨bs', by simpa using hl, fun x hx => hbb x (by simp [hx]), by simp, h2⟩

theorem ipv6FromReversed_total (arpa : Bytes) (hlen : 64 ≤ arpa.length) :
    ∃ r, ipv6FromReversed arpa = .ok r := by
  obtain ⟨r, hr, _⟩ := loop_spec arpa 16 0 [] (by omega)
  unfold ipv6FromReversed
  rw [hr]
  cases r <;> exact ⟨_, rfl⟩

/-- on a lower-cased 72-byte name under `ip6.arpa`, `ipv6FromReversed` accepts exactly the
32-nibble spellings, and reads the sixteen bytes back -/
theorem ipv6FromReversed_iff (arpa : Bytes) (a : Addr) (hlen : arpa.length = 72)
    (hsuf : arpaV6Suffix <:+ arpa) (hlow : NoUpper arpa) :
    ipv6FromReversed arpa = .ok (.ok a) ↔
      ∃ b, a = .v6 b [] ∧ b.length = 16 ∧ (∀ x ∈ b, x < 256) ∧ arpa = ptr6 b := by
  obtain ⟨r, hr, hiff⟩ := loop_spec arpa 16 0 [] (by omega)
  replace hiff := hiff hlow
  simp only [Nat.mul_zero, List.drop_zero, List.append_nil] at hiff
  -- the name is its first 64 bytes followed by `ip6.arpa`
  have hname : ∀ bs : List Nat, arpa.take 64 = bs.flatMap nib ↔ arpa = ptr6 bs.reverse := by
    intro bs
    obtain ⟨t, ht⟩ := hsuf
    have htl : t.length = 63 := by
      have := congrArg List.length ht
      simp [arpaV6Suffix] at this; omega
    have hdrop : arpa.drop 64 = ip6Arpa := by
      rw [← ht, List.drop_append, htl, List.drop_eq_nil_of_le (by omega)]; rfl
    rw [ptr6_eq, List.reverse_reverse, ← hdrop]
    exact ⟨fun h => by rw [← h, List.take_append_drop],
      fun h => List.append_cancel_right ((List.take_append_drop 64 arpa).trans h)⟩
  have hrun : ipv6FromReversed arpa = .ok (r.map fun ip => .v6 ip []) := by
    unfold ipv6FromReversed
    rw [hr]
    cases r <;> rfl
  rw [hrun]
  constructor
  · intro h
    cases r with
    | error e => cases h
    | ok ip =>
      cases h
      obtain ⟨bs, hl, hb, rfl, ht⟩ := (hiff ip).1 rfl
      exact ⟨bs.reverse, rfl, by simpa using hl, fun x hx => hb x (List.mem_reverse.1 hx),
        (hname bs).1 ht⟩
  · rintro ⟨b, rfl, hl, hb, hs⟩
    rw [(hiff b).2 ⟨b.reverse, by simpa using hl, fun x hx => hb x (List.mem_reverse.1 hx),
      by simp, (hname b.reverse).2 (by simpa using hs)⟩]
    rfl

end GolibsVerif.C04
