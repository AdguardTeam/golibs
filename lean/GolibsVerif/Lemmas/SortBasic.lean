/-
Lemmas about the checked slice accesses of `Go/Sort.lean` (`at?`, `get`, `swap`) and the
vocabulary of the `Sort*` files:
* `Frame d d' a b`, what every mutation of the sort preserves: same length, the same multiset
  of elements, nothing changed outside the index range `[a, b)`; `SwapAt`, the result of one `swap`;
* `NotLess cmp d p q`, the order of two positions.  It only looks at the two elements, so it is
  carried along a `SwapAt` or a `Frame` by `NotLess.congr`; all order invariants (`SortedOn`,
  the heap property, the invariant of the insertion loop, …) are families of `NotLess` facts;
* `AllOn P d a b`, a property of every element of a range, which survives a `Frame` of that range;
* `WeakCmp cmp`: `cmp a b < 0` is a strict weak order, the hypothesis of `NotLess.trans`.
-/
import GolibsVerif.Go.Sort

namespace GolibsVerif.Slices

variable {α : Type}

theorem at?_eq_some (d : Array α) (i : Int) (h : 0 ≤ i ∧ i < d.size) : ∃ x, at? d i = some x := by
  have : i.toNat < d.size := by omega
  exact ⟨d[i.toNat], by simp [at?, Int.not_lt.mpr h.1, this]⟩

theorem at?_bounds {d : Array α} {i : Int} {x : α} (h : at? d i = some x) : 0 ≤ i ∧ i < d.size := by
  unfold at? at h
  split at h
  · cases h
  · have := Array.getElem?_eq_some_iff.mp h
    obtain ⟨hlt, _⟩ := this
    omega

theorem at?_none_of_neg {d : Array α} {i : Int} (h : i < 0) : at? d i = none := by
  simp [at?, h]

theorem at?_none_of_ge {d : Array α} {i : Int} (h : (d.size : Int) ≤ i) : at? d i = none := by
  unfold at?
  split
  · rfl
  · apply Array.getElem?_eq_none; omega

theorem at?_of_nonneg {d : Array α} {i : Int} (h : 0 ≤ i) : at? d i = d[i.toNat]? := by
  simp [at?, Int.not_lt.mpr h]

theorem at?_ofNat (d : Array α) (k : Nat) : at? d (k : Int) = d[k]? :=
  at?_of_nonneg (Int.natCast_nonneg k)

theorem get_ok {d : Array α} {i : Int} {x : α} (h : at? d i = some x) : get d i = .ok x := by
  simp [get, h]

theorem get_ok_iff {d : Array α} {i : Int} {x : α} : get d i = .ok x ↔ at? d i = some x := by
  unfold get
  cases h : at? d i with
  | none => simp
  | some y => simp

/-- `d'` is `d` with the elements at the indices `[a, b)` permuted -/
structure Frame (d d' : Array α) (a b : Int) : Prop where
  size : d'.size = d.size
  perm : d'.toList.Perm d.toList
  out : ∀ k : Int, (k < a ∨ b ≤ k) → at? d' k = at? d k

theorem Frame.refl (d : Array α) (a b : Int) : Frame d d a b :=
  ⟨rfl, List.Perm.refl _, fun _ _ => rfl⟩

theorem Frame.trans {d d' d'' : Array α} {a b : Int} (h1 : Frame d d' a b) (h2 : Frame d' d'' a b) :
    Frame d d'' a b :=
  ⟨h2.size.trans h1.size, h2.perm.trans h1.perm, fun k hk => (h2.out k hk).trans (h1.out k hk)⟩

theorem Frame.mono {d d' : Array α} {a b a' b' : Int} (h : Frame d d' a b) (ha : a' ≤ a) (hb : b ≤ b') :
    Frame d d' a' b' :=
  ⟨h.size, h.perm, fun k hk => h.out k (by omega)⟩

theorem Frame.size_le {d d' : Array α} {a b : Int} (h : Frame d d' a b) {n : Int} (hn : n ≤ d.size) :
    n ≤ d'.size := by
  rw [h.size]; exact hn

structure SwapAt (d d' : Array α) (i j : Int) : Prop where
  fst : at? d' i = at? d j
  snd : at? d' j = at? d i
  other : ∀ k, k ≠ i ∧ k ≠ j → at? d' k = at? d k

theorem swap_frame (d : Array α) (i j a b : Int) (ha : 0 ≤ a) (hb : b ≤ d.size)
    (hi : a ≤ i ∧ i < b) (hj : a ≤ j ∧ j < b) :
    ∃ d', swap d i j = .ok d' ∧ Frame d d' a b ∧ SwapAt d d' i j := by
  have h : 0 ≤ i ∧ i < d.size ∧ 0 ≤ j ∧ j < d.size := by omega
  have hin : i.toNat < d.size := by omega
  have hjn : j.toNat < d.size := by omega
  have hsw : SwapAt d (d.swap i.toNat j.toNat hin hjn) i j := by
    refine ⟨?_, ?_, ?_⟩
    · rw [at?_of_nonneg h.1, at?_of_nonneg h.2.2.1, Array.getElem?_swap]
      split <;> simp [*]
    · rw [at?_of_nonneg h.1, at?_of_nonneg h.2.2.1, Array.getElem?_swap]
      simp
    · intro k ⟨hki, hkj⟩
      by_cases hk : k < 0
      · rw [at?_none_of_neg hk, at?_none_of_neg hk]
      · rw [at?_of_nonneg (by omega), at?_of_nonneg (by omega), Array.getElem?_swap,
          if_neg (by omega), if_neg (by omega)]
  refine ⟨_, by simp [swap, h], ⟨Array.size_swap, (Array.swap_perm hin hjn).toList, ?_⟩, hsw⟩
  intro k hk
  exact hsw.other k (by omega)

theorem List.mid_perm {l l' : List α} {A B : Nat} (hAB : A ≤ B)
    (hp : l'.Perm l) (hout : ∀ k, (k < A ∨ B ≤ k) → l'[k]? = l[k]?) :
    ((l'.drop A).take (B - A)).Perm ((l.drop A).take (B - A)) := by
  have hlen : l'.length = l.length := hp.length_eq
  have dec : ∀ m : List α, m = m.take A ++ ((m.drop A).take (B - A) ++ m.drop B) := by
    intro m
    have : m.drop B = (m.drop A).drop (B - A) := by
      rw [List.drop_drop]; congr 1; omega
    rw [this, List.take_append_drop, List.take_append_drop]
  have e1 : l'.take A = l.take A := by
    apply List.ext_getElem?
    intro k
    by_cases hk : k < A
    · simp [hk, hout k (Or.inl hk)]
    · simp [List.getElem?_take, hk]
  have e2 : l'.drop B = l.drop B := by
    apply List.ext_getElem?
    intro k
    simp only [List.getElem?_drop]
    exact hout _ (Or.inr (by omega))
  have hp' := hp
  rw [dec l', dec l, e1, e2] at hp'
  exact (List.perm_append_right_iff _).mp ((List.perm_append_left_iff _).mp hp')

def AllOn (P : α → Prop) (d : Array α) (a b : Int) : Prop :=
  ∀ k x, a ≤ k → k < b → at? d k = some x → P x

theorem AllOn.empty {P : α → Prop} {d : Array α} {a b : Int} (h : b ≤ a) : AllOn P d a b :=
  fun k x hk1 hk2 => by omega

theorem AllOn.frame_out {P : α → Prop} {d d' : Array α} {a b lo hi : Int} (h : AllOn P d a b)
    (hf : Frame d d' lo hi) (hd : b ≤ lo ∨ hi ≤ a) : AllOn P d' a b :=
  fun k x hk1 hk2 hx => h k x hk1 hk2 (hf.out k (by omega) ▸ hx)

/-- a property of all elements in `[a, b)` survives a `Frame … a b`: an element of the new range
is, by `List.mid_perm`, an element of the old one -/
theorem Frame.allOn {d d' : Array α} {a b : Int} (h : Frame d d' a b) (ha : 0 ≤ a) {P : α → Prop}
    (hP : AllOn P d a b) : AllOn P d' a b := by
  intro k x hak hkb hx
  have hmid := List.mid_perm (A := a.toNat) (B := b.toNat) (by omega) h.perm fun n hn => by
    simpa [at?_ofNat] using h.out (n : Int) (by omega)
  have hmem : x ∈ (d'.toList.drop a.toNat).take (b.toNat - a.toNat) := by
    refine List.mem_iff_getElem?.mpr ⟨k.toNat - a.toNat, ?_⟩
    rw [List.getElem?_take, if_pos (by omega), List.getElem?_drop,
      show a.toNat + (k.toNat - a.toNat) = k.toNat by omega]
    rw [at?_of_nonneg (by omega)] at hx
    simpa using hx
  obtain ⟨n, hn⟩ := List.mem_iff_getElem?.mp (hmid.mem_iff.mp hmem)
  rw [List.getElem?_take] at hn
  split at hn
  · rw [List.getElem?_drop] at hn
    refine hP ((a.toNat + n : Nat) : Int) x (by omega) (by omega) ?_
    rw [at?_ofNat]
    simpa using hn
  · cases hn

variable {cmp : α → α → Int}

/-- `fun a b => cmp a b < 0` is a strict weak order (β-reduced form of `C12.StrictWeakOrder`;
`le_trans` is its negative transitivity) -/
structure WeakCmp (cmp : α → α → Int) : Prop where
  irrefl : ∀ a, ¬ cmp a a < 0
  trans : ∀ a b c, cmp a b < 0 → cmp b c < 0 → cmp a c < 0
  le_trans : ∀ {a b c}, ¬ cmp b a < 0 → ¬ cmp c b < 0 → ¬ cmp c a < 0

theorem WeakCmp.asymm (hw : WeakCmp cmp) {a b : α} (h : cmp a b < 0) : ¬ cmp b a < 0 :=
  fun h' => hw.irrefl a (hw.trans a b a h h')

/-- `a < b ≤ c → a < c` -/
theorem WeakCmp.lt_of_lt_of_le (hw : WeakCmp cmp) {a b c : α}
    (h1 : cmp a b < 0) (h2 : ¬ cmp c b < 0) : cmp a c < 0 :=
  Classical.byContradiction fun h => hw.le_trans h2 h h1

/-- `a ≤ b < c → a < c` -/
theorem WeakCmp.lt_of_le_of_lt (hw : WeakCmp cmp) {a b c : α}
    (h1 : ¬ cmp b a < 0) (h2 : cmp b c < 0) : cmp a c < 0 :=
  Classical.byContradiction fun h => hw.le_trans h h1 h2

/-- the element at `p` is not less than the element at `q` (true when an index is out of range) -/
def NotLess (cmp : α → α → Int) (d : Array α) (p q : Int) : Prop :=
  ∀ x y, at? d p = some x → at? d q = some y → ¬ cmp x y < 0

theorem NotLess.of_get {d : Array α} {p q : Int} {x y : α}
    (hx : at? d p = some x) (hy : at? d q = some y) (h : ¬ cmp x y < 0) : NotLess cmp d p q := by
  intro x' y' hx' hy'
  rw [hx] at hx'; rw [hy] at hy'; cases hx'; cases hy'
  exact h

theorem NotLess.of_lt (hw : WeakCmp cmp) {d : Array α} {p q : Int} {x y : α}
    (hx : at? d p = some x) (hy : at? d q = some y) (h : cmp x y < 0) : NotLess cmp d q p :=
  NotLess.of_get hy hx (hw.asymm h)

theorem NotLess.refl (hw : WeakCmp cmp) (d : Array α) (p : Int) : NotLess cmp d p p := by
  intro x y hx hy
  rw [hx] at hy; cases hy
  exact hw.irrefl x

theorem NotLess.congr {d d' : Array α} {p q p' q' : Int} (h : NotLess cmp d p q)
    (hp : at? d' p' = at? d p) (hq : at? d' q' = at? d q) : NotLess cmp d' p' q' :=
  fun x y hx hy => h x y (hp ▸ hx) (hq ▸ hy)

theorem NotLess.trans (hw : WeakCmp cmp) {d : Array α} {p q r : Int}
    (h1 : NotLess cmp d p q) (h2 : NotLess cmp d q r) (hq : 0 ≤ q ∧ q < d.size) : NotLess cmp d p r := by
  obtain ⟨y, hy⟩ := at?_eq_some d q hq
  exact fun x z hx hz => hw.le_trans (h2 y z hy hz) (h1 x y hx hy)

def SortedOn (cmp : α → α → Int) (d : Array α) (a b : Int) : Prop :=
  ∀ p q, a ≤ p → p < q → q < b → NotLess cmp d q p

/-- a range of at most one element -/
theorem SortedOn.short {d : Array α} {a b : Int} (h : b ≤ a + 1) : SortedOn cmp d a b :=
  fun p q hp hpq hq => by omega

theorem Frame.symm {d d' : Array α} {a b : Int} (h : Frame d d' a b) : Frame d' d a b :=
  ⟨h.size.symm, h.perm.symm, fun k hk => (h.out k hk).symm⟩

end GolibsVerif.Slices
