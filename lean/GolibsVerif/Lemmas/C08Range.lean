/-
C08 — the state of a `DefaultStorage` after `Add`s, and helper lemmas for `RangeNames`,
`RangeAddrs` and `Equal`.

* `Indexes`, `adds_refines`: after any sequence of `Add`s on a new storage each of the two maps
  indexes what was added (no key twice; which keys are present and what slice is under each, in
  closed form); `ByAddr` / `ByName`, the key lists and the `Range` functions are read off
  `Indexes` once for both maps;
* `rangeLoop`: the Go loop `for k, v := range m { if !f(k, v) { return } }` for an arbitrary
  iteration order and a callback with state, and what it calls;
* `Equal` unfolded to what it compares; the pigeonhole fact `List.mem_of_nodup_of_length_le`
  turns "every key of `s.names` is a key of `other.names` and the lengths agree" into "the
  same keys".
-/
import GolibsVerif.Lemmas.C08
import GolibsVerif.Lemmas.ListFacts

namespace GolibsVerif.C08
open GolibsVerif GolibsVerif.Netip GolibsVerif.C07

/-- the addresses added with a name whose lower-cased form is `k` (`addrsFor lower rs n` is
`addrsUnder lower rs (lower n)`) -/
def addrsUnder (lower : Bytes → Bytes) (rs : List Record) (k : Bytes) : List Addr :=
  ((pairs rs).filter fun p => lower p.2 = k).map (·.1)

/-- `m` indexes the groups `grp`: no key twice, a key is present iff its group is not empty, and
the slice under it is the first-seen-order de-duplication (by `f`) of the group.  Both maps of
a `DefaultStorage` are such indexes (`adds_refines`), and what `ByAddr` / `ByName`, the key
lists and the `Range` functions give is read off this once, for both. -/
def Indexes {K V : Type} [DecidableEq K] [DecidableEq V] (m : Map K (OSet V)) (f : V → V)
    (grp : K → List V) : Prop :=
  (keys m).Nodup ∧ ∀ k, valsAt m k = if grp k = [] then none else some (firstSeenBy f (grp k))

/-- **Refinement.**  After any sequence of `Add`s on a new storage, `names` indexes the names
added with each address (de-duplicated by `lower`) and `addrs` indexes the addresses added with
each lower-cased name. -/
theorem adds_refines {lower : Bytes → Bytes} {rs : List Record} {s : Storage}
    (h : adds lower Storage.empty rs = .ok s) :
    Indexes s.names lower (namesFor rs) ∧ Indexes s.addrs id (addrsUnder lower rs) := by
  obtain ⟨s', h', hn, hN, hA⟩ := adds_spec lower rs Storage.empty
  rw [h] at h'
  cases h'
  have hn := hn ⟨List.nodup_nil, List.nodup_nil⟩
  refine ⟨⟨hn.1, fun a => ?_⟩, hn.2, fun k => ?_⟩
  · unfold valsAt; rw [hN a]
    exact valsAt_foldl_bump _ _ _ lower (fun _ => rfl) _
  · unfold valsAt; rw [hA k]
    exact valsAt_foldl_bump _ _ _ id (fun _ => rfl) _

namespace Indexes
variable {K V : Type} [DecidableEq K] [DecidableEq V] {m : Map K (OSet V)} {f : V → V} {grp : K → List V}

theorem getD (h : Indexes m f grp) (k : K) : (valsAt m k).getD [] = firstSeenBy f (grp k) := by
  rw [h.2]
  split
  · rename_i hk; rw [hk]; rfl
  · rfl

theorem mem_keys (h : Indexes m f grp) (k : K) : k ∈ keys m ↔ grp k ≠ [] := by
  rw [mem_keys_iff_valsAt, h.2]
  split <;> simp [*]

theorem mem_range (h : Indexes m f grp) (k : K) (vs : List V) :
    (k, vs) ∈ m.map (fun e => (e.1, e.2.vals)) ↔ grp k ≠ [] ∧ vs = firstSeenBy f (grp k) := by
  rw [mem_map_vals h.1, h.2]
  split <;> simp [*, eq_comm]

/-- what a `Range` function passes to a callback that always continues: no key twice; the
pairs are the non-empty groups, de-duplicated; each of them once; no empty slice -/
theorem range [BEq (K × List V)] [LawfulBEq (K × List V)] (h : Indexes m f grp) :
    ((m.map fun e => (e.1, e.2.vals)).map (·.1)).Nodup ∧
    (∀ k vs, (k, vs) ∈ m.map (fun e => (e.1, e.2.vals)) ↔ grp k ≠ [] ∧ vs = firstSeenBy f (grp k)) ∧
    (∀ k, grp k ≠ [] → (m.map fun e => (e.1, e.2.vals)).count (k, firstSeenBy f (grp k)) = 1) ∧
    (∀ e ∈ m.map (fun e => (e.1, e.2.vals)), e.2 ≠ []) := by
  have hnd : ((m.map fun e => (e.1, e.2.vals)).map (·.1)).Nodup := by
    simpa [List.map_map, Function.comp_def, keys] using h.1
  refine ⟨hnd, h.mem_range, fun k hk => ?_, ?_⟩
  · rw [(List.Nodup.of_map _ hnd).count, if_pos ((h.mem_range k _).2 ⟨hk, rfl⟩)]
  · rintro ⟨k, vs⟩ he
    obtain ⟨hne, rfl⟩ := (h.mem_range k vs).1 he
    exact fun hc => hne ((firstSeenBy_eq_nil _ _).1 hc)

end Indexes

theorem byAddr_of_adds {lower : Bytes → Bytes} {rs : List Record} {s : Storage}
    (h : adds lower Storage.empty rs = .ok s) (a : Addr) :
    byAddr s a = firstSeenBy lower (namesFor rs a) := by
  rw [byAddr_eq, (adds_refines h).1.getD]

theorem byName_of_adds {lower : Bytes → Bytes} {rs : List Record} {s : Storage}
    (h : adds lower Storage.empty rs = .ok s) (n : Bytes) :
    byName lower s n = firstSeenBy id (addrsFor lower rs n) := by
  rw [byName_eq, (adds_refines h).2.getD]
  rfl

theorem mem_pairs {rs : List Record} {p : Addr × Bytes} :
    p ∈ pairs rs ↔ ∃ r ∈ rs, r.addr = p.1 ∧ p.2 ∈ r.names := by
  obtain ⟨a, n⟩ := p
  simp only [pairs, List.mem_flatMap, List.mem_map, Prod.mk.injEq]
  constructor
  · rintro ⟨r, hr, m, hm, rfl, rfl⟩; exact ⟨r, hr, rfl, hm⟩
  · rintro ⟨r, hr, rfl, hm⟩; exact ⟨r, hr, n, hm, rfl, rfl⟩

theorem filter_map_ne_nil {α β : Type} (p : α → Bool) (f : α → β) (l : List α) :
    (l.filter p).map f ≠ [] ↔ ∃ x ∈ l, p x = true := by
  rw [Ne, List.map_eq_nil_iff, List.filter_eq_nil_iff]
  simp only [Classical.not_forall, Classical.not_not, exists_prop]

theorem namesFor_ne_nil {rs : List Record} {a : Addr} :
    namesFor rs a ≠ [] ↔ ∃ r ∈ rs, r.addr = a ∧ r.names ≠ [] := by
  unfold namesFor
  rw [filter_map_ne_nil]
  simp only [decide_eq_true_eq]
  constructor
  · rintro ⟨p, hp, rfl⟩
    obtain ⟨r, hr, ha, hm⟩ := mem_pairs.1 hp
    exact ⟨r, hr, ha, List.ne_nil_of_mem hm⟩
  · rintro ⟨r, hr, rfl, hne⟩
    obtain ⟨n, hn⟩ := List.exists_mem_of_ne_nil _ hne
    exact ⟨(r.addr, n), mem_pairs.2 ⟨r, hr, rfl, hn⟩, rfl⟩

theorem addrsUnder_ne_nil {lower : Bytes → Bytes} {rs : List Record} {k : Bytes} :
    addrsUnder lower rs k ≠ [] ↔ ∃ r ∈ rs, ∃ n ∈ r.names, lower n = k := by
  unfold addrsUnder
  rw [filter_map_ne_nil]
  simp only [decide_eq_true_eq]
  constructor
  · rintro ⟨p, hp, rfl⟩
    obtain ⟨r, hr, _, hm⟩ := mem_pairs.1 hp
    exact ⟨r, hr, p.2, hm, rfl⟩
  · rintro ⟨r, hr, n, hn, rfl⟩
    exact ⟨(r.addr, n), mem_pairs.2 ⟨r, hr, rfl, hn⟩, rfl⟩

theorem byAddr_ne_nil_iff {lower : Bytes → Bytes} {rs : List Record} {s : Storage}
    (h : adds lower Storage.empty rs = .ok s) (a : Addr) :
    byAddr s a ≠ [] ↔ ∃ r ∈ rs, r.addr = a ∧ r.names ≠ [] := by
  rw [byAddr_of_adds h, Ne, firstSeenBy_eq_nil, ← Ne, namesFor_ne_nil]

theorem mem_keys_names_iff {lower : Bytes → Bytes} {rs : List Record} {s : Storage}
    (h : adds lower Storage.empty rs = .ok s) (a : Addr) :
    a ∈ keys s.names ↔ byAddr s a ≠ [] := by
  rw [(adds_refines h).1.mem_keys, byAddr_of_adds h, Ne, Ne, firstSeenBy_eq_nil]

/-- **The two indexes agree**, for every key of `addrs`: `a` was added with a name that
lower-cases to `k` iff some name listed under `ByAddr(a)` does -/
theorem mem_addrsUnder_iff {lower : Bytes → Bytes} {rs : List Record} {s : Storage}
    (h : adds lower Storage.empty rs = .ok s) (a : Addr) (k : Bytes) :
    a ∈ addrsUnder lower rs k ↔ ∃ m ∈ byAddr s a, lower m = k := by
  rw [byAddr_of_adds h, exists_mem_firstSeenBy]
  unfold addrsUnder namesFor
  simp only [List.mem_map, List.mem_filter, decide_eq_true_eq]
  constructor
  · rintro ⟨p, ⟨hp, hk⟩, rfl⟩; exact ⟨p.2, ⟨p, ⟨hp, rfl⟩, rfl⟩, hk⟩
  · rintro ⟨n, ⟨p, ⟨hp, rfl⟩, rfl⟩, hk⟩; exact ⟨p, ⟨hp, hk⟩, rfl⟩

theorem mem_keys_addrs_iff {lower : Bytes → Bytes} {rs : List Record} {s : Storage}
    (h : adds lower Storage.empty rs = .ok s) (k : Bytes) :
    k ∈ keys s.addrs ↔ ∃ a, ∃ m ∈ byAddr s a, lower m = k := by
  rw [(adds_refines h).2.mem_keys]
  constructor
  · intro hne
    obtain ⟨a, ha⟩ := List.exists_mem_of_ne_nil _ hne
    exact ⟨a, (mem_addrsUnder_iff h a k).1 ha⟩
  · rintro ⟨a, ha⟩
    exact List.ne_nil_of_mem ((mem_addrsUnder_iff h a k).2 ha)

/-- two storages reached by `Add`s that give the same `ByAddr` answers have the same keys in
both maps, hence maps of the same sizes: the keys are determined by the `ByAddr` answers -/
theorem keys_of_byAddr_eq {lower : Bytes → Bytes} {rs₁ rs₂ : List Record} {s t : Storage}
    (hs : adds lower Storage.empty rs₁ = .ok s) (ht : adds lower Storage.empty rs₂ = .ok t)
    (hb : ∀ a, byAddr s a = byAddr t a) :
    (∀ a, a ∈ keys s.names ↔ a ∈ keys t.names) ∧
    s.names.length = t.names.length ∧ s.addrs.length = t.addrs.length := by
  have hkn : ∀ a, a ∈ keys s.names ↔ a ∈ keys t.names := by
    intro a; rw [mem_keys_names_iff hs, mem_keys_names_iff ht, hb]
  have hka : ∀ k, k ∈ keys s.addrs ↔ k ∈ keys t.addrs := by
    intro k; rw [mem_keys_addrs_iff hs, mem_keys_addrs_iff ht]; simp only [hb]
  refine ⟨hkn, ?_, ?_⟩
  · rw [← keys_length, ← keys_length]
    exact ((List.perm_ext_iff_of_nodup (adds_refines hs).1.1 (adds_refines ht).1.1).2 hkn).length_eq
  · rw [← keys_length, ← keys_length]
    exact ((List.perm_ext_iff_of_nodup (adds_refines hs).2.1 (adds_refines ht).2.1).2 hka).length_eq

theorem rangeNames_keys (s : Storage) : (rangeNames s).map (·.1) = keys s.names := by
  simp [rangeNames, keys, List.map_map, Function.comp_def]

theorem rangeAddrs_keys (s : Storage) : (rangeAddrs s).map (·.1) = keys s.addrs := by
  simp [rangeAddrs, keys, List.map_map, Function.comp_def]

/-- `for k, v := range m { if !f(k, v) { return } }`, the map being iterated in the order
`ord`: the calls made to the callback, each with the answer it gave.  `σ` is whatever the
callback closes over (it may well change its answers from call to call). -/
def rangeLoop {α σ : Type} (f : σ → α → Bool × σ) : σ → List α → List (α × Bool) × σ
  | st, [] => ([], st)
  | st, x :: xs =>
    if (f st x).1 then (((x, true) :: (rangeLoop f (f st x).2 xs).1), (rangeLoop f (f st x).2 xs).2)
    else ([(x, false)], (f st x).2)

theorem rangeLoop_spec {α σ : Type} (f : σ → α → Bool × σ) :
    ∀ (ord : List α) (st : σ),
      ((rangeLoop f st ord).1.map (·.1)) <+: ord ∧
      (∀ e ∈ (rangeLoop f st ord).1.dropLast, e.2 = true) ∧
      ((rangeLoop f st ord).1.map (·.1) ≠ ord →
        ∃ e, (rangeLoop f st ord).1.getLast? = some e ∧ e.2 = false) ∧
      ((∀ e ∈ (rangeLoop f st ord).1, e.2 = true) → (rangeLoop f st ord).1.map (·.1) = ord) := by
  intro ord
  induction ord with
  | nil => intro st; simp [rangeLoop]
  | cons x xs ih =>
    intro st
    obtain ⟨i1, i2, i3, i4⟩ := ih (f st x).2
    unfold rangeLoop
    by_cases hc : (f st x).1 = true
    · simp only [hc, if_true, List.map_cons, List.cons.injEq, true_and, ne_eq]
      refine ⟨List.prefix_cons_inj x |>.2 i1, ?_, ?_, ?_⟩
      · intro e he
        cases hl : (rangeLoop f (f st x).2 xs).1 with
        | nil => rw [hl] at he; simp at he
        | cons y ys =>
          rw [hl, List.dropLast_cons_cons] at he
          rcases List.mem_cons.1 he with rfl | he
          · rfl
          · exact i2 e (by rw [hl]; exact he)
      · intro hne
        obtain ⟨e, he, hf⟩ := i3 hne
        refine ⟨e, ?_, hf⟩
        rw [List.getLast?_cons, he]; rfl
      · intro hall
        exact i4 (fun e he => hall e (List.mem_cons_of_mem _ he))
    · simp only [hc]
      have hcf : (f st x).1 = false := by simpa using hc
      refine ⟨by simp [List.prefix_iff_eq_append], by simp, fun _ => ⟨(x, false), by simp, rfl⟩, ?_⟩
      intro hall
      have := hall (x, false) (by simp)
      simp at this

theorem rangeLoop_perm {κ β σ : Type} (f : σ → κ × β → Bool × σ) (st : σ) {ord m : List (κ × β)}
    (hord : ord.Perm m) (hnd : (m.map (·.1)).Nodup) :
    (((rangeLoop f st ord).1.map (·.1)).map (·.1)).Nodup ∧ ∀ e ∈ (rangeLoop f st ord).1, e.1 ∈ m := by
  have hpre := (rangeLoop_spec f ord st).1
  refine ⟨(hpre.sublist.map (·.1)).nodup (((hord.map (·.1)).nodup_iff).2 hnd), fun e he => ?_⟩
  exact hord.mem_iff.1 (hpre.subset (List.mem_map.2 ⟨e, he, rfl⟩))

theorem rangeLoop_all {α σ : Type} (g : σ → α → σ) (ord : List α) (st : σ) :
    (rangeLoop (fun st x => (true, g st x)) st ord).1.map (·.1) = ord := by
  induction ord generalizing st with
  | nil => simp [rangeLoop]
  | cons x xs ih => simp [rangeLoop, ih]

theorem equal_some_iff (s o : Storage) :
    equal (some s) (some o) = true ↔
      s.names.length = o.names.length ∧ s.addrs.length = o.addrs.length ∧
      ∀ e ∈ s.names, ∃ on, o.names.get e.1 = some on ∧ e.2.vals = on.vals := by
  simp only [equal]
  split
  · rename_i hl
    exact ⟨nofun, fun ⟨h1, h2, _⟩ => hl.elim (absurd h1) (absurd h2)⟩
  · rename_i hl
    have hl' := not_or.1 hl
    rw [List.all_eq_true]
    refine ⟨fun h => ⟨Classical.not_not.1 hl'.1, Classical.not_not.1 hl'.2, fun e he => ?_⟩,
      fun ⟨_, _, h⟩ e he => ?_⟩
    · have := h e he
      cases hg : o.names.get e.1 with
      | none => rw [hg] at this; cases this
      | some on =>
        rw [hg] at this
        simp only [Bool.and_eq_true, decide_eq_true_eq, beq_iff_eq] at this
        exact ⟨on, rfl, this.2⟩
    · obtain ⟨on, hg, hv⟩ := h e he
      rw [hg]; simp [hv]

theorem equal_byAddr {s t : Storage} (hs : (keys s.names).Nodup)
    (h : equal (some s) (some t) = true) :
    (∀ a, a ∈ keys s.names ↔ a ∈ keys t.names) ∧ ∀ a, byAddr s a = byAddr t a := by
  obtain ⟨h1, _, h3⟩ := (equal_some_iff s t).1 h
  have hsub : ∀ a ∈ keys s.names, a ∈ keys t.names := by
    intro a ha
    obtain ⟨os, hg⟩ := get_of_mem_keys ha
    obtain ⟨on, hg', _⟩ := h3 (a, os) (mem_of_get hg)
    exact mem_keys_of_get hg'
  have hsup := List.mem_of_nodup_of_length_le hs hsub
    (by rw [keys_length, keys_length, h1]; exact Nat.le_refl _)
  refine ⟨fun a => ⟨hsub a, hsup a⟩, ?_⟩
  intro a
  cases hg : s.names.get a with
  | some os =>
    obtain ⟨on, hg', hv⟩ := h3 (a, os) (mem_of_get hg)
    simp only [] at hg' hv
    simp [byAddr, hg, hg', hv]
  | none =>
    have hna : a ∉ keys t.names := fun hc => (get_eq_none_iff _ _).1 hg (hsup a hc)
    have hg' := (get_eq_none_iff _ _).2 hna
    simp [byAddr, hg, hg']

end GolibsVerif.C08
