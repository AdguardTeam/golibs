/-
`reverseRangeCmpFunc`, `breakPatternsCmpFunc`, `choosePivotCmpFunc` of `Go/Sort.lean`: they
succeed, only permute `[a, b)`, and the chosen pivot index is in `[a, b)`.  (What they compute
beyond that influences the running time of pdqsort, not its result being sorted.)
-/
import GolibsVerif.Lemmas.SortBasic
import GolibsVerif.Lemmas.GoM

namespace GolibsVerif.Slices

variable {α : Type}

theorem reverseLoop_spec (d : Array α) (i j a b : Int) (ha : 0 ≤ a) (hi : a ≤ i) (hj : j < b) (hb : b ≤ d.size) :
    ∃ d', reverseLoop d i j = .ok d' ∧ Frame d d' a b := by
  fun_induction reverseLoop d i j with
  | case2 d i j hij => exact ⟨d, rfl, Frame.refl ..⟩
  | case1 d i j hij ih =>
    obtain ⟨d1, hs, hf1, _⟩ := swap_frame d i j a b ha hb (by omega) (by omega)
    obtain ⟨d2, h2, hf2⟩ := ih d1 (by omega) (by omega) (hf1.size_le hb)
    exact ⟨d2, by rw [hs]; exact h2, hf1.trans hf2⟩

theorem reverseRange_spec (d : Array α) (a b : Int) (ha : 0 ≤ a) (hb : b ≤ d.size) :
    ∃ d', reverseRange d a b = .ok d' ∧ Frame d d' a b :=
  reverseLoop_spec d a (b - 1) a b ha (Int.le_refl _) (by omega) hb

theorem two_pow_bitsLen_le (n : Nat) (hn : n ≠ 0) : 2 ^ bitsLen n ≤ 2 * n := by
  have := Nat.log2_self_le hn
  simp only [bitsLen, hn, if_false, Nat.pow_succ]
  omega

/-- the index `other` computed by `breakPatterns` is in `[0, length)` -/
theorem breakPatterns_other (length : Int) (hl : 0 < length) (r : UInt64) :
    let other : Int := ((r.toNat &&& (nextPowerOfTwo length.toNat - 1) : Nat) : Int)
    0 ≤ (if other ≥ length then other - length else other) ∧
      (if other ≥ length then other - length else other) < length := by
  intro other
  have h1 : r.toNat &&& (nextPowerOfTwo length.toNat - 1) < 2 ^ bitsLen length.toNat := by
    apply Nat.and_lt_two_pow
    rw [nextPowerOfTwo, Nat.one_shiftLeft]
    have : 0 < 2 ^ bitsLen length.toNat := Nat.two_pow_pos _
    omega
  have h2 := two_pow_bitsLen_le length.toNat (by omega)
  have h3 : other < 2 * length := by
    show ((r.toNat &&& (nextPowerOfTwo length.toNat - 1) : Nat) : Int) < 2 * length
    omega
  have h4 : 0 ≤ other := Int.natCast_nonneg _
  split <;> omega

theorem breakPatternsLoop_spec (d : Array α) (a b : Int) (random : UInt64) (idx last : Int) (ha : 0 ≤ a)
    (hab : a < b) (hidx : a ≤ idx) (hlast : last < b) (hb : b ≤ d.size) :
    ∃ d', breakPatternsLoop d a (b - a) (nextPowerOfTwo (b - a).toNat) random idx last = .ok d' ∧
      Frame d d' a b := by
  fun_induction breakPatternsLoop d a (b - a) (nextPowerOfTwo (b - a).toNat) random idx last with
  | case2 d random idx hle => exact ⟨d, rfl, Frame.refl ..⟩
  | case1 d random idx hle random' other' other ih =>
    have ho : 0 ≤ other ∧ other < b - a := breakPatterns_other (b - a) (by omega) random'
    obtain ⟨d1, hs, hf1, _⟩ := swap_frame d idx (a + other) a b ha hb (by omega) (by omega)
    obtain ⟨d2, h2, hf2⟩ := ih d1 (by omega) (hf1.size_le hb)
    exact ⟨d2, by rw [hs]; exact h2, hf1.trans hf2⟩

theorem breakPatterns_spec (d : Array α) (a b : Int) (ha : 0 ≤ a) (hb : b ≤ d.size) :
    ∃ d', breakPatterns d a b = .ok d' ∧ Frame d d' a b := by
  unfold breakPatterns
  by_cases hl : b - a ≥ 8
  · rw [if_pos hl, Int.tdiv_eq_ediv_of_nonneg (by omega)]
    exact breakPatternsLoop_spec d a b _ _ _ ha (by omega) (by omega) (by omega) hb
  · rw [if_neg hl]
    exact ⟨d, rfl, Frame.refl ..⟩

/-- `order2`, `median` and `choosePivot` return indices out of those they are given: here, indices
of the same range `[lo, hi)` -/
theorem order2_spec (cmp : α → α → Int) (d : Array α) (a b swaps : Int) {lo hi : Int} (hlo : 0 ≤ lo)
    (hhi : hi ≤ d.size) (ha : lo ≤ a ∧ a < hi) (hb : lo ≤ b ∧ b < hi) :
    ∃ x y s, order2 cmp d a b swaps = .ok (x, y, s) ∧ (lo ≤ x ∧ x < hi) ∧ (lo ≤ y ∧ y < hi) := by
  obtain ⟨u, hu⟩ := at?_eq_some d b (by omega)
  obtain ⟨v, hv⟩ := at?_eq_some d a (by omega)
  simp only [order2, get_ok hu, get_ok hv, GoM.ok_bind]
  split
  · exact ⟨b, a, _, rfl, hb, ha⟩
  · exact ⟨a, b, _, rfl, ha, hb⟩

theorem median_spec (cmp : α → α → Int) (d : Array α) (a b c swaps : Int) {lo hi : Int} (hlo : 0 ≤ lo)
    (hhi : hi ≤ d.size) (ha : lo ≤ a ∧ a < hi) (hb : lo ≤ b ∧ b < hi) (hc : lo ≤ c ∧ c < hi) :
    ∃ m s, median cmp d a b c swaps = .ok (m, s) ∧ lo ≤ m ∧ m < hi := by
  obtain ⟨a1, b1, s1, h1, ha1, hb1⟩ := order2_spec cmp d a b swaps hlo hhi ha hb
  obtain ⟨b2, c2, s2, h2, hb2, _⟩ := order2_spec cmp d b1 c s1 hlo hhi hb1 hc
  obtain ⟨a3, b3, s3, h3, _, hb3⟩ := order2_spec cmp d a1 b2 s2 hlo hhi ha1 hb2
  simp only [median, h1, h2, h3, GoM.ok_bind]
  exact ⟨b3, s3, rfl, hb3⟩

theorem medianAdjacent_spec (cmp : α → α → Int) (d : Array α) (x swaps : Int) {lo hi : Int} (hlo : 0 ≤ lo)
    (hhi : hi ≤ d.size) (h1 : lo < x) (h2 : x + 1 < hi) :
    ∃ m s, medianAdjacent cmp d x swaps = .ok (m, s) ∧ lo ≤ m ∧ m < hi :=
  median_spec cmp d (x - 1) x (x + 1) swaps hlo hhi (by omega) (by omega) (by omega)

theorem choosePivot_spec (cmp : α → α → Int) (d : Array α) (a b : Int) (ha : 0 ≤ a) (hab : a < b)
    (hb : b ≤ d.size) :
    ∃ pivot hint, choosePivot cmp d a b = .ok (pivot, hint) ∧ a ≤ pivot ∧ pivot < b := by
  have h0 : (0 : Int) ≤ b - a := by omega
  have fin : ∀ (j s : Int), a ≤ j ∧ j < b → ∃ pivot hint,
      (if s = 0 then (pure (j, SortedHint.increasing) : GoM (Int × SortedHint))
        else if s = maxSwaps then pure (j, SortedHint.decreasing) else pure (j, SortedHint.unknown)) =
        .ok (pivot, hint) ∧ a ≤ pivot ∧ pivot < b := by
    intro j s hj
    split
    · exact ⟨j, _, rfl, hj⟩
    · split
      · exact ⟨j, _, rfl, hj⟩
      · exact ⟨j, _, rfl, hj⟩
  unfold choosePivot
  simp only [Int.tdiv_eq_ediv_of_nonneg h0]
  -- the samples are `a + q`, `a + 2q`, `a + 3q` (and their neighbours) for the quarter `q` of the length
  have hq1 : 4 * ((b - a) / 4) ≤ b - a := by omega
  have hq2 : b - a < 4 * ((b - a) / 4) + 4 := by omega
  generalize (b - a) / 4 = q at hq1 hq2 ⊢
  by_cases h8 : b - a ≥ 8
  · simp only [h8, if_true]
    by_cases h50 : b - a ≥ shortestNinther
    · have h50' : b - a ≥ 50 := h50
      obtain ⟨i1, s1, e1, m1⟩ := medianAdjacent_spec cmp d (a + q * 1) 0 ha hb (by omega) (by omega)
      obtain ⟨j1, s2, e2, m2⟩ := medianAdjacent_spec cmp d (a + q * 2) s1 ha hb (by omega) (by omega)
      obtain ⟨k1, s3, e3, m3⟩ := medianAdjacent_spec cmp d (a + q * 3) s2 ha hb (by omega) (by omega)
      obtain ⟨m, s4, e4, m4⟩ := median_spec cmp d i1 j1 k1 s3 ha hb m1 m2 m3
      simp only [h50, if_true, e1, e2, e3, e4, GoM.ok_bind, GoM.pure_eq_ok]
      exact fin m s4 m4
    · obtain ⟨m, s4, e4, m4⟩ := median_spec cmp d (a + q * 1) (a + q * 2) (a + q * 3) 0 ha hb
        (by omega) (by omega) (by omega)
      simp only [h50, if_false, e4, GoM.ok_bind, GoM.pure_eq_ok]
      exact fin m s4 m4
  · simp only [h8, if_false, GoM.ok_bind, GoM.pure_eq_ok]
    exact fin _ 0 (by omega)

end GolibsVerif.Slices
