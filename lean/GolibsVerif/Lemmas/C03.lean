import GolibsVerif.Spec.C03
import GolibsVerif.Lemmas.GoM
import GolibsVerif.Lemmas.Strings

/-! C03: closed forms of `validateHostnameLabel` on the three shapes of a label, and then one
`Verdict` per validator (no panic; nil exactly on the grammar; what the error looks like): the
label validators (their errors are `*LabelError`s around a length or rune error, which is what
keeps `replaceKind` from panicking) and the generic label loop. -/
namespace GolibsVerif.C03
open GolibsVerif.Netutil GolibsVerif.Str GolibsVerif.Gen.Consts GolibsVerif

/-- an inner rune is an outer rune or the hyphen, and the hyphen is not an outer rune -/
theorem outer_iff (r : Nat) : isValidHostOuterRune r = true ↔ (isValidHostInnerRune r = true ∧ r ≠ 45) := by
  by_cases h : r = 45
  · subst h; decide
  · simp [isValidHostInnerRune, h]

theorem vhl_single (a : Nat) :
    validateHostnameLabel [a] =
      .ok (if isValidHostOuterRune a then none else some (.label .lblHost [a] (.rune .lblHost a))) := by
  by_cases h : isValidHostOuterRune a = true <;>
    simp [validateHostnameLabel, validateDomainNameLabel, MaxDomainLabelLen, bind, Except.bind, pure, Except.pure, h]

theorem vhl_nil : validateHostnameLabel [] =
    .ok (some (.label .lblHost [] (.length .lblHost [] 0 0))) := by
  simp [validateHostnameLabel, validateDomainNameLabel, replaceKind, Err.unwrap, bind, Except.bind, pure, Except.pure]

theorem vhl_cons_snoc (a : Nat) (mid : Bytes) (z : Nat) :
    validateHostnameLabel (a :: (mid ++ [z])) =
      let l := a :: (mid ++ [z])
      .ok (if l.length > MaxDomainLabelLen then
             some (.label .lblHost l (.length .lblHost [] MaxDomainLabelLen l.length))
           else if !isValidHostOuterRune a then some (.label .lblHost l (.rune .lblHost a))
           else match mid.find? (fun r => !isValidHostInnerRune r) with
             | some r => some (.label .lblHost l (.rune .lblHost r))
             | none => if !isValidHostOuterRune z then some (.label .lblHost l (.rune .lblHost z)) else none) := by
  unfold validateHostnameLabel validateDomainNameLabel
  simp only [List.cons_ne_nil, if_false]
  by_cases hlen : (a :: (mid ++ [z])).length > MaxDomainLabelLen
  · simp only [hlen, if_true]
    simp [replaceKind, Err.unwrap, bind, Except.bind, pure, Except.pure]
  · simp only [hlen, if_false]
    have hne1 : ((a :: (mid ++ [z])).length : Int) ≠ 1 := by simp; omega
    simp only [bind, Except.bind, pure, Except.pure, GoM.idx_zero_cons, GoM.slice_mid_snoc, GoM.idx_last_snoc, hne1, if_false]
    by_cases ha : isValidHostOuterRune a = true
    · simp only [ha]
      cases hf : mid.find? (fun r => !isValidHostInnerRune r) with
      | some r => simp
      | none =>
        by_cases hz : isValidHostOuterRune z = true <;> simp [hz]
    · simp [ha]

/-- the inner errors `replaceKind` is applied to are always length or rune errors -/
inductive Leaf : Err → Prop where
  | length (k al m n) : Leaf (.length k al m n)
  | rune (k r) : Leaf (.rune k r)

/-- `replaceKind` on a leaf, as a total function -/
def rekind (k : Kind) : Err → Err
  | .length _ al m n => .length k al m n
  | .rune _ r => .rune k r
  | e => e

theorem replaceKind_leaf (e : Err) (k : Kind) (h : Leaf e) : replaceKind (some e) k = .ok (rekind k e) := by
  cases h <;> rfl

theorem leaf_rekind (e : Err) (k : Kind) (h : Leaf e) : Leaf (rekind k e) := by
  cases h <;> constructor

theorem maxLabel_eq : MaxDomainLabelLen = 63 := rfl
theorem maxName_eq : MaxDomainNameLen = 253 := rfl
theorem maxSrv_eq : MaxServiceLabelLen = 16 := rfl

/-- The outcome of a validator call `x` that decides the grammar `P`: it does not panic, returns nil
exactly when `P` holds, and otherwise an error of which `E` holds.  Every validator of this file,
and `validateName` in `Theorems/C03`, is specified by one `Verdict`. -/
inductive Verdict (x : GoM (Option Err)) (P : Prop) (E : Err → Prop) : Prop where
  | accept (hx : x = .ok none) (hp : P)
  | reject (e : Err) (hx : x = .ok (some e)) (hp : ¬ P) (he : E e)

namespace Verdict
variable {x : GoM (Option Err)} {P Q : Prop} {E F : Err → Prop}

theorem total : Verdict x P E → ∃ r, x = .ok r
  | .accept hx _ => ⟨_, hx⟩
  | .reject _ hx _ _ => ⟨_, hx⟩

theorem none_iff : Verdict x P E → (x = .ok none ↔ P)
  | .accept hx hp => ⟨fun _ => hp, fun _ => hx⟩
  | .reject _ hx hp _ => ⟨fun h => (by rw [hx] at h; cases h), fun h => absurd h hp⟩

theorem shape : Verdict x P E → ∀ e, x = .ok (some e) → E e
  | .accept hx _, _, h => by rw [hx] at h; cases h
  | .reject _ hx _ he, _, h => by rw [hx] at h; cases h; exact he

/-- the same outcome for an equivalent grammar, with less said about the error -/
theorem weaken (hP : P ↔ Q) (hE : ∀ e, E e → F e) : Verdict x P E → Verdict x Q F
  | .accept hx hp => .accept hx (hP.1 hp)
  | .reject e hx hp he => .reject e hx (fun h => hp (hP.2 h)) (hE e he)

end Verdict

/-! `HostLabel` by the shape of the label, in the terms in which the code tests it: an outer rune at
each end, inner runes between. -/

theorem hostLabel_single (a : Nat) : HostLabel [a] ↔ isValidHostOuterRune a = true := by
  rw [outer_iff]
  exact ⟨fun h => ⟨h.chars a (by simp), by simpa using h.first⟩,
    fun h => ⟨by simp, by simp, by simpa using h.1, by simpa using h.2, by simpa using h.2⟩⟩

theorem hostLabel_cons_snoc (a : Nat) (mid : Bytes) (z : Nat) :
    HostLabel (a :: (mid ++ [z])) ↔ (a :: (mid ++ [z])).length ≤ 63 ∧ isValidHostOuterRune a = true ∧
      (∀ b ∈ mid, isValidHostInnerRune b = true) ∧ isValidHostOuterRune z = true := by
  rw [outer_iff, outer_iff]
  constructor
  · intro h
    have hlast := h.last
    rw [GoM.getLast?_cons_snoc] at hlast
    exact ⟨h.len_le, ⟨h.chars a (by simp), by simpa using h.first⟩, fun b hb => h.chars b (by simp [hb]),
      h.chars z (by simp), by simpa using hlast⟩
  · rintro ⟨hlen, ⟨ha, ha'⟩, hmid, hz, hz'⟩
    refine ⟨by simp, hlen, ?_, by simpa using ha', by rw [GoM.getLast?_cons_snoc]; simpa using hz'⟩
    intro b hb
    simp at hb
    rcases hb with rfl | hb | rfl
    · exact ha
    · exact hmid b hb
    · exact hz

/-- nil on a hostname label, and on anything else a `*LabelError` around a length or rune error -/
theorem vhl_verdict (l : Bytes) : Verdict (validateHostnameLabel l) (HostLabel l)
    (fun e => ∃ i, Leaf i ∧ e = .label .lblHost l i) := by
  rcases GoM.ends_cases l with rfl | ⟨a, rfl⟩ | ⟨a, mid, z, rfl⟩
  · exact .reject _ vhl_nil (fun h => absurd h.len_pos (by simp)) ⟨_, .length .., rfl⟩
  · rw [vhl_single, hostLabel_single]
    by_cases ha : isValidHostOuterRune a = true
    · exact .accept (by rw [if_pos ha]) ha
    · exact .reject _ (by rw [if_neg ha]) ha ⟨_, .rune .., rfl⟩
  · have hH := hostLabel_cons_snoc a mid z
    rw [vhl_cons_snoc]
    simp only [maxLabel_eq]
    by_cases hlen : (a :: (mid ++ [z])).length > 63
    · simp only [hlen, if_true]
      exact .reject _ rfl (fun h => absurd (hH.1 h).1 (by omega)) ⟨_, .length .., rfl⟩
    · simp only [hlen, if_false]
      cases ha : isValidHostOuterRune a with
      | false => exact .reject _ rfl (fun h => by rw [ha] at hH; exact nomatch (hH.1 h).2.1) ⟨_, .rune .., rfl⟩
      | true =>
        simp only [Bool.not_true, Bool.false_eq_true, if_false]
        cases hf : mid.find? (fun r => !isValidHostInnerRune r) with
        | some r =>
          refine .reject _ rfl (fun h => ?_) ⟨_, .rune .., rfl⟩
          simpa [(hH.1 h).2.2.1 r (List.mem_of_find?_eq_some hf)] using List.find?_some hf
        | none =>
          have hmid : ∀ b ∈ mid, isValidHostInnerRune b = true := fun b hb => by
            simpa using List.find?_eq_none.1 hf b hb
          cases hz : isValidHostOuterRune z with
          | false =>
            exact .reject _ rfl (fun h => by rw [hz] at hH; exact nomatch (hH.1 h).2.2.2) ⟨_, .rune .., rfl⟩
          | true => exact .accept rfl (hH.2 ⟨by omega, ha, hmid, hz⟩)

theorem hasValidTLDChars_iff (l : Bytes) : hasValidTLDChars l = true ↔ ∃ b ∈ l, isDigit b = false := by
  simp [hasValidTLDChars]

theorem vtld_verdict (l : Bytes) : Verdict (validateTLDLabel l) (TLDLabel l)
    (fun e => ∃ i, e = .label .lblTLD l i) := by
  rcases vhl_verdict l with ⟨h, hl⟩ | ⟨_, h, hl, i, hi, rfl⟩
  · by_cases hc : hasValidTLDChars l = true
    · exact .accept (by simp [validateTLDLabel, h, hc, bind, Except.bind, pure, Except.pure])
        ⟨hl, (hasValidTLDChars_iff l).1 hc⟩
    · exact .reject _ (by simp [validateTLDLabel, h, hc, bind, Except.bind, pure, Except.pure]; rfl)
        (fun ht => hc ((hasValidTLDChars_iff l).2 ht.2)) ⟨_, rfl⟩
  · exact .reject _ (by simp [validateTLDLabel, h, Err.unwrap, replaceKind_leaf _ _ hi, bind, Except.bind,
      pure, Except.pure]; rfl) (fun ht => hl ht.1) ⟨_, rfl⟩

/-- shape of every error `validateTLDLabel` returns -/
theorem vtld_err_shape (l : Bytes) (e : Err) (h : validateTLDLabel l = .ok (some e)) :
    ∃ i, e = .label .lblTLD l i :=
  (vtld_verdict l).shape e h

theorem srvLabel_cons (a : Nat) (t : Bytes) :
    SRVLabel (a :: t) ↔ a = 95 ∧ (a :: t).length ≤ 16 ∧ HostLabel t :=
  ⟨fun ⟨hlen, r, h, hr⟩ => by cases h; exact ⟨rfl, hlen, hr⟩, fun ⟨ha, hlen, ht⟩ => ⟨hlen, t, by rw [ha], ht⟩⟩

theorem vsrv_verdict (l : Bytes) : Verdict (validateServiceNameLabel l) (SRVLabel l) (fun _ => True) := by
  match l with
  | [] =>
    exact .reject _ (by simp [validateServiceNameLabel, pure, Except.pure]; rfl)
      (fun ⟨_, r, h, _⟩ => nomatch h) trivial
  | a :: t =>
    rw [srvLabel_cons]
    unfold validateServiceNameLabel
    by_cases h1 : (a :: t = [] ∨ a :: t = [95])
    · have ht : t = [] := by have := h1; simp at this; exact this.2
      exact .reject _ (by simp only [h1, if_true]; rfl)
        (fun h => absurd h.2.2.len_pos (by simp [ht])) trivial
    · simp only [h1, if_false, GoM.idx_zero_cons, bind, Except.bind, pure, Except.pure]
      by_cases ha : a ≠ 95
      · exact .reject _ (by simp only [ha, ne_eq, not_false_eq_true, if_true]; rfl) (fun h => ha h.1) trivial
      · simp only [ha, if_false, maxSrv_eq]
        by_cases hlen : (a :: t).length > 16
        · exact .reject _ (by simp only [hlen, if_true]; rfl) (fun h => absurd h.2.1 (by omega)) trivial
        · simp only [hlen, if_false, GoM.sliceFrom_one_cons]
          rcases vhl_verdict t with ⟨hr, ht⟩ | ⟨_, hr, ht, i, hi, rfl⟩
          · exact .accept (by simp only [hr]) ⟨by simpa using ha, by omega, ht⟩
          · exact .reject _ (by simp only [hr, Err.unwrap, replaceKind_leaf _ _ hi]; rfl)
              (fun h => ht h.2.2) trivial

/-- a per-label validator that never panics and accepts exactly `P` -/
def LabelValidator (f : Bytes → GoM (Option Err)) (P : Bytes → Prop) : Prop :=
  ∀ l, Verdict (f l) (P l) (fun _ => True)

theorem validateLabels_verdict {f P} (hf : LabelValidator f P) (ls : List Bytes) (hne : ls ≠ []) :
    Verdict (validateLabels f ls) (LabelsOK P ls) (fun _ => True) := by
  induction ls with
  | nil => exact absurd rfl hne
  | cons l rest ih =>
    cases rest with
    | nil => exact (vtld_verdict l).weaken .rfl (fun _ _ => trivial)
    | cons l' rest' =>
      rcases hf l with ⟨hr, hl⟩ | ⟨e, hr, hl, _⟩
      · have hx : validateLabels f (l :: l' :: rest') = validateLabels f (l' :: rest') := by
          simp [validateLabels, hr, bind, Except.bind]
        rw [hx]
        exact (ih (by simp)).weaken ⟨fun h => ⟨hl, h⟩, fun h => h.2⟩ (fun _ h => h)
      · exact .reject e (by simp [validateLabels, hr, bind, Except.bind, pure, Except.pure])
          (fun h => hl h.1) trivial

theorem hostValidator : LabelValidator validateHostnameLabel HostLabel :=
  fun l => (vhl_verdict l).weaken .rfl (fun _ _ => trivial)

theorem domainValidator : LabelValidator (fun l => pure (validateDomainNameLabel l)) DomainLabel := by
  intro l
  show Verdict (.ok (validateDomainNameLabel l)) _ _
  unfold validateDomainNameLabel DomainLabel
  simp only [maxLabel_eq]
  by_cases h0 : l = []
  · subst h0; exact .reject _ (by simp; rfl) (by simp) trivial
  · have : 1 ≤ l.length := List.length_pos_iff.2 h0
    by_cases h1 : l.length > 63
    · exact .reject _ (by simp only [h0, h1, if_true, if_false]; rfl) (by omega) trivial
    · exact .accept (by simp only [h0, h1, if_false]) ⟨this, by omega⟩

theorem srvValidator : LabelValidator
    (fun l => if hasPrefix l [95] then validateServiceNameLabel l else validateHostnameLabel l)
    (fun l => HostLabel l ∨ SRVLabel l) := by
  intro l
  by_cases h : hasPrefix l [95] = true
  · simp only [h, if_true]
    refine (vsrv_verdict l).weaken ⟨Or.inr, ?_⟩ (fun _ h => h)
    rintro (hh | hs)
    · -- a hostname label cannot start with '_'
      exfalso
      match l, h, hh with
      | [], h, _ => simp [hasPrefix] at h
      | a :: t, h, hh =>
        have ha : a = 95 := by have := h; simp [hasPrefix] at this; exact this.symm
        have := hh.chars a (by simp)
        subst ha
        simp [isValidHostInnerRune, isValidHostOuterRune, isLower, isUpper, isDigit] at this
    · exact hs
  · have h' : hasPrefix l [95] = false := by simpa using h
    simp only [h', Bool.false_eq_true, if_false]
    refine (vhl_verdict l).weaken ⟨Or.inl, ?_⟩ (fun _ _ => trivial)
    rintro (hh | ⟨_, r, hl, _⟩)
    · exact hh
    · subst hl; simp [hasPrefix] at h

/-- A name in the grammar does not start with a dot, if `idna.ToASCII` keeps a leading dot and the
label grammar has no empty label: the first piece of `".…"` is empty. -/
theorem NameOK.no_leading_dot {P : Bytes → Prop} (hP : ¬ P []) {toASCII : Bytes → Option Bytes}
    (hDot : ∀ s t, toASCII s = some t → s.head? = some 46 → t.head? = some 46)
    {a : Bytes} (h : NameOK P toASCII a) : a.head? ≠ some 46 := by
  intro hd
  obtain ⟨t, ht, _, _, hl⟩ := h
  have := hDot a t ht hd
  cases t with
  | nil => simp at this
  | cons c t =>
    simp at this; subst this
    rw [show splitOn 46 (46 :: t) = [] :: splitOn 46 t by simp [splitOn]] at hl
    cases hr : splitOn 46 t with
    | nil => exact absurd hr (splitOn_ne_nil 46 t)
    | cons p ps => rw [hr] at hl; exact hP hl.1

end GolibsVerif.C03
