/-
C17 — the inductive invariant of the OnceConstructor transition system and its preservation.

`Step` lists the transitions of `next`.  `Inv` is read as `PhaseInv`: every loader stored in the map is
in one of three phases (`Phase`: its token is in the channel; one thread holds the token and is
constructing; the channel is closed and the result cached), every thread relies on a few facts that
mention no other thread (`Thread`), and three clauses speak of the map.  A transition is one of
four kinds: it only moves a program counter (`PhaseInv.setPc`), writes the cells of a loader that is
not yet in the map (`PhaseInv.setOwn`), puts a loader into the map (`phaseInv_losMiss`), or moves the
loader it runs to its next phase (`PhaseInv.setLoader`).
-/
import GolibsVerif.Spec.C17

namespace GolibsVerif.C17

variable {K V : Type} [DecidableEq K]

/-- the invocation has executed its `Load` hit / `LoadOrStore` -/
def PC.afterLos : PC K V → Bool
  | .recv .. | .construct .. | .inCtor .. | .close .. | .readCached .. | .done .. => true
  | _ => false

/-- the loader the invocation is running -/
def PC.uses : PC K V → Option (K × Nat)
  | .recv k l | .construct k l | .inCtor k l | .close k l | .readCached k l => some (k, l)
  | _ => none

structure Inv (s : OState K V) : Prop where
  storedWf : ∀ k l, s.stored k = some l → (s.pc l).key = some k ∧ (s.pc l).afterLos = true
  usesStored : ∀ t k l, (s.pc t).uses = some (k, l) → s.stored k = some l
  fresh : ∀ t, (s.pc t).afterLos = false → s.taken t = 0
  atSend : ∀ t k, s.pc t = .send k → s.chan t = ⟨0, false⟩ ∧ s.cached t = none
  atLos : ∀ t k, s.pc t = .los k → s.chan t = ⟨1, false⟩ ∧ s.cached t = none
  token : ∀ k l, s.stored k = some l → s.taken l + (s.chan l).buf = 1
  full : ∀ k l, s.stored k = some l → (s.chan l).buf = 1 →
    (s.chan l).closed = false ∧ s.ctorCalls k = 0 ∧ s.cached l = none
  closed : ∀ k l, s.stored k = some l → (s.chan l).closed = true →
    s.ctorCalls k = 1 ∧ (s.cached l).isSome = true
  holder : ∀ k l, s.stored k = some l → (s.chan l).buf = 0 → (s.chan l).closed = false →
    ∃ h, (s.pc h).holds = some (k, l)
  holds : ∀ t k l, (s.pc t).holds = some (k, l) → (s.chan l).buf = 0 ∧ (s.chan l).closed = false
  holdsUnique : ∀ t t' k l, (s.pc t).holds = some (k, l) → (s.pc t').holds = some (k, l) → t = t'
  atConstruct : ∀ t k l, s.pc t = .construct k l → s.ctorCalls k = 0 ∧ s.cached l = none
  atInCtor : ∀ t k l, s.pc t = .inCtor k l → s.ctorCalls k = 1 ∧ s.cached l = none
  atClose : ∀ t k l, s.pc t = .close k l → s.ctorCalls k = 1 ∧ (s.cached l).isSome = true
  unstored : ∀ k, s.stored k = none → s.ctorCalls k = 0
  atRead : ∀ t k l, s.pc t = .readCached k l → (s.chan l).closed = true
  atDone : ∀ t k r, s.pc t = .done k r →
    ∃ l, s.stored k = some l ∧ (s.chan l).closed = true ∧ r = s.cached l
  noPanic : ∀ t k, s.pc t ≠ .panicked k
  takenStored : ∀ l, (∀ k, s.stored k ≠ some l) → s.taken l = 0

theorem inv_init : Inv (OState.init : OState K V) := by
  constructor <;> simp [OState.init, PC.key, PC.afterLos, PC.uses, PC.holds]

/-- The transitions of `next`, one constructor per enabled branch of the code: a step
`next s t i = some (s', e)` is exactly one of these (`Step.of_next`). -/
inductive Step (s : OState K V) (t : Nat) : In K V → OState K V → Option (Ev K V) → Prop
  | call (k : K) (hpc : s.pc t = .idle) :
      Step s t (.call k) { s with pc := upd s.pc t (.load k) } (some (.call t k))
  | loadHit {k : K} {l : Nat} (hpc : s.pc t = .load k) (hst : s.stored k = some l) :
      Step s t .tau { s with pc := upd s.pc t (.recv k l) } none
  | loadMiss {k : K} (hpc : s.pc t = .load k) (hst : s.stored k = none) :
      Step s t .tau { s with pc := upd s.pc t (.mk k) } none
  | mk {k : K} (hpc : s.pc t = .mk k) :
      Step s t .tau { s with pc := upd s.pc t (.send k), chan := upd s.chan t ⟨0, false⟩,
                             cached := upd s.cached t none } none
  | sendClosed {k : K} (hpc : s.pc t = .send k) (hc : (s.chan t).closed = true) :
      Step s t .tau { s with pc := upd s.pc t (.panicked k) } none
  | send {k : K} (hpc : s.pc t = .send k) (hc : (s.chan t).closed = false) (hb : (s.chan t).buf < 1) :
      Step s t .tau { s with pc := upd s.pc t (.los k),
                             chan := upd s.chan t ⟨(s.chan t).buf + 1, false⟩ } none
  | losHit {k : K} {l : Nat} (hpc : s.pc t = .los k) (hst : s.stored k = some l) :
      Step s t .tau { s with pc := upd s.pc t (.recv k l) } none
  | losMiss {k : K} (hpc : s.pc t = .los k) (hst : s.stored k = none) :
      Step s t .tau { s with pc := upd s.pc t (.recv k t), stored := upd s.stored k (some t) } none
  | recvOk {k : K} {l : Nat} (hpc : s.pc t = .recv k l) (hb : 0 < (s.chan l).buf) :
      Step s t .tau { s with pc := upd s.pc t (.construct k l),
                             chan := upd s.chan l ⟨(s.chan l).buf - 1, (s.chan l).closed⟩,
                             taken := upd s.taken l (s.taken l + 1) } none
  | recvClosed {k : K} {l : Nat} (hpc : s.pc t = .recv k l) (hb : ¬ 0 < (s.chan l).buf)
      (hc : (s.chan l).closed = true) :
      Step s t .tau { s with pc := upd s.pc t (.readCached k l) } none
  | ctorStart {k : K} {l : Nat} (hpc : s.pc t = .construct k l) :
      Step s t .tau { s with pc := upd s.pc t (.inCtor k l),
                             ctorCalls := upd s.ctorCalls k (s.ctorCalls k + 1) } (some (.ctorStart k))
  | ctorEnd {k : K} {l : Nat} (v : V) (hpc : s.pc t = .inCtor k l) :
      Step s t (.ctorRet v) { s with pc := upd s.pc t (.close k l), cached := upd s.cached l (some v) }
        (some (.ctorEnd k v))
  | closeClosed {k : K} {l : Nat} (hpc : s.pc t = .close k l) (hc : (s.chan l).closed = true) :
      Step s t .tau { s with pc := upd s.pc t (.panicked k) } none
  | close {k : K} {l : Nat} (hpc : s.pc t = .close k l) (hc : (s.chan l).closed = false) :
      Step s t .tau { s with pc := upd s.pc t (.readCached k l),
                             chan := upd s.chan l ⟨(s.chan l).buf, true⟩ } none
  | ret {k : K} {l : Nat} (hpc : s.pc t = .readCached k l) :
      Step s t .tau { s with pc := upd s.pc t (.done k (s.cached l)) } (some (.ret t k (s.cached l)))

theorem Step.of_next {s s' : OState K V} {t : Nat} {i : In K V} {e : Option (Ev K V)}
    (hn : next s t i = some (s', e)) : Step s t i s' e := by
  unfold next at hn
  split at hn
  next _ _ k hpc => cases hn; exact .call k hpc
  next _ _ k hpc =>
    split at hn
    next l hst => cases hn; exact .loadHit hpc hst
    next hst => cases hn; exact .loadMiss hpc hst
  next _ _ k hpc => cases hn; exact .mk hpc
  next _ _ k hpc =>
    split at hn
    next hc => cases hn; exact .sendClosed hpc hc
    next hc =>
      split at hn
      next hb => cases hn; exact .send hpc (Bool.eq_false_iff.mpr hc) hb
      next => cases hn
  next _ _ k hpc =>
    split at hn
    next l hst => cases hn; exact .losHit hpc hst
    next hst => cases hn; exact .losMiss hpc hst
  next _ _ k l hpc =>
    split at hn
    next hb => cases hn; exact .recvOk hpc hb
    next hb =>
      split at hn
      next hc => cases hn; exact .recvClosed hpc hb hc
      next => cases hn
  next _ _ k l hpc => cases hn; exact .ctorStart hpc
  next _ _ k l v hpc => cases hn; exact .ctorEnd v hpc
  next _ _ k l hpc =>
    split at hn
    next hc => cases hn; exact .closeClosed hpc hc
    next hc => cases hn; exact .close hpc (Bool.eq_false_iff.mpr hc)
  next _ _ k l hpc => cases hn; exact .ret hpc
  next => cases hn

theorem Step.to_next {s s' : OState K V} {t : Nat} {i : In K V} {e : Option (Ev K V)}
    (h : Step s t i s' e) : next s t i = some (s', e) := by
  cases h <;> simp_all [next]

/-- `holder` clause when the step does not create or retire a holder -/
macro "holder_old" h9:ident : tactic =>
  `(tactic| (
    intro k' l' hs hb hc
    obtain ⟨w, hw⟩ := $h9 k' l' (by grind [upd_apply]) (by grind [upd_apply]) (by grind [upd_apply])
    exact ⟨w, by grind [upd_apply, PC.holds]⟩))

/-- `atDone` clause when the step creates no `done` program counter -/
macro "done_old" h17:ident : tactic =>
  `(tactic| (
    intro t' k' r hp
    obtain ⟨l', h1', h2', h3'⟩ := $h17 t' k' r (by grind [upd_apply])
    exact ⟨l', by grind [upd_apply], by grind [upd_apply], by grind [upd_apply]⟩))

section
omit [DecidableEq K]

theorem holds_uses {p : PC K V} {x : K × Nat} (h : p.holds = some x) : p.uses = some x := by
  cases p <;> simp_all [PC.holds, PC.uses]

theorem PC.uses_of_before {p : PC K V} (h : p.afterLos = false) : p.uses = none := by
  cases p <;> simp_all [PC.afterLos, PC.uses]

theorem PC.holds_of_before {p : PC K V} (h : p.afterLos = false) : p.holds = none := by
  cases p <;> simp_all [PC.afterLos, PC.holds]

theorem PC.key_of_uses {p : PC K V} {k : K} {l : Nat} (h : p.uses = some (k, l)) :
    p.key = some k ∧ p.afterLos = true := by
  cases p <;> simp_all [PC.uses, PC.key, PC.afterLos]

theorem PC.holds_cases {p : PC K V} {k : K} {l : Nat} (hp : p.holds = some (k, l)) :
    p = .construct k l ∨ p = .inCtor k l ∨ p = .close k l := by
  cases p <;> simp_all [PC.holds]

/-- a thread before its `LoadOrStore` is not stored in the map -/
theorem not_stored_of_before {s : OState K V}
    (hwf : ∀ k l, s.stored k = some l → (s.pc l).key = some k ∧ (s.pc l).afterLos = true)
    {t : Nat} (hb : (s.pc t).afterLos = false) : ∀ k, s.stored k ≠ some t := by
  intro k hk
  have := (hwf k t hk).2
  simp [hb] at this

/-- a loader is stored under one key only -/
theorem stored_key_unique {s : OState K V}
    (hwf : ∀ k l, s.stored k = some l → (s.pc l).key = some k ∧ (s.pc l).afterLos = true)
    {k k' : K} {l : Nat} (hk : s.stored k = some l) (hk' : s.stored k' = some l) : k' = k := by
  have a := (hwf k' l hk').1
  have b := (hwf k l hk).1
  simpa [a] using b

theorem upd_self {α β : Type} [DecidableEq α] (f : α → β) (a : α) : upd f a (f a) = f := by
  funext x; by_cases h : x = a <;> simp [upd, h]

/-- the `storedWf` clause when thread `t` moves to a `p` that keeps its key, if it is after its
`LoadOrStore` -/
theorem storedWf_upd {s : OState K V}
    (hwf : ∀ k l, s.stored k = some l → (s.pc l).key = some k ∧ (s.pc l).afterLos = true)
    {t : Nat} {p : PC K V}
    (hkey : (s.pc t).afterLos = true → p.key = (s.pc t).key ∧ p.afterLos = true) :
    ∀ k l, s.stored k = some l → (upd s.pc t p l).key = some k ∧ (upd s.pc t p l).afterLos = true := by
  intro k l hs
  have := hwf k l hs
  by_cases hl : l = t
  · subst hl; rw [upd_same]; exact ⟨(hkey this.2).1.trans this.1, (hkey this.2).2⟩
  · rwa [upd_other _ _ _ _ hl]

/-- what the holder of the token, at `p`, has done so far to `ctorCalls k` and `cached l` -/
def HeldOk : PC K V → Nat → Option V → Prop
  | .construct .., c, v => c = 0 ∧ v = none
  | .inCtor .., c, v => c = 1 ∧ v = none
  | .close .., c, v => c = 1 ∧ v.isSome = true
  | _, _, _ => False

/-- The life of the loader `l` stored under `k`: its token is in the channel; or one thread `h` has
received it and is constructing; or the channel is closed and `cached l` is the result. -/
inductive Phase (s : OState K V) (k : K) (l : Nat) : Prop
  | full (hb : (s.chan l).buf = 1) (hc : (s.chan l).closed = false) (htk : s.taken l = 0)
      (hcc : s.ctorCalls k = 0) (hca : s.cached l = none)
      (hno : ∀ x, (s.pc x).holds ≠ some (k, l))
  | held (h : Nat) (hb : (s.chan l).buf = 0) (hc : (s.chan l).closed = false) (htk : s.taken l = 1)
      (hh : (s.pc h).holds = some (k, l)) (huniq : ∀ x, (s.pc x).holds = some (k, l) → x = h)
      (hok : HeldOk (s.pc h) (s.ctorCalls k) (s.cached l))
  | closed (hb : (s.chan l).buf = 0) (hc : (s.chan l).closed = true) (htk : s.taken l = 1)
      (hcc : s.ctorCalls k = 1) (hca : (s.cached l).isSome = true)
      (hno : ∀ x, (s.pc x).holds ≠ some (k, l))

/-- what thread `x` at `p` relies on, its loader's phase apart -/
structure Thread (s : OState K V) (x : Nat) (p : PC K V) : Prop where
  usesStored : ∀ k l, p.uses = some (k, l) → s.stored k = some l
  fresh : p.afterLos = false → s.taken x = 0
  atSend : ∀ k, p = .send k → s.chan x = ⟨0, false⟩ ∧ s.cached x = none
  atLos : ∀ k, p = .los k → s.chan x = ⟨1, false⟩ ∧ s.cached x = none
  atRead : ∀ k l, p = .readCached k l → (s.chan l).closed = true
  atDone : ∀ k r, p = .done k r →
    ∃ l, s.stored k = some l ∧ (s.chan l).closed = true ∧ r = s.cached l
  noPanic : ∀ k, p ≠ .panicked k

structure PhaseInv (s : OState K V) : Prop where
  thread : ∀ x, Thread s x (s.pc x)
  loader : ∀ k l, s.stored k = some l → Phase s k l
  storedWf : ∀ k l, s.stored k = some l → (s.pc l).key = some k ∧ (s.pc l).afterLos = true
  unstored : ∀ k, s.stored k = none → s.ctorCalls k = 0
  takenStored : ∀ l, (∀ k, s.stored k ≠ some l) → s.taken l = 0

/-- the phase of a stored loader, read off the clauses of `Inv` -/
theorem Inv.phase {s : OState K V} (h : Inv s) {k : K} {l : Nat} (hs : s.stored k = some l) :
    Phase s k l := by
  have htok := h.token k l hs
  by_cases hb : (s.chan l).buf = 1
  · obtain ⟨hc, hcc, hca⟩ := h.full k l hs hb
    exact .full hb hc (by omega) hcc hca fun x hx => by have := (h.holds x k l hx).1; omega
  · have hb0 : (s.chan l).buf = 0 := by omega
    cases hc : (s.chan l).closed with
    | true =>
      obtain ⟨hcc, hca⟩ := h.closed k l hs hc
      exact .closed hb0 hc (by omega) hcc hca fun x hx => by simp [(h.holds x k l hx).2] at hc
    | false =>
      obtain ⟨w, hw⟩ := h.holder k l hs hb0 hc
      refine .held w hb0 hc (by omega) hw (fun x hx => h.holdsUnique x w k l hx hw) ?_
      rcases PC.holds_cases hw with hp | hp | hp <;> rw [hp]
      · exact h.atConstruct w k l hp
      · exact h.atInCtor w k l hp
      · exact h.atClose w k l hp

theorem Inv.toPhaseInv {s : OState K V} (h : Inv s) : PhaseInv s where
  thread x := ⟨h.usesStored x, h.fresh x, h.atSend x, h.atLos x, h.atRead x, h.atDone x, h.noPanic x⟩
  loader _ _ := h.phase
  storedWf := h.storedWf
  unstored := h.unstored
  takenStored := h.takenStored

/-- what the thread `t` that holds the token of `(k, l)` knows: the loader is stored and in phase
`held`, by `t` -/
structure Held (s : OState K V) (t : Nat) (k : K) (l : Nat) : Prop where
  stored : s.stored k = some l
  buf : (s.chan l).buf = 0
  isOpen : (s.chan l).closed = false
  taken : s.taken l = 1
  uniq : ∀ x, (s.pc x).holds = some (k, l) → x = t
  ok : HeldOk (s.pc t) (s.ctorCalls k) (s.cached l)

theorem PhaseInv.held {s : OState K V} (h : PhaseInv s) {t : Nat} {k : K} {l : Nat}
    (hh : (s.pc t).holds = some (k, l)) : Held s t k l := by
  have hs := (h.thread t).usesStored k l (holds_uses hh)
  cases h.loader k l hs with
  | full _ _ _ _ _ hno | closed _ _ _ _ _ hno => exact absurd hh (hno t)
  | held w hb hc htk hw huniq hok => obtain rfl := huniq t hh; exact ⟨hs, hb, hc, htk, huniq, hok⟩

theorem PhaseInv.toInv {s : OState K V} (h : PhaseInv s) : Inv s where
  storedWf := h.storedWf
  usesStored x := (h.thread x).usesStored
  fresh x := (h.thread x).fresh
  atSend x := (h.thread x).atSend
  atLos x := (h.thread x).atLos
  token k l hs := by cases h.loader k l hs <;> omega
  full k l hs hb := by
    cases h.loader k l hs with
    | full _ hc _ hcc hca _ => exact ⟨hc, hcc, hca⟩
    | held | closed => omega
  closed k l hs hc := by
    cases h.loader k l hs with
    | closed _ _ _ hcc hca _ => exact ⟨hcc, hca⟩
    | full _ hc' | held _ _ hc' => simp [hc'] at hc
  holder k l hs hb hc := by
    cases h.loader k l hs with
    | held w _ _ _ hw => exact ⟨w, hw⟩
    | full => omega
    | closed _ hc' => simp [hc'] at hc
  holds t k l hh := ⟨(h.held hh).buf, (h.held hh).isOpen⟩
  holdsUnique t t' k l ht ht' := (h.held ht').uniq t ht
  atConstruct t k l hp := by
    simpa only [hp, HeldOk] using (h.held (t := t) (k := k) (l := l) (by simp [hp, PC.holds])).ok
  atInCtor t k l hp := by
    simpa only [hp, HeldOk] using (h.held (t := t) (k := k) (l := l) (by simp [hp, PC.holds])).ok
  atClose t k l hp := by
    simpa only [hp, HeldOk] using (h.held (t := t) (k := k) (l := l) (by simp [hp, PC.holds])).ok
  unstored := h.unstored
  atRead x := (h.thread x).atRead
  atDone x := (h.thread x).atDone
  noPanic x := (h.thread x).noPanic
  takenStored := h.takenStored


/-! ### Frames -/

/-- What a thread at `p` relies on, and so what a step of another thread must leave alone: the map
entries (they may grow), the thread's own cells while it is before its `LoadOrStore`, and the closed
flag and `cached` cell of closed stored loaders. -/
theorem Thread.frame {s s' : OState K V} {x : Nat} {p : PC K V} (h : Thread s x p)
    (hst : ∀ k l, s.stored k = some l → s'.stored k = some l)
    (hown : p.afterLos = false →
      s'.taken x = s.taken x ∧ s'.chan x = s.chan x ∧ s'.cached x = s.cached x)
    (hclosed : ∀ k l, s.stored k = some l → (s.chan l).closed = true →
      (s'.chan l).closed = true ∧ s'.cached l = s.cached l) : Thread s' x p where
  usesStored k l hq := hst k l (h.usesStored k l hq)
  fresh hq := (hown hq).1 ▸ h.fresh hq
  atSend k hq := by
    obtain ⟨_, h2, h3⟩ := hown (by simp [hq, PC.afterLos])
    rw [h2, h3]; exact h.atSend k hq
  atLos k hq := by
    obtain ⟨_, h2, h3⟩ := hown (by simp [hq, PC.afterLos])
    rw [h2, h3]; exact h.atLos k hq
  atRead k l hq :=
    (hclosed k l (h.usesStored k l (by simp [hq, PC.uses])) (h.atRead k l hq)).1
  atDone k r hq := by
    obtain ⟨l, hs, hc, hr⟩ := h.atDone k r hq
    obtain ⟨hc', hca⟩ := hclosed k l hs hc
    exact ⟨l, hst k l hs, hc', hca ▸ hr⟩
  noPanic := h.noPanic

/-- The phase of `(k, l)` reads the four cells of the loader and the threads that hold its token:
it is kept by a step of a thread that neither holds that token nor comes to hold it. -/
theorem Phase.frame {s s' : OState K V} {k : K} {l : Nat} (h : Phase s k l) {t : Nat} {p : PC K V}
    (hpc : s'.pc = upd s.pc t p) (ht : (s.pc t).holds ≠ some (k, l)) (hp : p.holds ≠ some (k, l))
    (hch : s'.chan l = s.chan l) (htk : s'.taken l = s.taken l)
    (hcc : s'.ctorCalls k = s.ctorCalls k) (hca : s'.cached l = s.cached l) : Phase s' k l := by
  have hold : ∀ x, (s'.pc x).holds = some (k, l) → x ≠ t ∧ (s.pc x).holds = some (k, l) := by
    intro x hx
    rw [hpc] at hx
    by_cases hxt : x = t
    · subst hxt; rw [upd_same] at hx; exact absurd hx hp
    · rw [upd_other _ _ _ _ hxt] at hx; exact ⟨hxt, hx⟩
  cases h with
  | full hb hc htk' hcc' hca' hno =>
    exact .full (hch ▸ hb) (hch ▸ hc) (htk ▸ htk') (hcc ▸ hcc') (hca ▸ hca') fun x hx => hno x (hold x hx).2
  | closed hb hc htk' hcc' hca' hno =>
    exact .closed (hch ▸ hb) (hch ▸ hc) (htk ▸ htk') (hcc ▸ hcc') (hca ▸ hca') fun x hx => hno x (hold x hx).2
  | held w hb hc htk' hw huniq hok =>
    have hwt : s'.pc w = s.pc w := by
      rw [hpc, upd_other _ _ _ _ (by rintro rfl; exact ht hw)]
    exact .held w (hch ▸ hb) (hch ▸ hc) (htk ▸ htk') (hwt ▸ hw) (fun x hx => huniq x (hold x hx).2)
      (by rw [hwt, hcc, hca]; exact hok)


/-! ### Steps -/

/-- thread `t` moves to `p`, the other program counters stay -/
theorem threads_upd {s s' : OState K V} {t : Nat} {p : PC K V} (hpc : s'.pc = upd s.pc t p)
    (ht : Thread s' t p) (ho : ∀ x, x ≠ t → Thread s' x (s.pc x)) (x : Nat) : Thread s' x (s'.pc x) := by
  rw [hpc]
  by_cases hx : x = t
  · subst hx; rwa [upd_same]
  · rw [upd_other _ _ _ _ hx]; exact ho x hx

/-- who holds a token after its only possible holder `t` has moved to `p` -/
theorem holders_upd {s : OState K V} {t : Nat} {p : PC K V} {y : K × Nat}
    (huniq : ∀ x, (s.pc x).holds = some y → x = t) {x : Nat} (hx : (upd s.pc t p x).holds = some y) :
    x = t ∧ p.holds = some y := by
  by_cases hxt : x = t
  · subst hxt; rw [upd_same] at hx; exact ⟨rfl, hx⟩
  · rw [upd_other _ _ _ _ hxt] at hx; exact absurd (huniq x hx) hxt

/-- a step that only moves the program counter of a thread that holds no token -/
theorem PhaseInv.setPc {s : OState K V} (h : PhaseInv s) {t : Nat} {p : PC K V} (hp : Thread s t p)
    (hkey : (s.pc t).afterLos = true → p.key = (s.pc t).key ∧ p.afterLos = true)
    (hh : (s.pc t).holds = none) (hph : p.holds = none) :
    PhaseInv ({ s with pc := upd s.pc t p } : OState K V) where
  thread := threads_upd rfl
    (hp.frame (fun _ _ h => h) (fun _ => ⟨rfl, rfl, rfl⟩) (fun _ _ _ h => ⟨h, rfl⟩))
    fun x _ => (h.thread x).frame (fun _ _ h => h) (fun _ => ⟨rfl, rfl, rfl⟩) (fun _ _ _ h => ⟨h, rfl⟩)
  loader k l hs := (h.loader k l hs).frame rfl (by simp [hh]) (by simp [hph]) rfl rfl rfl rfl
  storedWf := storedWf_upd h.storedWf hkey
  unstored := h.unstored
  takenStored := h.takenStored

/-- A thread that has not executed its `LoadOrStore` writes its own channel and `cached` cell:
it is not stored in the map, so no other thread and no phase looks at them. -/
theorem PhaseInv.setOwn {s : OState K V} (h : PhaseInv s) {t : Nat} {p : PC K V} {c : Chan} {v : Option V}
    (hb : (s.pc t).afterLos = false) (hp : p.afterLos = false)
    (hsend : ∀ k, p = .send k → c = ⟨0, false⟩ ∧ v = none)
    (hlos : ∀ k, p = .los k → c = ⟨1, false⟩ ∧ v = none)
    (hpanic : ∀ k, p ≠ .panicked k) :
    PhaseInv ({ s with pc := upd s.pc t p, chan := upd s.chan t c, cached := upd s.cached t v } :
      OState K V) := by
  have hst : ∀ {k l}, s.stored k = some l → l ≠ t :=
    fun hs hl => not_stored_of_before h.storedWf hb _ (hl ▸ hs)
  exact {
    thread := threads_upd rfl
      { usesStored := by simp [PC.uses_of_before hp]
        fresh := fun _ => (h.thread t).fresh hb
        atSend := by simpa only [upd_same] using hsend
        atLos := by simpa only [upd_same] using hlos
        atRead := fun k l hq => by simp [hq, PC.afterLos] at hp
        atDone := fun k r hq => by simp [hq, PC.afterLos] at hp
        noPanic := hpanic }
      fun x hx => (h.thread x).frame (fun _ _ h => h)
        (fun _ => ⟨rfl, upd_other _ _ _ _ hx, upd_other _ _ _ _ hx⟩)
        (fun k l hs hc => ⟨(congrArg Chan.closed (upd_other s.chan t l c (hst hs))).trans hc,
          upd_other _ _ _ _ (hst hs)⟩)
    loader := fun k l hs => (h.loader k l hs).frame rfl (by simp [PC.holds_of_before hb])
      (by simp [PC.holds_of_before hp]) (upd_other _ _ _ _ (hst hs)) rfl rfl (upd_other _ _ _ _ (hst hs))
    storedWf := fun k l hs => by
      simpa only [upd_other s.pc t l p (hst hs)] using h.storedWf k l hs
    unstored := h.unstored
    takenStored := h.takenStored }

/-- The thread `t` that runs the stored loader `(k, l)`, whose channel is open, may write the four
cells of that loader: no other thread relies on them and no other phase reads them.  What is left
to show is the thread's own claim at its new program counter and the new phase of `(k, l)`. -/
theorem PhaseInv.setLoader [DecidableEq K] {s : OState K V} (h : PhaseInv s) {t : Nat} {k : K} {l : Nat} {p : PC K V}
    {c : Chan} {n : Nat} {v : Option V} {m : Nat}
    (hu : (s.pc t).uses = some (k, l)) (hp : p.uses = some (k, l)) (hopen : (s.chan l).closed = false)
    (hthr : Thread ({ s with pc := upd s.pc t p, chan := upd s.chan l c, taken := upd s.taken l n, cached := upd s.cached l v, ctorCalls := upd s.ctorCalls k m } : OState K V) t p)
    (hph : Phase ({ s with pc := upd s.pc t p, chan := upd s.chan l c, taken := upd s.taken l n, cached := upd s.cached l v, ctorCalls := upd s.ctorCalls k m } : OState K V) k l) :
    PhaseInv ({ s with pc := upd s.pc t p, chan := upd s.chan l c, taken := upd s.taken l n, cached := upd s.cached l v, ctorCalls := upd s.ctorCalls k m } : OState K V) := by
  have hst := (h.thread t).usesStored k l hu
  -- another stored loader is stored under another key
  have hne : ∀ {k' l'}, s.stored k' = some l' → l' ≠ l → k' ≠ k :=
    fun hs hl hk => hl (Option.some.inj ((hk ▸ hs).symm.trans hst))
  have hlafter := (h.storedWf k l hst).2
  -- `t` holds no other token, before or after
  have hnh : ∀ {q : PC K V} {k' l'}, q.uses = some (k, l) → l' ≠ l → q.holds ≠ some (k', l') :=
    fun hq hl hh => hl (Prod.mk.inj (Option.some.inj ((holds_uses hh).symm.trans hq))).2
  exact {
    thread := threads_upd rfl hthr fun x _ => (h.thread x).frame (fun _ _ h => h)
      (fun hq => by
        have hxl : x ≠ l := by rintro rfl; simp [hlafter] at hq
        exact ⟨upd_other _ _ _ _ hxl, upd_other _ _ _ _ hxl, upd_other _ _ _ _ hxl⟩)
      (fun k' l' _ hc => by
        have hl : l' ≠ l := by rintro rfl; simp [hopen] at hc
        exact ⟨(congrArg Chan.closed (upd_other s.chan l l' c hl)).trans hc, upd_other _ _ _ _ hl⟩)
    loader := fun k' l' hs => by
      by_cases hl : l' = l
      · subst hl; obtain rfl := stored_key_unique h.storedWf hst hs; exact hph
      · exact (h.loader k' l' hs).frame rfl (hnh hu hl) (hnh hp hl) (upd_other _ _ _ _ hl)
          (upd_other _ _ _ _ hl) (upd_other _ _ _ _ (hne hs hl)) (upd_other _ _ _ _ hl)
    storedWf := storedWf_upd h.storedWf fun _ =>
      ⟨(PC.key_of_uses hp).1.trans (PC.key_of_uses hu).1.symm, (PC.key_of_uses hp).2⟩
    unstored := fun k' hs =>
      (upd_other _ _ _ _ (by rintro rfl; simp [hst] at hs)).trans (h.unstored k' hs)
    takenStored := fun l' hl' =>
      (upd_other _ _ _ _ (by rintro rfl; exact hl' k hst)).trans (h.takenStored l' hl') }


end

theorem phaseInv_recvOk {s : OState K V} {t : Nat} {k : K} {l : Nat} (h : PhaseInv s) (hpc : s.pc t = .recv k l)
    (hb : 0 < (s.chan l).buf) :
    PhaseInv ({ s with pc := upd s.pc t (.construct k l),
                       chan := upd s.chan l ⟨(s.chan l).buf - 1, (s.chan l).closed⟩,
                       taken := upd s.taken l (s.taken l + 1) } : OState K V) := by
  have hst := (h.thread t).usesStored k l (by simp [hpc, PC.uses])
  -- the token is in the channel: the loader is `full`, and `t` becomes its holder
  cases h.loader k l hst with
  | held | closed => omega
  | full hb1 hc htk hcc hca hno =>
    have := h.setLoader (t := t) (p := .construct k l) (c := ⟨(s.chan l).buf - 1, (s.chan l).closed⟩)
      (n := s.taken l + 1) (v := s.cached l) (m := s.ctorCalls k) (by simp [hpc, PC.uses]) rfl hc
      (by constructor <;> simp [PC.uses, PC.afterLos, hst])
      (.held t (by simp [hb1]) (by simp [hc]) (by simp [htk]) (by simp [PC.holds])
        (fun x hx => (holders_upd (fun y hy => absurd hy (hno y)) hx).1) (by simp [HeldOk, hcc, hca]))
    simpa only [upd_self] using this

/-- The holder of the token of `(k, l)` goes on constructing: it sets `ctorCalls k` and `cached l` to
what its new program counter claims of them, and keeps the token. -/
theorem PhaseInv.heldStep {s : OState K V} {t : Nat} {k : K} {l : Nat} {p : PC K V} {m : Nat}
    {v : Option V} (h : PhaseInv s) (hh : (s.pc t).holds = some (k, l)) (hp : p.holds = some (k, l))
    (hok : HeldOk p m v) :
    PhaseInv ({ s with pc := upd s.pc t p, cached := upd s.cached l v,
                       ctorCalls := upd s.ctorCalls k m } : OState K V) := by
  obtain ⟨hst, hb, hc, htk, huniq, -⟩ := h.held hh
  have := h.setLoader (c := s.chan l) (n := s.taken l) (v := v) (m := m) (holds_uses hh) (holds_uses hp) hc
    (by rcases PC.holds_cases hp with rfl | rfl | rfl <;> constructor <;> simp [PC.uses, PC.afterLos, hst])
    (.held t (by simp [hb]) (by simp [hc]) (by simp [htk]) (by simp [hp])
      (fun x hx => (holders_upd huniq hx).1) (by simpa using hok))
  simpa only [upd_self] using this

theorem phaseInv_close {s : OState K V} {t : Nat} {k : K} {l : Nat} (h : PhaseInv s) (hpc : s.pc t = .close k l) :
    PhaseInv ({ s with pc := upd s.pc t (.readCached k l),
                       chan := upd s.chan l ⟨(s.chan l).buf, true⟩ } : OState K V) := by
  obtain ⟨hst, hb, hc, htk, huniq, hok⟩ := h.held (t := t) (k := k) (l := l) (by simp [hpc, PC.holds])
  simp only [hpc, HeldOk] at hok
  have := h.setLoader (t := t) (p := .readCached k l) (c := ⟨(s.chan l).buf, true⟩) (n := s.taken l)
    (v := s.cached l) (m := s.ctorCalls k) (by simp [hpc, PC.uses]) rfl hc
    (by constructor <;> simp [PC.uses, PC.afterLos, hst])
    (.closed (by simp [hb]) (by simp) (by simp [htk]) (by simp [hok]) (by simp [hok])
      fun x hx => by simpa [PC.holds] using (holders_upd huniq hx).2)
  simpa only [upd_self] using this

theorem phaseInv_losMiss {s : OState K V} {t : Nat} {k : K} (h : PhaseInv s) (hpc : s.pc t = .los k)
    (hst : s.stored k = none) :
    PhaseInv ({ s with pc := upd s.pc t (.recv k t), stored := upd s.stored k (some t) } : OState K V) := by
  have hns := not_stored_of_before h.storedWf (t := t) (by simp [hpc, PC.afterLos])
  obtain ⟨hch, hca⟩ := (h.thread t).atLos k hpc
  -- the new map: the entry `k ↦ t` is new, every other entry is old
  have hmono : ∀ {k' l}, s.stored k' = some l → upd s.stored k (some t) k' = some l := by
    intro k' l hs
    have : k' ≠ k := by rintro rfl; simp [hst] at hs
    rwa [upd_other _ _ _ _ this]
  have hold : ∀ {k' l}, upd s.stored k (some t) k' = some l →
      (k' = k ∧ l = t) ∨ (l ≠ t ∧ s.stored k' = some l) := by
    intro k' l hs
    by_cases hk : k' = k
    · subst hk; exact .inl ⟨rfl, by simpa using hs.symm⟩
    · rw [upd_other _ _ _ _ hk] at hs
      exact .inr ⟨fun hl => hns k' (hl ▸ hs), hs⟩
  exact {
    thread := threads_upd rfl (by constructor <;> simp [PC.uses, PC.afterLos])
      fun x _ => (h.thread x).frame (fun _ _ hs => hmono hs) (fun _ => ⟨rfl, rfl, rfl⟩)
        (fun _ _ _ hc => ⟨hc, rfl⟩)
    loader := fun k' l hs => by
      rcases hold hs with ⟨rfl, rfl⟩ | ⟨hl, hs'⟩
      · -- the published loader starts `full`; nobody used it before, so nobody holds its token
        refine .full (by simp [hch]) (by simp [hch]) ((h.thread l).fresh (by simp [hpc, PC.afterLos]))
          (h.unstored _ hst) hca fun x hx => ?_
        have := (holders_upd (t := l) (fun y hy => ?_) hx).2
        · simp [PC.holds] at this
        · have := (h.thread y).usesStored _ _ (holds_uses hy); simp [hst] at this
      · exact (h.loader k' l hs').frame rfl (by simp [hpc, PC.holds]) (by simp [PC.holds]) rfl rfl rfl rfl
    storedWf := fun k' l hs => by
      rcases hold hs with ⟨rfl, rfl⟩ | ⟨hl, hs'⟩
      · simp [PC.key, PC.afterLos]
      · simpa only [upd_other s.pc t l _ hl] using h.storedWf k' l hs'
    unstored := fun k' hs => by
      have : k' ≠ k := by rintro rfl; simp at hs
      exact h.unstored k' (by simpa only [upd_other _ _ _ _ this] using hs)
    takenStored := fun l hl => h.takenStored l fun k' hk' => hl k' (hmono hk') }

theorem phaseInv_step {s s' : OState K V} {t : Nat} {i : In K V} {e : Option (Ev K V)} (h : PhaseInv s)
    (hn : next s t i = some (s', e)) : PhaseInv s' := by
  have ht := h.thread t
  cases Step.of_next hn with
  | call k hpc | loadMiss hpc _ =>
    -- before `LoadOrStore` the only claim is that the thread has not received a token
    have htk := ht.fresh (by simp [hpc, PC.afterLos])
    refine h.setPc ?_ (by simp [hpc, PC.afterLos]) (by simp [hpc, PC.holds]) rfl
    constructor <;> simp [PC.uses, PC.afterLos, htk]
  | loadHit hpc hst | losHit hpc hst =>
    refine h.setPc ?_ (by simp [hpc, PC.afterLos]) (by simp [hpc, PC.holds]) rfl
    constructor <;> simp [PC.uses, PC.afterLos, hst]
  | @recvClosed k l hpc _ hc =>
    have hst := ht.usesStored k l (by simp [hpc, PC.uses])
    refine h.setPc ?_ (by simp [hpc, PC.afterLos, PC.key]) (by simp [hpc, PC.holds]) rfl
    constructor <;> simp [PC.uses, PC.afterLos, hst, hc]
  | @ret k l hpc =>
    have hst := ht.usesStored k l (by simp [hpc, PC.uses])
    have hcl := ht.atRead k l hpc
    refine h.setPc ?_ (by simp [hpc, PC.afterLos, PC.key]) (by simp [hpc, PC.holds]) rfl
    constructor <;> simp [PC.uses, PC.afterLos, hst, hcl]
  | mk hpc =>
    exact h.setOwn (by simp [hpc, PC.afterLos]) rfl (fun _ _ => ⟨rfl, rfl⟩) (by simp) (by simp)
  | @sendClosed k hpc hc => simp [(ht.atSend k hpc).1] at hc
  | @send k hpc _ _ =>
    obtain ⟨hch, hca⟩ := ht.atSend k hpc
    have := h.setOwn (t := t) (p := .los k) (c := ⟨(s.chan t).buf + 1, false⟩) (v := s.cached t)
      (by simp [hpc, PC.afterLos]) rfl (by simp) (fun _ _ => by simp [hch, hca]) (by simp)
    simpa only [upd_self] using this
  | losMiss hpc hst => exact phaseInv_losMiss h hpc hst
  | recvOk hpc hb => exact phaseInv_recvOk h hpc hb
  | @ctorStart k l hpc =>
    have hh : (s.pc t).holds = some (k, l) := by simp [hpc, PC.holds]
    have hok : s.ctorCalls k = 0 ∧ s.cached l = none := by simpa only [hpc, HeldOk] using (h.held hh).ok
    simpa only [upd_self] using h.heldStep hh (p := .inCtor k l) (m := s.ctorCalls k + 1)
      (v := s.cached l) rfl (by simp [HeldOk, hok])
  | @ctorEnd k l v hpc =>
    have hh : (s.pc t).holds = some (k, l) := by simp [hpc, PC.holds]
    have hok : s.ctorCalls k = 1 ∧ s.cached l = none := by simpa only [hpc, HeldOk] using (h.held hh).ok
    simpa only [upd_self] using h.heldStep hh (p := .close k l) (m := s.ctorCalls k) (v := some v) rfl
      (by simp [HeldOk, hok])
  | @closeClosed k l hpc hc => simp [(h.held (t := t) (k := k) (l := l) (by simp [hpc, PC.holds])).isOpen] at hc
  | close hpc _ => exact phaseInv_close h hpc

theorem inv_step {s s' : OState K V} {t : Nat} {i : In K V} {e : Option (Ev K V)} (h : Inv s)
    (hn : next s t i = some (s', e)) : Inv s' :=
  (phaseInv_step h.toPhaseInv hn).toInv

theorem reachable_inv {s : OState K V} (h : Reachable s) : Inv s := by
  induction h with
  | init => exact inv_init
  | step _ hn ih => exact inv_step ih hn

/-! ## ChanSemaphore -/

/-- The transitions of `snext`, one constructor per enabled branch. -/
inductive SStep (s : SState) : SLabel → SState → Prop
  | acquire {t ctx : Nat} (hpc : s.pc t = .idle) :
      SStep s (.acquire t ctx) { s with pc := upd s.pc t (.acquiring ctx) }
  | acqOk {t ctx : Nat} (hpc : s.pc t = .acquiring ctx) (hc : s.c < s.cap) :
      SStep s (.acqOk t) { s with c := s.c + 1, acq := s.acq + 1, pc := upd s.pc t .idle }
  | acqErr {t ctx : Nat} (hpc : s.pc t = .acquiring ctx) (hd : s.done ctx = true) :
      SStep s (.acqErr t) { s with pc := upd s.pc t .idle }
  | release {t : Nat} (hpc : s.pc t = .idle) (hc : 0 < s.c) :
      SStep s (.release t) { s with c := s.c - 1, rel := s.rel + 1 }
  | releaseNoop {t : Nat} (hpc : s.pc t = .idle) (hc : ¬ 0 < s.c) :
      SStep s (.release t) { s with rel := s.rel + 1, relNoop := s.relNoop + 1 }
  | handoff {tr ta ctx : Nat} (hr : s.pc tr = .idle) (ha : s.pc ta = .acquiring ctx) (hc : s.c = s.cap) :
      SStep s (.handoff tr ta) { s with acq := s.acq + 1, rel := s.rel + 1, pc := upd s.pc ta .idle }
  | cancel (ctx : Nat) : SStep s (.cancel ctx) { s with done := upd s.done ctx true }

theorem SStep.of_snext {s s' : SState} {l : SLabel} (hn : snext s l = some s') : SStep s l s' := by
  cases l with
  | acquire t ctx =>
    simp only [snext] at hn
    split at hn
    next hpc => cases hn; exact .acquire hpc
    next => cases hn
  | acqOk t =>
    simp only [snext] at hn
    split at hn
    next ctx hpc =>
      split at hn
      next hc => cases hn; exact .acqOk hpc hc
      next => cases hn
    next => cases hn
  | acqErr t =>
    simp only [snext] at hn
    split at hn
    next ctx hpc =>
      split at hn
      next hd => cases hn; exact .acqErr hpc hd
      next => cases hn
    next => cases hn
  | release t =>
    simp only [snext] at hn
    split at hn
    next hpc =>
      split at hn
      next hc => cases hn; exact .release hpc hc
      next hc => cases hn; exact .releaseNoop hpc hc
    next => cases hn
  | handoff tr ta =>
    simp only [snext] at hn
    split at hn
    next ctx hr ha =>
      split at hn
      next hc => cases hn; exact .handoff hr ha hc
      next => cases hn
    next => cases hn
  | cancel ctx => cases hn; exact .cancel ctx

end GolibsVerif.C17
