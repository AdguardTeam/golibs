import GolibsVerif.Lemmas.C03
import GolibsVerif.Lemmas.Strings

/-! C02, hostname half: the allocation-free `IsValidHostnameLabel` / `IsValidHostname` are the
error-returning validators with the error forgotten (`Except.map Option.isNone`): the same tests
and the same accesses in the same order, so the two are unfolded side by side and what either
computes plays no part. -/
namespace GolibsVerif.C02
open GolibsVerif.Netutil GolibsVerif.Str GolibsVerif.Gen.Consts GolibsVerif GolibsVerif.C03

/-- a Boolean validator that is the error-returning one with the error forgotten never panics if
that one does not, and is `true` exactly when that one returns nil -/
theorem of_eq_map {x : GoM Bool} {r : GoM (Option Err)} (h : x = r.map Option.isNone)
    (ht : ∃ v, r = .ok v) : (∃ b, x = .ok b) ∧ (x = .ok true ↔ r = .ok none) := by
  obtain ⟨v, rfl⟩ := ht
  rw [h]
  cases v <;> simp [Except.map]

theorem any_eq_find?_isSome {α} (p : α → Bool) (l : List α) : l.any p = (l.find? p).isSome := by
  rw [Bool.eq_iff_iff]; simp

theorem ivhl_map (l : Bytes) :
    isValidHostnameLabel l = (validateHostnameLabel l).map Option.isNone := by
  unfold isValidHostnameLabel validateHostnameLabel validateDomainNameLabel
  by_cases h0 : l = []
  · simp [h0, replaceKind, Err.unwrap, bind, Except.bind, pure, Except.pure, Except.map]
  by_cases hlen : l.length > MaxDomainLabelLen
  · simp [h0, hlen, replaceKind, Err.unwrap, bind, Except.bind, pure, Except.pure, Except.map]
  simp only [h0, hlen, if_false, bind, Except.bind, pure, Except.pure, any_eq_find?_isSome]
  cases GoM.idx l 0 with
  | error e => rfl
  | ok a =>
    dsimp only
    cases isValidHostOuterRune a with
    | false => rfl
    | true =>
      by_cases h1 : (l.length : Int) = 1
      · simp [h1, Except.map]
      simp only [h1, if_false, Bool.not_true, Bool.false_eq_true]
      cases GoM.slice l 1 ((l.length : Int) - 1) with
      | error e => rfl
      | ok mid =>
        dsimp only
        cases mid.find? (fun r => !isValidHostInnerRune r) with
        | some r => rfl
        | none =>
          cases GoM.idx l ((l.length : Int) - 1) with
          | error e => rfl
          | ok z => dsimp only; cases isValidHostOuterRune z <;> rfl

/-- here what `ValidateHostnameLabel` returns does matter: `replaceKind` panics on an error it does
not know -/
theorem ivtld_map (l : Bytes) : isValidTLDLabel l = (validateTLDLabel l).map Option.isNone := by
  unfold isValidTLDLabel validateTLDLabel
  rw [ivhl_map]
  rcases vhl_verdict l with ⟨h, _⟩ | ⟨_, h, _, i, hi, rfl⟩ <;> rw [h]
  · cases hasValidTLDChars l <;> rfl
  · simp [Err.unwrap, replaceKind_leaf _ _ hi, bind, Except.bind, pure, Except.pure, Except.map]

theorem isValidLabels_map (ls : List Bytes) (hne : ls ≠ []) :
    isValidLabels ls = (validateLabels validateHostnameLabel ls).map Option.isNone := by
  induction ls with
  | nil => exact absurd rfl hne
  | cons l rest ih =>
    cases rest with
    | nil => exact ivtld_map l
    | cons l' rest' =>
      simp only [isValidLabels, validateLabels, ivhl_map, bind, Except.bind]
      cases validateHostnameLabel l with
      | error e => rfl
      | ok r =>
        cases r with
        | some e => rfl
        | none => exact ih (by simp)

theorem isValidHostname_map (toASCII : Bytes → Option Bytes) (s : Bytes) :
    isValidHostname toASCII s = (validateHostname toASCII s).map Option.isNone := by
  unfold isValidHostname validateHostname validateName
  cases toASCII s with
  | none => rfl
  | some n =>
    simp only [bind, Except.bind, pure, Except.pure]
    by_cases h0 : n = []
    · simp [h0, Except.map]
    by_cases hlen : n.length > MaxDomainNameLen
    · simp [h0, hlen, Except.map]
    simp only [h0, hlen, if_false]
    rw [isValidLabels_map _ (splitOn_ne_nil 46 n)]
    cases validateLabels validateHostnameLabel (splitOn 46 n) with
    | error e => rfl
    | ok r => cases r <;> rfl

end GolibsVerif.C02
