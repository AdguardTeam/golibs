/-
C19 — lemmas about the backing-array heap: what `append`, `Clip`, `Grow`, `Record.AddAttrs`
do to the heap and to the views of existing slices.
-/
import GolibsVerif.Model.C19
import GolibsVerif.Lemmas.ListFacts

namespace GolibsVerif.C19

/-- A slice header is meaningful in a heap: `len ≤ cap ≤` length of its backing array.
(A nil / zero-capacity slice is meaningful in every heap.) -/
def Slice.wf (hp : Heap) (s : Slice) : Prop :=
  s.len ≤ s.cap ∧ s.cap ≤ (arrayOf hp s.arr).length

instance (hp : Heap) (s : Slice) : Decidable (s.wf hp) := by
  unfold Slice.wf; exact inferInstance

/-- the attributes `AddAttrs` keeps -/
def keep (as : List Attr) : List Attr := as.filter fun a => !a.isEmptyGroup

theorem take_len_add {α} (A B : List α) (m n : Nat) (h : A.length = m) :
    (A ++ B).take (m + n) = A ++ B.take n :=
  h ▸ List.take_length_add_append n

theorem drop_len_add {α} (A B : List α) (m n : Nat) (h : A.length = m) :
    (A ++ B).drop (m + n) = B.drop n :=
  h ▸ List.drop_length_add_append n

theorem arrayOf_append_left (hp ext : Heap) (i : Nat) (h : i < hp.length) :
    arrayOf (hp ++ ext) i = arrayOf hp i := by
  simp [arrayOf, List.getElem?_append_left h]

theorem arrayOf_lt_of_pos {hp : Heap} {i : Nat} (h : 0 < (arrayOf hp i).length) : i < hp.length := by
  unfold arrayOf at h
  by_cases hi : i < hp.length
  · exact hi
  · simp [List.getElem?_eq_none (Nat.le_of_not_lt hi)] at h

theorem arrayOf_length (hp : Heap) (a : List Attr) : arrayOf (hp ++ [a]) hp.length = a := by
  simp [arrayOf]

theorem Slice.wf_nil (hp : Heap) : Slice.nil.wf hp := by
  simp [Slice.wf, Slice.nil]

theorem view_length {hp : Heap} {s : Slice} (h : s.wf hp) : (view hp s).length = s.len := by
  unfold view
  rw [List.length_take]
  have := h.1; have := h.2
  omega

theorem view_ext {hp : Heap} {s : Slice} (h : s.wf hp) (ext : Heap) :
    view (hp ++ ext) s = view hp s := by
  unfold view
  by_cases h0 : s.len = 0
  · simp [h0]
  · have hpos : 0 < (arrayOf hp s.arr).length := by have := h.1; have := h.2; omega
    rw [arrayOf_append_left hp ext s.arr (arrayOf_lt_of_pos hpos)]

theorem Slice.wf_ext {hp : Heap} {s : Slice} (h : s.wf hp) (ext : Heap) : s.wf (hp ++ ext) := by
  by_cases h0 : s.cap = 0
  · refine ⟨h.1, ?_⟩; omega
  · have hpos : 0 < (arrayOf hp s.arr).length := by have := h.2; omega
    refine ⟨h.1, ?_⟩
    rw [arrayOf_append_left hp ext s.arr (arrayOf_lt_of_pos hpos)]
    exact h.2

theorem set_arrayOf_self (hp : Heap) (i : Nat) : hp.set i (arrayOf hp i) = hp := by
  apply List.ext_getElem?
  intro j
  by_cases hij : i = j
  · subst hij
    by_cases hi : i < hp.length
    · simp [arrayOf, hi]
    · have := Nat.le_of_not_lt hi
      simp [this]
  · simp [hij]

/-- `append` that must reallocate: a new array is pushed, nothing else changes. -/
theorem append_realloc (pol : Policy) (hp : Heap) (s : Slice) (xs : List Attr)
    (h : s.cap < s.len + xs.length) :
    append pol hp s xs =
      (hp ++ [view hp s ++ xs ++ List.replicate (pol hp.length s.len s.cap xs.length) Attr.zero],
       { arr := hp.length, len := s.len + xs.length,
         cap := s.len + xs.length + pol hp.length s.len s.cap xs.length }) := by
  unfold append
  have : ¬ (s.len + xs.length ≤ s.cap) := by omega
  simp [this]

/-- `append(slices.Clip(s), xs...)`: never writes to an existing array. -/
theorem append_clip (pol : Policy) (hp : Heap) (s : Slice) (xs : List Attr) (h : s.wf hp) :
    ∃ ext, (append pol hp (clip s) xs).1 = hp ++ ext ∧
      (append pol hp (clip s) xs).2.wf (hp ++ ext) ∧
      view (hp ++ ext) (append pol hp (clip s) xs).2 = view hp s ++ xs := by
  have hv : (List.take s.len (arrayOf hp s.arr)).length = s.len := view_length h
  by_cases hx : xs = []
  · subst hx
    refine ⟨[], ?_, ?_, ?_⟩
    · simp [append, clip, set_arrayOf_self]
    · simp only [append, clip, List.length_nil, Nat.add_zero, Nat.le_refl, if_true, List.append_nil]
      exact ⟨Nat.le_refl _, Nat.le_trans h.1 h.2⟩
    · simp [append, clip, view]
  · have hre : (clip s).cap < (clip s).len + xs.length :=
      Nat.lt_add_of_pos_right (List.length_pos_iff.mpr hx)
    rw [append_realloc pol hp (clip s) xs hre]
    refine ⟨_, rfl, ⟨Nat.le_add_right _ _, ?_⟩, ?_⟩
    · simp only [arrayOf_length, view, clip, List.length_append, List.length_replicate, hv]
      exact Nat.le_refl _
    · simp only [view, arrayOf_length, clip]
      rw [List.append_assoc, take_len_add _ _ _ _ hv, List.take_left' rfl]

theorem fillFront_concat (f as : List Attr) :
    (fillFront f as).1 ++ keep (fillFront f as).2 = f ++ keep as := by
  induction as generalizing f with
  | nil => simp [fillFront, keep]
  | cons a rest ih =>
    unfold fillFront
    by_cases hl : f.length < nAttrsInline
    · by_cases he : a.isEmptyGroup
      · simp only [hl, he, if_true]
        rw [ih f]; simp [keep, he]
      · have he' : a.isEmptyGroup = false := by simpa using he
        simp only [hl, he', if_true, Bool.false_eq_true, if_false]
        rw [ih (f ++ [a])]; simp [keep, he']
    · simp [hl]

theorem fillFront_full (f as : List Attr) (h : f.length = nAttrsInline) :
    fillFront f as = (f, as) := by
  cases as with
  | nil => simp [fillFront]
  | cons a rest => simp [fillFront, h]

theorem keep_length (as : List Attr) : as.length - countEmptyGroups as = (keep as).length := by
  have h := List.length_eq_countP_add_countP (·.isEmptyGroup) (l := as)
  simp only [List.countP_eq_length_filter, decide_not, Bool.decide_eq_true] at h
  unfold countEmptyGroups keep
  omega

/-- `append` within capacity on the newest array of the heap, whose first `len` cells are `pre`:
the new elements are written over the cells that follow. -/
theorem append_newest (pol : Policy) (hp : Heap) (pre spare xs : List Attr) (c : Nat)
    (h : pre.length + xs.length ≤ c) :
    append pol (hp ++ [pre ++ spare]) { arr := hp.length, len := pre.length, cap := c } xs =
      (hp ++ [pre ++ xs ++ spare.drop xs.length],
       { arr := hp.length, len := pre.length + xs.length, cap := c }) := by
  unfold append
  rw [if_pos h]
  simp only [arrayOf_length, List.set_append_cons_length, List.take_left' rfl, drop_len_add _ _ _ _ rfl]

/-- The last loop of `AddAttrs`, when it runs on the newest array of the heap with enough
room: everything is written into that array, no other array is touched. -/
theorem appendEach_newest (pol : Policy) (hp : Heap) (pre spare : List Attr) (l c : Nat)
    (rest : List Attr) (hl : pre.length = l) (hroom : l + (keep rest).length ≤ c) :
    appendEach pol (hp ++ [pre ++ spare]) { arr := hp.length, len := l, cap := c } rest =
      (hp ++ [pre ++ keep rest ++ spare.drop (keep rest).length],
       { arr := hp.length, len := l + (keep rest).length, cap := c }) := by
  subst hl
  induction rest generalizing pre spare with
  | nil => simp [appendEach, keep]
  | cons x rest ih =>
    unfold appendEach
    by_cases he : x.isEmptyGroup
    · have hk : keep (x :: rest) = keep rest := by simp [keep, he]
      rw [hk] at hroom ⊢
      rw [if_pos he]
      exact ih pre spare hroom
    · have hk : keep (x :: rest) = x :: keep rest := by simp [keep, he]
      rw [hk] at hroom ⊢
      rw [if_neg he, append_newest pol hp pre spare [x] c (by simp at hroom ⊢; omega)]
      -- the array now begins with `pre ++ [x]`
      have := ih (pre ++ [x]) (spare.drop 1) (by simp at hroom ⊢; omega)
      simpa [Nat.add_assoc, Nat.add_comm 1] using this

theorem appendEach_keep_nil (pol : Policy) (hp : Heap) (s : Slice) (rest : List Attr)
    (h : keep rest = []) : appendEach pol hp s rest = (hp, s) := by
  induction rest with
  | nil => simp [appendEach]
  | cons x rest ih =>
    unfold appendEach
    by_cases he : x.isEmptyGroup
    · simp only [he, if_true]
      apply ih; simpa [keep, he] using h
    · simp [keep, he] at h

theorem grow_zero (pol : Policy) (hp : Heap) (s : Slice) : grow pol hp s 0 = (hp, s) := by
  simp [grow]

/-- `slices.Grow` of a clipped slice by `n > 0`: a new array, the old one untouched. -/
theorem grow_clipped (pol : Policy) (hp : Heap) (arr len n : Nat) (hn : 0 < n) :
    grow pol hp { arr := arr, len := len, cap := len } n =
      (hp ++ [view hp { arr := arr, len := len, cap := len } ++
              List.replicate (n + pol hp.length len len n) Attr.zero],
       { arr := hp.length, len := len, cap := len + n + pol hp.length len len n }) := by
  have hg : ¬ n ≤ len - len := by omega
  rw [grow, if_neg hg]
  simp only [Nat.sub_self, Nat.sub_zero]
  rw [append_realloc pol hp _ _ (by simp only [List.length_replicate]; omega)]
  simp [List.replicate_append_replicate, view]

/-- `AddAttrs` on a *cloned* record: the heap is only extended, the front is filled as the
first loop says, and the back afterwards reads as the old back followed by the kept rest. -/
theorem addAttrs_clone (pol : Policy) (hp : Heap) (r : Record) (attrs : List Attr)
    (hw : r.back.wf hp) :
    ∃ ext, (r.clone.addAttrs pol hp attrs).1 = hp ++ ext ∧
      (r.clone.addAttrs pol hp attrs).2.level = r.level ∧
      (r.clone.addAttrs pol hp attrs).2.rid = r.rid ∧
      (r.clone.addAttrs pol hp attrs).2.front = (fillFront r.front attrs).1 ∧
      view (hp ++ ext) (r.clone.addAttrs pol hp attrs).2.back =
        view hp r.back ++ keep (fillFront r.front attrs).2 := by
  unfold Record.addAttrs
  simp only [Record.clone, clip, Nat.lt_irrefl, gt_iff_lt, if_false]
  rw [keep_length]
  generalize (fillFront r.front attrs).2 = rest
  by_cases hk : keep rest = []
  · refine ⟨[], ?_⟩
    simp only [hk, List.length_nil, grow_zero, List.append_nil]
    rw [appendEach_keep_nil pol hp _ rest hk]
    simp [view]
  · have hpos : 0 < (keep rest).length := List.length_pos_iff.mpr hk
    rw [grow_clipped pol hp _ _ _ hpos]
    simp only
    have hc : Slice.wf hp { arr := r.back.arr, len := r.back.len, cap := r.back.len } :=
      ⟨Nat.le_refl _, Nat.le_trans hw.1 hw.2⟩
    rw [appendEach_newest pol hp _ _ _ _ rest (view_length hc) (Nat.le_add_right _ _)]
    refine ⟨_, rfl, trivial, trivial, trivial, ?_⟩
    have hv : (view hp r.back).length = r.back.len := view_length hw
    simp only [view, arrayOf_length] at hv ⊢
    exact List.take_left' (by rw [List.length_append, hv])

end GolibsVerif.C19
