/-
C10 — the linearization invariant.  Along every concurrent execution we keep the list `lin` of
the calls whose linearization point has passed (the section that fixed their result), in the
order of those points.  `LinInv` says that `lin` is a linearization of the history so far whose
sequential run ends in the register the cache stands for NOW; each step of the concurrent
system preserves it (`linInv_step`); a call enters `lin` with the section that fixed its result
(`LinSecs`, `fixed_section`).  It also keeps the bookkeeping of call ids that makes the
history well formed.
-/
import GolibsVerif.Lemmas.C10Progress

namespace GolibsVerif.C10
open GolibsVerif.C09

def ids (lin : List LinOp) : List Nat := lin.map (·.id)

structure LinInv (c : Conf) (h : History) (σ : KSt) (lin : List LinOp) : Prop where
  nodup : (ids lin).Nodup
  /-- a linearized call has fixed exactly that result -/
  done : ∀ x ∈ lin, ∃ cs, σ.calls[x.id]? = some cs ∧ cs.op = x.op ∧
    (cs.st = .finished x.res ∨ cs.st = .returned x.res)
  /-- every call whose result is fixed is linearized -/
  all : ∀ id cs, σ.calls[id]? = some cs → (∀ fr, cs.st ≠ .running fr) → id ∈ ids lin
  /-- calls are invoked in the history with their arguments -/
  invd : ∀ id cs, σ.calls[id]? = some cs → HEv.inv id cs.op ∈ h
  /-- a response in the history is the result of a returned call -/
  retd : ∀ id r, HEv.ret id r ∈ h → ∃ cs, σ.calls[id]? = some cs ∧ cs.st = .returned r
  rt : ∀ a b, RtBefore h a b → b ∈ ids lin → Before (ids lin) a b
  run : Run c Reg.empty lin (absReg σ.f.cache)
  /-- call ids are issued in order of invocation -/
  ids_eq : invIds h = List.range σ.calls.length
  rets_nodup : (retIds h).Nodup
  /-- no call is invoked after it returned -/
  ord : ∀ h1 h2 id r op, h = h1 ++ .ret id r :: h2 → HEv.inv id op ∉ h2

theorem LinInv.init (c : Conf) : LinInv c [] KSt.init [] where
  nodup := by simp [ids]
  done := by simp
  all := by simp [KSt.init]
  invd := by simp [KSt.init]
  retd := by simp
  rt := by intro a b _ hb; simp [ids] at hb
  run := Run.nil _
  ids_eq := rfl
  rets_nodup := List.nodup_nil
  ord := by intro h1 h2 id r op heq; simp at heq

theorem linInv_inv {c : Conf} {h : History} {σ : KSt} {lin : List LinOp} (hi : LinInv c h σ lin)
    (op : Call) (fr : Option Nat) (f' : FSt) (hcache : f'.cache = σ.f.cache) :
    LinInv c (h ++ [.inv σ.calls.length op]) ⟨f', σ.calls ++ [⟨op, .running fr⟩]⟩ lin where
  nodup := hi.nodup
  done := by
    intro x hx
    obtain ⟨cs, hcs, h2⟩ := hi.done x hx
    exact ⟨cs, getElem?_append_some _ hcs, h2⟩
  all := by
    intro id cs hcs hnr
    rcases getElem?_snoc_lt hcs with h1 | ⟨_, rfl⟩
    · exact hi.all id cs h1 hnr
    · exact absurd rfl (hnr fr)
  invd := by
    intro id cs hcs
    rcases getElem?_snoc_lt hcs with h1 | ⟨rfl, rfl⟩
    · exact List.mem_append_left _ (hi.invd id cs h1)
    · simp
  retd := by
    intro id r hr
    have hr' : HEv.ret id r ∈ h := by simpa using hr
    obtain ⟨cs, hcs, h2⟩ := hi.retd id r hr'
    exact ⟨cs, getElem?_append_some _ hcs, h2⟩
  rt := by
    intro a b hab hb
    rcases rt_snoc hab with h1 | ⟨⟨op', he⟩, _⟩
    · exact hi.rt a b h1 hb
    · injection he with he1 _
      obtain ⟨x, hx, rfl⟩ := List.mem_map.1 hb
      obtain ⟨cs, hcs, _⟩ := hi.done x hx
      have := List.lt_of_getElem? hcs
      omega
  run := by simpa [hcache] using hi.run
  ids_eq := by
    have := hi.ids_eq
    simp [invIds, List.filterMap_append, List.range_succ] at this ⊢
    exact this
  rets_nodup := by simpa [retIds, List.filterMap_append] using hi.rets_nodup
  ord := by
    intro a b id r op' heq hmem
    rcases snoc_eq_split heq with ⟨_, _, hx⟩ | ⟨b', rfl, hl⟩
    · cases hx
    · rcases List.mem_append.1 hmem with hm | hm
      · exact hi.ord a b' id r op' hl hm
      · simp only [List.mem_singleton] at hm
        injection hm with hm1 _
        obtain ⟨cs, hcs, _⟩ := hi.retd id r (by rw [hl]; simp)
        have := List.lt_of_getElem? hcs
        omega

theorem linInv_ret {c : Conf} {h : History} {σ : KSt} {lin : List LinOp} (hi : LinInv c h σ lin)
    {id : Nat} {op : Call} {r : Res} (hc : σ.calls[id]? = some ⟨op, .finished r⟩) :
    LinInv c (h ++ [.ret id r]) { σ with calls := σ.calls.set id ⟨op, .returned r⟩ } lin where
  nodup := hi.nodup
  done := by
    intro x hx
    obtain ⟨cs, hcs, hop, hst⟩ := hi.done x hx
    by_cases hxi : x.id = id
    · rw [hxi] at hcs; rw [hc] at hcs; injection hcs with hcs; subst hcs
      refine ⟨⟨op, .returned r⟩, by rw [hxi]; exact getElem?_set_self' hc, hop, ?_⟩
      rcases hst with h1 | h1
      · injection h1 with h1; right; rw [h1]
      · cases h1
    · exact ⟨cs, by rw [List.getElem?_set_ne (Ne.symm hxi)]; exact hcs, hop, hst⟩
  all := by
    intro j cs hcs hnr
    rcases getElem?_set_cases hcs with ⟨rfl, _⟩ | ⟨_, h1⟩
    · exact hi.all _ _ hc (by intro fr hh; cases hh)
    · exact hi.all j cs h1 hnr
  invd := by
    intro j cs hcs
    rcases getElem?_set_cases hcs with ⟨rfl, rfl⟩ | ⟨_, h1⟩
    · exact List.mem_append_left _ (hi.invd _ ⟨op, .finished r⟩ hc)
    · exact List.mem_append_left _ (hi.invd j cs h1)
  retd := by
    intro j r' hr
    rcases List.mem_append.1 hr with hr | hr
    · obtain ⟨cs, hcs, hst⟩ := hi.retd j r' hr
      by_cases hji : j = id
      · subst hji; rw [hc] at hcs; injection hcs with hcs; subst hcs; cases hst
      · exact ⟨cs, by rw [List.getElem?_set_ne (Ne.symm hji)]; exact hcs, hst⟩
    · simp only [List.mem_singleton] at hr
      injection hr with h1 h2; subst h1; subst h2
      exact ⟨_, getElem?_set_self' hc, rfl⟩
  rt := by
    intro a b hab hb
    rcases rt_snoc hab with h1 | ⟨⟨op', he⟩, _⟩
    · exact hi.rt a b h1 hb
    · cases he
  run := hi.run
  ids_eq := by simpa [invIds, List.filterMap_append] using hi.ids_eq
  rets_nodup := by
    have : retIds (h ++ [HEv.ret id r]) = retIds h ++ [id] := by
      simp [retIds, List.filterMap_append]
    rw [this, List.nodup_append]
    refine ⟨hi.rets_nodup, by simp, ?_⟩
    intro a ha b hb
    simp only [List.mem_singleton] at hb; subst hb
    intro hab; subst hab
    simp only [retIds, List.mem_filterMap] at ha
    obtain ⟨e, he, hid⟩ := ha
    cases e with
    | inv id' op' => simp at hid
    | ret id' r' =>
      simp only [Option.some.injEq] at hid; subst hid
      obtain ⟨cs, hcs, hst⟩ := hi.retd _ r' he
      rw [hc] at hcs; injection hcs with hcs; subst hcs; cases hst
  ord := by
    intro a b id' r' op' heq hmem
    rcases snoc_eq_split heq with ⟨rfl, _, _⟩ | ⟨b', rfl, hl⟩
    · cases hmem
    · rcases List.mem_append.1 hmem with hm | hm
      · exact hi.ord a b' id' r' op' hl hm
      · simp at hm

/-- a section that does not fix the result (an eviction or an `OnDelete` call of a `Set`):
nothing is linearized; the register is unchanged or loses an entry -/
theorem linInv_tau {c : Conf} {h : History} {σ : KSt} {lin : List LinOp} (hi : LinInv c h σ lin)
    {id : Nat} {op : Call} {fr : Option Nat} (hc : σ.calls[id]? = some ⟨op, .running fr⟩) (f' : FSt)
    (hreg : absReg f'.cache = absReg σ.f.cache ∨ ∃ q, absReg f'.cache = (absReg σ.f.cache).erase q) :
    LinInv c h ⟨f', σ.calls.set id ⟨op, .running fr⟩⟩ lin := by
  have hsame : σ.calls.set id ⟨op, .running fr⟩ = σ.calls := by
    apply List.ext_getElem?
    intro j
    by_cases hj : j = id
    · subst hj; rw [getElem?_set_self' hc, hc]
    · rw [List.getElem?_set_ne (Ne.symm hj)]
  rw [hsame]
  refine ⟨hi.nodup, hi.done, hi.all, hi.invd, hi.retd, hi.rt, ?_, hi.ids_eq, hi.rets_nodup, hi.ord⟩
  rcases hreg with h1 | ⟨q, h1⟩
  · rw [h1]; exact hi.run
  · rw [h1]; exact run_snoc_drop q hi.run

/-- the section that fixes the result of call `id`: the call is linearized HERE -/
theorem linInv_lin {c : Conf} {h : History} {σ : KSt} {lin : List LinOp} (hi : LinInv c h σ lin)
    {id : Nat} {op : Call} {fr : Option Nat} {r : Res}
    (hc : σ.calls[id]? = some ⟨op, .running fr⟩) (f' : FSt)
    (hstep : SeqStep c (absReg σ.f.cache) op r (absReg f'.cache)) :
    LinInv c h ⟨f', σ.calls.set id ⟨op, .finished r⟩⟩ (lin ++ [⟨id, op, r⟩]) := by
  have hnot : id ∉ ids lin := by
    intro hm
    obtain ⟨x, hx, hxi⟩ := List.mem_map.1 hm
    obtain ⟨cs, hcs, _, hst⟩ := hi.done x hx
    rw [hxi, hc] at hcs; injection hcs with hcs; subst hcs
    rcases hst with h1 | h1 <;> cases h1
  have hids : ids (lin ++ [⟨id, op, r⟩]) = ids lin ++ [id] := by simp [ids]
  refine ⟨?_, ?_, ?_, ?_, ?_, ?_, run_snoc_op hi.run hstep, by simpa using hi.ids_eq, hi.rets_nodup, hi.ord⟩
  · rw [hids, List.nodup_append]
    refine ⟨hi.nodup, by simp, ?_⟩
    intro a ha b hb
    simp only [List.mem_singleton] at hb
    subst hb
    intro hab; subst hab; exact hnot ha
  · intro x hx
    rcases List.mem_append.1 hx with hx | hx
    · obtain ⟨cs, hcs, h2⟩ := hi.done x hx
      have hne : x.id ≠ id := fun he => hnot (he ▸ List.mem_map.2 ⟨x, hx, rfl⟩)
      exact ⟨cs, by rw [List.getElem?_set_ne (Ne.symm hne)]; exact hcs, h2⟩
    · simp only [List.mem_singleton] at hx; subst hx
      exact ⟨_, getElem?_set_self' hc, rfl, Or.inl rfl⟩
  · intro j cs hcs hnr
    rw [hids]
    rcases getElem?_set_cases hcs with ⟨rfl, _⟩ | ⟨_, h1⟩
    · simp
    · exact List.mem_append_left _ (hi.all j cs h1 hnr)
  · intro j cs hcs
    rcases getElem?_set_cases hcs with ⟨rfl, rfl⟩ | ⟨_, h1⟩
    · exact hi.invd _ ⟨op, .running fr⟩ hc
    · exact hi.invd j cs h1
  · intro j r' hr
    obtain ⟨cs, hcs, hst⟩ := hi.retd j r' hr
    have hji : j ≠ id := by
      intro he; subst he; rw [hc] at hcs; injection hcs with hcs; subst hcs; cases hst
    exact ⟨cs, by rw [List.getElem?_set_ne (Ne.symm hji)]; exact hcs, hst⟩
  · intro a b hab hb
    rw [hids] at hb ⊢
    rcases List.mem_append.1 hb with hb | hb
    · exact before_append _ (hi.rt a b hab hb)
    · simp only [List.mem_singleton] at hb; subst hb
      obtain ⟨h1, h2, h3, ra, opb, heq⟩ := hab
      have hmem : HEv.ret a ra ∈ h := by rw [heq]; simp
      obtain ⟨cs, hcs, hst⟩ := hi.retd a ra hmem
      have ha : a ∈ ids lin := hi.all a cs hcs (by intro fr' hh; rw [hst] at hh; cases hh)
      exact before_snoc b ha

/-- every linearized call has run the section that fixed its result -/
def LinSecs (log : List KRec) (lin : List LinOp) : Prop :=
  ∀ x ∈ lin, ∃ pre post σ1 ev, log = pre ++ ⟨.sec x.id ev, σ1⟩ :: post ∧ resOf ev = some x.res ∧
    OpEv x.op ev

theorem LinSecs.snoc {log : List KRec} {lin : List LinOp} (h : LinSecs log lin) (r : KRec) :
    LinSecs (log ++ [r]) lin := by
  intro x hx
  obtain ⟨pre, post, σ1, ev, hl, h2⟩ := h x hx
  exact ⟨pre, post ++ [r], σ1, ev, by rw [hl]; simp, h2⟩

/-- **every step of the concurrent system preserves the linearization invariant**, for a
suitably extended linearization: a call is appended by the section that fixes its result -/
theorem linInv_step {c : Conf} {l : List KRec} {σ σ' : KSt} {ev : KEv} {lin : List LinOp}
    (ht : CTrace c KSt.init l σ) (hi : LinInv c (historyOf l) σ lin) (hsec : LinSecs l lin)
    (hs : KStep c σ ev σ') :
    ∃ lin', LinInv c (historyOf (l ++ [⟨ev, σ'⟩])) σ' lin' ∧ LinSecs (l ++ [⟨ev, σ'⟩]) lin' := by
  obtain ⟨hinv, hok⟩ := ctrace_inv ht
  rw [historyOf_snoc]
  have hk := kstep_calls hs
  have hcf := callFrames_reachable ht
  obtain ⟨f', calls'⟩ := σ'
  cases ev with
  | inv id op =>
    obtain ⟨rfl, hcache, fr, rfl⟩ := hk
    exact ⟨lin, linInv_inv hi op fr f' hcache, hsec.snoc _⟩
  | sec id e =>
    obtain ⟨op, fr, hc, rfl, _⟩ := hk
    have hcs := ksec_cstep hok hs
    simp only [KEv.hist, List.append_nil, statusAfter]
    cases hr : resOf e with
    | none => exact ⟨lin, linInv_tau hi hc f' (section_is_tau hcs hinv hr), hsec.snoc _⟩
    | some r =>
      have hop := hcf.sec_opEv hs hc
      refine ⟨lin ++ [⟨id, op, r⟩], linInv_lin hi hc f' (section_is_seqStep hcs hinv hop hr), ?_⟩
      intro x hx
      rcases List.mem_append.1 hx with hx | hx
      · exact hsec.snoc _ x hx
      · obtain rfl := List.mem_singleton.1 hx
        exact ⟨l, [], _, e, rfl, hr, hop⟩
  | ret id r =>
    obtain ⟨op, hc, hσ⟩ := hk
    cases hσ
    exact ⟨lin, linInv_ret hi hc, hsec.snoc _⟩

theorem linInv_reachable {c : Conf} {log : List KRec} {σ : KSt} (ht : CTrace c KSt.init log σ) :
    ∃ lin, LinInv c (historyOf log) σ lin ∧ LinSecs log lin := by
  refine ctrace_snoc_ind (P := fun l σ => ∃ lin, LinInv c (historyOf l) σ lin ∧ LinSecs l lin) ?_ ?_ ht
  · exact ⟨[], by simpa [historyOf] using LinInv.init c, by simp [LinSecs]⟩
  · intro l σ ev σ' htl ⟨lin, hi, hsec⟩ hstep
    exact linInv_step htl hi hsec hstep

/-- a call whose result is fixed has run the section that fixed it (it is linearized, there) -/
theorem fixed_section {c : Conf} {log : List KRec} {σ : KSt} (ht : CTrace c KSt.init log σ)
    {id : Nat} {cs : CallSt} {r : Res} (hcs : σ.calls[id]? = some cs)
    (hst : cs.st = .finished r ∨ cs.st = .returned r) :
    ∃ pre post σ1 ev, log = pre ++ ⟨.sec id ev, σ1⟩ :: post ∧ resOf ev = some r ∧ OpEv cs.op ev := by
  obtain ⟨lin, hi, hsec⟩ := linInv_reachable ht
  obtain ⟨x, hx, rfl⟩ := List.mem_map.1
    (hi.all id cs hcs (by rintro fr h; rw [h] at hst; rcases hst with h | h <;> cases h))
  obtain ⟨cs', hcs', hop, hst'⟩ := hi.done x hx
  obtain rfl : cs' = cs := Option.some.inj (hcs'.symm.trans hcs)
  have hr : x.res = r := by
    rcases hst with h | h <;> rcases hst' with h' | h' <;> rw [h] at h' <;> cases h' <;> rfl
  rw [← hr, hop]
  exact hsec x hx

end GolibsVerif.C10
