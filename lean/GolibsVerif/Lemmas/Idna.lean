/-
Lemmas about the model of `idna.ToASCII` (`Go/Idna.lean`): the label iterator visits the
pieces of `strings.Split(s, ".")` in order, in both of its modes, never indexes out of range
and needs at most one step per piece; a loop over it therefore maps a per-label function over
the pieces.

The iterator's state is described in append form: the labels it stands for are `pre ++ rem`
(behind it / ahead of it), and in index mode the string is `p ++ t` with `curStart = |p|` and
`rem` the pieces of `t`.  The iterator may say `done` early (Go: "skips the last label if it is
empty"; in index mode also the empty label before a final dot), but only when every label ahead
is empty, and both loop bodies leave an empty label alone: that is all the loops need.
-/
import GolibsVerif.Spec.Idna
import GolibsVerif.Lemmas.Strings
import GolibsVerif.Lemmas.GoM

namespace GolibsVerif.Idna
open GolibsVerif GolibsVerif.Str

/-- the labels the iterator currently stands for: `l.slice`, or the pieces of `l.orig` while
`l.slice == nil` -/
def cur (l : LabelIter) : List Bytes :=
  match l.slice with
  | some sl => sl
  | none => splitOn 46 l.orig

/-- where the iterator stands when the labels `rem` are ahead of it: it is done and they are all
empty, or it is not done, there is a label ahead and, in index mode, `curStart` is where the
pieces `rem` begin -/
def Pos (l : LabelIter) (rem : List Bytes) : Prop :=
  (l.done = true ∧ ∀ x ∈ rem, x = []) ∨
  (l.done = false ∧ rem ≠ [] ∧ (l.slice = none →
    ∃ p t, l.orig = p ++ t ∧ l.curStart = (p.length : Int) ∧ rem = splitOn 46 t))

/-- the iterator at the head of a loop over `s`: labels `pre` behind it, `rem` ahead -/
structure At (s : Bytes) (l : LabelIter) (pre rem : List Bytes) : Prop where
  orig : l.orig = s
  i : l.i = (pre.length : Int)
  cur : cur l = pre ++ rem
  pos : Pos l rem

/-- the iterator inside the loop body (after `label()`), standing on the label `x`; in index
mode `curEnd` is the end of the string and nothing is ahead, or the dot at `curEnd` ends a prefix
`p` and the pieces of the rest are ahead -/
structure Mid (s : Bytes) (l : LabelIter) (pre : List Bytes) (x : Bytes) (rem : List Bytes) : Prop where
  orig : l.orig = s
  i : l.i = (pre.length : Int)
  cur : cur l = pre ++ x :: rem
  live : l.curStart < (s.length : Int)
  idx : l.slice = none → (l.curEnd = (s.length : Int) ∧ rem = []) ∨
    ∃ p t, s = p ++ t ∧ l.curEnd + 1 = (p.length : Int) ∧ rem = splitOn 46 t

theorem idxL_append_len (pre : List Bytes) (x : Bytes) (rem : List Bytes) :
    idxL (pre ++ x :: rem) (pre.length : Int) = .ok x := by
  simp [idxL]

/-- in index mode at the end of a prefix `p` of the string, whatever is left of it: past the end
of the string the only piece ahead is the empty one -/
theorem Pos.of_split {l : LabelIter} {p t : Bytes} (ho : l.orig = p ++ t)
    (hc : l.curStart = (p.length : Int)) : Pos l (splitOn 46 t) := by
  cases t with
  | nil => exact Or.inl ⟨by simp [LabelIter.done, ho, hc], by simp [splitOn]⟩
  | cons b t =>
    refine Or.inr ⟨?_, splitOn_ne_nil 46 _, fun _ => ⟨p, _, ho, hc, rfl⟩⟩
    simp [LabelIter.done, ho, hc]; omega

/-- at the start of either loop over a non-empty string -/
theorem At.start {s : Bytes} {l : LabelIter} (ho : l.orig = s) (hs : s ≠ []) (hc : l.curStart = 0)
    (hi : l.i = 0) (hne : Idna.cur l ≠ []) : At s l [] (Idna.cur l) :=
  ⟨ho, hi, rfl, Or.inr ⟨by simpa [LabelIter.done, ho, hc] using hs, hne,
    fun hn => ⟨[], s, ho, hc, by simp [Idna.cur, hn, ho]⟩⟩⟩

theorem label_spec {s : Bytes} {l : LabelIter} {pre : List Bytes} {x : Bytes} {rem : List Bytes}
    (h : At s l pre (x :: rem)) (hd : l.done = false) :
    ∃ l', l.label = .ok (x, l') ∧ Mid s l' pre x rem := by
  obtain ⟨ho, hi, hcur, ⟨hd', _⟩ | ⟨_, _, hidx⟩⟩ := h
  · rw [hd] at hd'; cases hd'
  have hlive : l.curStart < (s.length : Int) := by simpa [LabelIter.done, ho] using hd
  cases hsl : l.slice with
  | some sl =>
    have hsl' : sl = pre ++ x :: rem := by simpa [cur, hsl] using hcur
    refine ⟨l, ?_, ho, hi, hcur, hlive, fun hn => by rw [hsl] at hn; cases hn⟩
    simp [LabelIter.label, hsl, hsl', hi, idxL_append_len, bind, Except.bind, pure, Except.pure]
  | none =>
    obtain ⟨p, t, hpt, hc, hrem⟩ := hidx hsl
    rw [ho] at hpt; subst hpt
    have htail : GoM.sliceFrom (p ++ t) (p.length : Int) = .ok t := GoM.sliceFrom_append_len p t
    rcases first_cases 46 t with hno | ⟨y, r', rfl, hy⟩
    · -- no further dot: the label is the rest of the string
      rw [splitOn_not_mem 46 t hno] at hrem
      obtain ⟨rfl, rfl⟩ := List.cons.inj hrem
      refine ⟨{ l with curEnd := ((p ++ x).length : Int) }, ?_, ho, hi, by simpa [cur, hsl] using hcur, hlive,
        fun _ => Or.inl ⟨rfl, rfl⟩⟩
      have hx : GoM.slice (p ++ x) (p.length : Int) ((p ++ x).length : Int) = .ok x := htail
      simp only [LabelIter.label, hsl, ho, hc, htail, indexByte_not_mem 46 x hno, hx, bind, Except.bind,
        if_true, pure, Except.pure]
    · -- a dot after `y`
      rw [splitOn_append_sep 46 y r' hy] at hrem
      obtain ⟨rfl, rfl⟩ := List.cons.inj hrem
      have hne : ¬ ((x.length : Int) = -1) := by omega
      have hce : (p.length : Int) + (x.length : Int) = ((p.length + x.length : Nat) : Int) := by omega
      refine ⟨{ l with curEnd := ((p.length + x.length : Nat) : Int) }, ?_, ho, hi,
        by simpa [cur, hsl] using hcur, hlive, fun _ => Or.inr ⟨p ++ x ++ [46], r', by simp, by simp; omega, rfl⟩⟩
      simp only [LabelIter.label, hsl, ho, hc, htail, indexByte_append_sep 46 x r' hy, hne, hce,
        GoM.slice_append_mid, bind, Except.bind, if_false, pure, Except.pure]

theorem set_spec {s : Bytes} {l : LabelIter} {pre : List Bytes} {x : Bytes} {rem : List Bytes}
    (u : Bytes) (h : Mid s l pre x rem) : ∃ l', l.set u = .ok l' ∧ Mid s l' pre u rem := by
  have hc := h.cur
  refine ⟨{ l with slice := some (pre ++ u :: rem) }, ?_, h.orig, h.i, rfl, h.live, fun hn => nomatch hn⟩
  cases hsl : l.slice <;> simp only [cur, hsl] at hc <;>
    simp [LabelIter.set, hsl, hc, h.i, pure, Except.pure] <;> omega

theorem done_of_le (l : LabelIter) (h : (l.orig.length : Int) ≤ l.curStart) : l.done = true := by
  simp [LabelIter.done, h]

theorem not_done_of_lt (l : LabelIter) (h : l.curStart < (l.orig.length : Int)) : l.done = false := by
  simp [LabelIter.done]; omega

theorem next_spec {s : Bytes} {l : LabelIter} {pre : List Bytes} {x : Bytes} {rem : List Bytes}
    (h : Mid s l pre x rem) : ∃ l', l.next = .ok l' ∧ At s l' (pre ++ [x]) rem := by
  obtain ⟨o, slice, cs, ce, i⟩ := l
  obtain ⟨ho, hi, hcur, hlive, hidx⟩ := h
  simp only at ho hi hlive hidx
  subst ho hi
  have hi1 : (pre.length : Int) + 1 = ((pre ++ [x]).length : Int) := by simp
  replace hcur : cur ⟨o, slice, cs, ce, pre.length⟩ = (pre ++ [x]) ++ rem := by simpa using hcur
  generalize pre ++ [x] = q at hi1 hcur ⊢
  cases slice with
  | some sl =>
    have hsl : sl = q ++ rem := hcur
    subst hsl
    match rem with
    | [] =>
      refine ⟨⟨o, some (q ++ []), (o.length : Int), ce, q.length⟩, ?_, rfl, rfl, rfl,
        Or.inl ⟨done_of_le _ (Int.le_refl _), by simp⟩⟩
      simp [LabelIter.next, hi1, pure, Except.pure]
    | [y] =>
      have h1 : ¬ ((q.length : Int) ≥ ((q ++ [y]).length : Int)) := by simp; omega
      have h2 : (q.length : Int) = ((q ++ [y]).length : Int) - 1 := by simp
      by_cases hy : y = []
      · subst hy
        refine ⟨⟨o, some (q ++ [[]]), (o.length : Int), ce, q.length⟩, ?_, rfl, rfl, rfl,
          Or.inl ⟨done_of_le _ (Int.le_refl _), by simp⟩⟩
        simp only [LabelIter.next, hi1, h1, ← h2, idxL_append_len, bind, Except.bind, if_true, if_false,
          pure, Except.pure]
      · refine ⟨⟨o, some (q ++ [y]), cs, ce, q.length⟩, ?_, rfl, rfl, rfl,
          Or.inr ⟨not_done_of_lt _ hlive, by simp, fun hn => nomatch hn⟩⟩
        simp only [LabelIter.next, hi1, h1, ← h2, idxL_append_len, hy, bind, Except.bind, if_true, if_false,
          pure, Except.pure]
    | y :: z :: rem =>
      refine ⟨⟨o, some (q ++ y :: z :: rem), cs, ce, q.length⟩, ?_, rfl, rfl, rfl,
        Or.inr ⟨not_done_of_lt _ hlive, by simp, fun hn => nomatch hn⟩⟩
      have h1 : ¬ ((q.length : Int) ≥ ((q ++ y :: z :: rem).length : Int)) := by simp; omega
      have h2 : ¬ ((q.length : Int) = ((q ++ y :: z :: rem).length : Int) - 1) := by simp; omega
      simp only [LabelIter.next, hi1, h1, h2, if_false, pure, Except.pure]
  | none =>
    rcases hidx rfl with ⟨hce, rfl⟩ | ⟨p, t, rfl, hce, rfl⟩
    · -- the label ran to the end of the string
      refine ⟨⟨o, none, (o.length : Int) + 1, ce, q.length⟩, ?_, rfl, rfl, hcur,
        Or.inl ⟨done_of_le _ (by show (o.length : Int) ≤ (o.length : Int) + 1; omega), by simp⟩⟩
      have hne : ¬ ((o.length : Int) + 1 = (o.length : Int) - 1) := by omega
      simp only [LabelIter.next, hi1, hce, hne, if_false, pure, Except.pure]
    · -- the next label starts after the dot, at the end of `p`
      by_cases hskip : t = [46]
      · subst hskip
        refine ⟨⟨p ++ [46], none, ((p ++ [46]).length : Int), ce, q.length⟩, ?_, rfl, rfl, hcur,
          Or.inl ⟨done_of_le _ (Int.le_refl _), by simp [splitOn]⟩⟩
        have h1 : (p.length : Int) = ((p ++ [46]).length : Int) - 1 := by simp
        simp only [LabelIter.next, hi1, hce, ← h1, GoM.idx_append_len, bind, Except.bind, if_true, pure, Except.pure]
      · refine ⟨⟨p ++ t, none, (p.length : Int), ce, q.length⟩, ?_, rfl, rfl, hcur, Pos.of_split rfl rfl⟩
        match t, hskip with
        | [b], hb =>
          have h1 : (p.length : Int) = ((p ++ [b]).length : Int) - 1 := by simp
          have hb' : ¬ b = 46 := fun h => hb (by rw [h])
          simp only [LabelIter.next, hi1, hce, ← h1, GoM.idx_append_len, hb', bind, Except.bind, if_true, if_false,
            pure, Except.pure]
        | [], _ =>
          have h1 : ¬ ((p.length : Int) = ((p ++ []).length : Int) - 1) := by simp; omega
          simp only [LabelIter.next, hi1, hce, h1, if_false, pure, Except.pure]
        | a :: b :: t, _ =>
          have h1 : ¬ ((p.length : Int) = ((p ++ a :: b :: t).length : Int) - 1) := by simp; omega
          simp only [LabelIter.next, hi1, hce, h1, if_false, pure, Except.pure]

/-- a per-label function that leaves every label of `L` as it is, without error -/
theorem map_any_of_fixed (g : Bytes → Bytes × Bool) (L : List Bytes)
    (h : ∀ x ∈ L, g x = (x, false)) :
    L.map (fun x => (g x).1) = L ∧ L.any (fun x => (g x).2) = false :=
  ⟨(List.map_congr_left (fun x hx => by rw [h x hx]; rfl)).trans (List.map_id L),
   List.any_eq_false.2 (fun x hx => by rw [h x hx]; simp)⟩

/-- A loop `for ; !labels.done(); labels.next() { body }` whose body acts on the current label
as the per-label function `g` (with `g "" = ""`, no error) maps `g` over the labels ahead, and
terminates within the fuel. -/
theorem forLabels_spec (s : Bytes) (body : LabelIter → Bool → GoM (LabelIter × Bool))
    (g : Bytes → Bytes × Bool) (hg : g [] = ([], false))
    (hbody : ∀ l e pre x rem, At s l pre (x :: rem) → l.done = false →
       ∃ l', body l e = .ok (l', e || (g x).2) ∧ Mid s l' pre (g x).1 rem) :
    ∀ fuel l e pre rem, At s l pre rem → rem.length < fuel →
      ∃ l', forLabels body fuel l e = .ok (l', e || rem.any (fun x => (g x).2)) ∧
        cur l' = pre ++ rem.map (fun x => (g x).1) ∧ l'.orig = s := by
  intro fuel
  induction fuel with
  | zero => intro l e pre rem _ h; omega
  | succ fuel ih =>
    intro l e pre rem hat hfuel
    rcases hat.pos with ⟨hd, hempty⟩ | ⟨hd, hne, _⟩
    · obtain ⟨hmap, hany⟩ := map_any_of_fixed g rem (fun x hx => by rw [hempty x hx, hg])
      exact ⟨l, by simp [forLabels, hd, hany], by rw [hmap, hat.cur], hat.orig⟩
    · obtain ⟨x, rem, rfl⟩ := List.exists_cons_of_ne_nil hne
      obtain ⟨l1, hb, hmid⟩ := hbody l e pre x rem hat hd
      obtain ⟨l2, hn, hat2⟩ := next_spec hmid
      obtain ⟨l', hl', hcur', ho'⟩ := ih l2 (e || (g x).2) _ rem hat2 (by simp at hfuel; omega)
      refine ⟨l', ?_, by simp [hcur'], ho'⟩
      simp only [forLabels, hd, hb, hn, bind, Except.bind, Bool.false_eq_true, if_false]
      rw [hl', List.any_cons, Bool.or_assoc]

theorem step1_nil (dec : Bytes → Option Bytes) : step1 dec [] = ([], false) := by
  simp [step1, hasPrefix, acePrefix]

theorem step2_nil (enc : Bytes → Option Bytes) : step2 enc [] = ([], false) := by
  simp [step2, isAscii]

/-- A loop body that reads the current label `x` and then either leaves the iterator alone (when
`g` keeps `x`) or sets the label to `(g x).1`, and records the error `(g x).2`, acts on the
current label as `g`: the hypothesis of `forLabels_spec`. -/
theorem body_spec (body : LabelIter → Bool → GoM (LabelIter × Bool)) (g : Bytes → Bytes × Bool)
    (hbody : ∀ l e x l1, l.label = .ok (x, l1) →
      (body l e = .ok (l1, e || (g x).2) ∧ (g x).1 = x) ∨
      body l e = l1.set (g x).1 >>= fun l2 => pure (l2, e || (g x).2))
    (s : Bytes) (l : LabelIter) (e : Bool) (pre : List Bytes) (x : Bytes) (rem : List Bytes)
    (h : At s l pre (x :: rem)) (hd : l.done = false) :
    ∃ l', body l e = .ok (l', e || (g x).2) ∧ Mid s l' pre (g x).1 rem := by
  obtain ⟨l1, hlab, hmid⟩ := label_spec h hd
  rcases hbody l e x l1 hlab with ⟨hb, hkeep⟩ | hb
  · exact ⟨l1, hb, by rwa [hkeep]⟩
  · obtain ⟨l2, hset, hmid2⟩ := set_spec (g x).1 hmid
    exact ⟨l2, by rw [hb, hset]; rfl, hmid2⟩

theorem body1_act (dec : Bytes → Option Bytes) (l : LabelIter) (e : Bool) (x : Bytes) (l1 : LabelIter)
    (hlab : l.label = .ok (x, l1)) :
    (body1 dec l e = .ok (l1, e || (step1 dec x).2) ∧ (step1 dec x).1 = x) ∨
    body1 dec l e = l1.set (step1 dec x).1 >>= fun l2 => pure (l2, e || (step1 dec x).2) := by
  have hee : ∀ u, (if e = true then e else validateLabel u) = e := fun u => by cases e <;> rfl
  by_cases hnil : x = []
  · exact Or.inl (by simp [body1, hlab, hnil, step1_nil, bind, Except.bind, pure, Except.pure])
  · by_cases hp : hasPrefix x acePrefix = true
    · have hlen4 : 4 ≤ x.length := by
        have := List.IsPrefix.length_le (List.isPrefixOf_iff_prefix.1 hp)
        simpa [acePrefix] using this
      have hsf : GoM.sliceFrom x (acePrefix.length : Int) = .ok (x.drop 4) :=
        GoM.sliceFrom_ofNat x 4 hlen4
      cases hdec : dec (x.drop 4) with
      | none =>
        exact Or.inl (by simp [body1, hlab, hnil, hp, hsf, hdec, step1, bind, Except.bind, pure, Except.pure])
      | some u =>
        exact Or.inr (by simp [body1, hlab, hnil, hp, hsf, hdec, step1, hee, bind, Except.bind, pure, Except.pure])
    · exact Or.inl (by simp [body1, hlab, hnil, hp, step1, hee, bind, Except.bind, pure, Except.pure])

theorem body2_act (enc : Bytes → Option Bytes) (l : LabelIter) (e : Bool) (x : Bytes) (l1 : LabelIter)
    (hlab : l.label = .ok (x, l1)) :
    (body2 enc l e = .ok (l1, e || (step2 enc x).2) ∧ (step2 enc x).1 = x) ∨
    body2 enc l e = l1.set (step2 enc x).1 >>= fun l2 => pure (l2, e || (step2 enc x).2) := by
  by_cases ha : isAscii x = true
  · exact Or.inl (by simp [body2, hlab, ha, step2, bind, Except.bind, pure, Except.pure])
  · cases henc : enc x <;>
      exact Or.inr (by simp [body2, hlab, ha, henc, step2, bind, Except.bind, pure, Except.pure])

end GolibsVerif.Idna
