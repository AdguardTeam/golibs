/- C04: `netip.ParseAddr` accepts an IPv4 address only in its canonical dotted-decimal
spelling, and parses that spelling back; `ipv4FromReversed` in closed form. -/
import GolibsVerif.Lemmas.C04Basic
import GolibsVerif.Lemmas.C02IPv6
import GolibsVerif.Lemmas.NetipDispatch
import GolibsVerif.Lemmas.Digits

namespace GolibsVerif.C04
open GolibsVerif.Netutil GolibsVerif.Str GolibsVerif.Netip GolibsVerif.Gen.Consts GolibsVerif
open GolibsVerif.Digits

/-- an IPv4 result of `netip.ParseAddr` was produced by `parseIPv4Fields` on the whole
string (a string with a `':'` before any `'.'` can only give IPv6) -/
theorem parseAddr_v4 (s : Bytes) (b : List Nat) (h : parseAddr s = some (.v4 b)) :
    parseIPv4Fields s = some b := by
  rcases dispatch_cases h with ⟨_, h4⟩ | ⟨_, h6⟩
  · unfold parseIPv4 at h4
    cases hf : parseIPv4Fields s with
    | none => simp [hf] at h4
    | some f => simpa [hf] using h4
  · cases C02.parseIPv6Split_is6 _ _ h6

theorem joinDot_splitOn (s : Bytes) : joinDot (splitOn 46 s) = s := by
  induction s using splitOn_induction 46 with
  | h0 s h => rw [splitOn_not_mem 46 s h]; rfl
  | h1 b a hb ih =>
    obtain ⟨p, ps, hp⟩ := List.exists_cons_of_ne_nil (splitOn_ne_nil 46 a)
    rw [splitOn_append_sep 46 b a hb, hp, joinDot_cons_cons, ← hp, ih]

theorem splitOn_joinDot_dec (xs : List Nat) (hne : xs ≠ []) :
    splitOn 46 (joinDot (xs.map dec)) = xs.map dec :=
  splitOn_joinDot _ (by rwa [Ne, List.map_eq_nil_iff]) (by
    intro l hl c hc
    obtain ⟨x, _, rfl⟩ := List.mem_map.1 hl
    have := dec_digits x c hc; omega)

/-- `parseIPv4Fields` accepts exactly the dotted numerals of four bytes: by its closed form
(`C02.parseIPv4Fields_val`) the pieces are canonical octets, and a canonical octet is the
numeral of a byte. -/
theorem parseIPv4Fields_eq_some (t : Bytes) (fs : List Nat) :
    parseIPv4Fields t = some fs ↔
      fs.length = 4 ∧ (∀ x ∈ fs, x < 256) ∧ t = joinDot (fs.map dec) := by
  rw [C02.parseIPv4Fields_val]
  constructor
  · intro h
    split at h
    · rename_i hs
      rw [Bool.and_eq_true, List.all_eq_true, beq_iff_eq] at hs
      cases h
      refine ⟨by simpa using hs.2, fun x hx => ?_, ?_⟩
      · obtain ⟨l, hl, rfl⟩ := List.mem_map.1 hx
        obtain ⟨n, hn, rfl⟩ := (octetOK_iff_dec l).1 (hs.1 l hl)
        rwa [decVal_dec]
      · rw [List.map_map, List.map_congr_left (f := dec ∘ C02.decVal) (g := id) fun l hl => by
            obtain ⟨n, _, rfl⟩ := (octetOK_iff_dec l).1 (hs.1 l hl)
            rw [Function.comp, decVal_dec]; rfl,
          List.map_id, joinDot_splitOn]
    · cases h
  · rintro ⟨h4, hb, rfl⟩
    rw [splitOn_joinDot_dec fs (by intro h; subst h; cases h4), if_pos, List.map_map,
      List.map_congr_left (f := C02.decVal ∘ dec) (g := id) fun x _ => decVal_dec x, List.map_id]
    simp only [Bool.and_eq_true, List.all_eq_true, beq_iff_eq, List.length_map, h4, and_true]
    intro l hl
    obtain ⟨x, hx, rfl⟩ := List.mem_map.1 hl
    exact (octetOK_iff_dec _).2 ⟨x, hb x hx, rfl⟩

theorem fields_canon (t : Bytes) (fs : List Nat) (h : parseIPv4Fields t = some fs) :
    fs.length = 4 ∧ (∀ x ∈ fs, x < 256) ∧ t = joinDot (fs.map dec) :=
  (parseIPv4Fields_eq_some t fs).1 h

theorem parseAddr_dec (xs : List Nat) (hl : xs.length = 4) (hx : ∀ x ∈ xs, x < 256) :
    parseAddr (joinDot (xs.map dec)) = some (.v4 xs) := by
  have hf := (parseIPv4Fields_eq_some _ xs).2 ⟨hl, hx, rfl⟩
  match xs, hl with
  | x0 :: x1 :: rest, _ =>
    unfold parseAddr
    rw [List.map_cons, List.map_cons, joinDot_cons_cons] at hf ⊢
    rw [dispatch_skip _ _ (dec x0) fun c hc => by have := dec_digits x0 c hc; omega,
      parseAddrDispatch, if_pos rfl, parseIPv4, hf]
    rfl

/-- `ipv4FromReversed` accepts exactly the four canonical numerals of an address, last octet
first -/
theorem ipv4FromReversed_ok (t : Bytes) (a : Addr) : ipv4FromReversed t = .ok a ↔
    ∃ b, a = .v4 b ∧ b.length = 4 ∧ (∀ x ∈ b, x < 256) ∧ t = joinDot (b.reverse.map dec) := by
  unfold ipv4FromReversed
  constructor
  · intro h
    split at h
    · cases h
    · rename_i b hp
      cases h
      obtain ⟨hl, hb, hc⟩ := fields_canon t b (parseAddr_v4 t b hp)
      exact ⟨b.reverse, rfl, by simpa using hl, fun x hx => hb x (List.mem_reverse.1 hx),
        by rw [List.reverse_reverse]; exact hc⟩
    · cases h
  · rintro ⟨b, rfl, hl, hb, rfl⟩
    rw [parseAddr_dec b.reverse (by simpa using hl) fun x hx => hb x (List.mem_reverse.1 hx)]
    simp

end GolibsVerif.C04
