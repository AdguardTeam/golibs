/-
C10 — lemmas behind the observation theorems: the section events of an execution, "latest
surviving Set" read positionally, where a call comes from.
-/
import GolibsVerif.Lemmas.C10Lin

namespace GolibsVerif.C10
open GolibsVerif.C09

def KRec.secEv (r : KRec) : Option Ev :=
  match r.ev with
  | .sec _ e => some e
  | _ => none

/-- the events of all critical sections of an execution, in order -/
def secEvs (l : List KRec) : List Ev := l.filterMap KRec.secEv

theorem evsOf_projLog_flogFrom : ∀ (l : List KRec) (σ0 : KSt),
    evsOf (projLog (flogFrom σ0 l)) = secEvs l := by
  intro l
  induction l with
  | nil => intro σ0; simp [flogFrom, projLog, evsOf, secEvs]
  | cons r rest ih =>
    intro σ0
    obtain ⟨ev, after⟩ := r
    simp only [flogFrom, projLog_append, evsOf_append, ih, secEvs, List.filterMap_cons, KRec.secEv]
    cases ev with
    | inv id op => cases op <;> simp [projLog, FRec.proj, evsOf]
    | sec id e => simp [projLog, FRec.proj, evsOf]
    | ret id r => simp [projLog, evsOf]

/-- the event overwrites or removes whatever `k` held -/
def Supersedes (k : Bytes) : Ev → Prop
  | .commit k' _ _ => k' = k
  | .evict k' _ => k' = k
  | .del k' => k' = k
  | .clear => True
  | _ => False

/-- "latest surviving Set", positionally (history newest first) -/
theorem lastSurvivingRev_some {l : List Ev} {k v : Bytes} (h : lastSurvivingRev l k = some v) :
    ∃ l1 l2 rep, l = l1 ++ .commit k v rep :: l2 ∧ ∀ e ∈ l1, ¬ Supersedes k e := by
  induction l with
  | nil => simp [lastSurvivingRev] at h
  | cons e rest ih =>
    have keep : lastSurvivingRev rest k = some v → ¬ Supersedes k e →
        ∃ l1 l2 rep, e :: rest = l1 ++ .commit k v rep :: l2 ∧ ∀ e ∈ l1, ¬ Supersedes k e := by
      intro h' hns
      obtain ⟨l1, l2, rep, hl, hn⟩ := ih h'
      refine ⟨e :: l1, l2, rep, by rw [hl]; rfl, ?_⟩
      intro x hx
      rcases List.mem_cons.1 hx with rfl | hx
      · exact hns
      · exact hn x hx
    cases e with
    | commit k' v' r =>
      simp only [lastSurvivingRev] at h
      by_cases hk : k' = k
      · simp only [hk, if_true, Option.some.injEq] at h
        subst hk; subst h
        exact ⟨[], rest, r, rfl, by simp⟩
      · simp only [hk, if_false] at h
        exact keep h (by simpa [Supersedes] using hk)
    | evict k' _ | del k' =>
      simp only [lastSurvivingRev] at h
      by_cases hk : k' = k
      · simp [hk] at h
      · simp only [hk, if_false] at h
        exact keep h (by simpa [Supersedes] using hk)
    | clear => simp [lastSurvivingRev] at h
    | get _ _ | refused _ _ | onDelete _ _ | stats _ =>
      exact keep (by simpa [lastSurvivingRev] using h) (by simp [Supersedes])

/-- the same for a chronological history: the storing `commit`, and nothing after it touches `k` -/
theorem lastSurviving_some {evs : List Ev} {k v : Bytes} (h : lastSurviving evs k = some v) :
    ∃ e1 e2 rep, evs = e1 ++ .commit k v rep :: e2 ∧ ∀ e ∈ e2, ¬ Supersedes k e := by
  obtain ⟨l1, l2, rep, hl, hn⟩ := lastSurvivingRev_some h
  refine ⟨l2.reverse, l1.reverse, rep, ?_, ?_⟩
  · have := congrArg List.reverse hl
    simpa using this
  · intro e he; exact hn e (List.mem_reverse.1 he)

theorem secEvs_split {l : List KRec} {e1 e2 : List Ev} {e : Ev} (h : secEvs l = e1 ++ e :: e2) :
    ∃ p1 p2 id σ1, l = p1 ++ ⟨.sec id e, σ1⟩ :: p2 ∧ secEvs p1 = e1 ∧ secEvs p2 = e2 := by
  unfold secEvs at h
  obtain ⟨la, lb, rfl, ha, hb⟩ := List.filterMap_eq_append_iff.1 h
  obtain ⟨lb1, r, lb2, rfl, hnone, hr, hb2⟩ := List.filterMap_eq_cons_iff.1 hb
  obtain ⟨ev, σ1⟩ := r
  cases ev with
  | sec id e' =>
    simp only [KRec.secEv, Option.some.injEq] at hr
    subst hr
    refine ⟨la ++ lb1, lb2, id, σ1, by simp, ?_, hb2⟩
    unfold secEvs
    rw [List.filterMap_append, ha]
    have : List.filterMap KRec.secEv lb1 = [] := by
      rw [List.filterMap_eq_nil_iff]; exact hnone
    simp [this]
  | inv id op => simp [KRec.secEv] at hr
  | ret id r => simp [KRec.secEv] at hr

theorem mem_historyOf {l : List KRec} {e : HEv} (h : e ∈ historyOf l) :
    ∃ p1 p2 ev σa, l = p1 ++ ⟨ev, σa⟩ :: p2 ∧ ev.hist = some e := by
  obtain ⟨r, hr, hh⟩ := List.mem_filterMap.1 h
  obtain ⟨p1, p2, rfl⟩ := List.append_of_mem hr
  exact ⟨p1, p2, r.ev, r.after, rfl, hh⟩

theorem inv_mem_history {l : List KRec} {id : Nat} {op : Call} (h : HEv.inv id op ∈ historyOf l) :
    ∃ p1 p2 σa, l = p1 ++ ⟨.inv id op, σa⟩ :: p2 := by
  obtain ⟨p1, p2, ev, σa, rfl, hh⟩ := mem_historyOf h
  cases ev <;> cases hh
  exact ⟨p1, p2, σa, rfl⟩

theorem ret_mem_history {l : List KRec} {id : Nat} {r : Res} (h : HEv.ret id r ∈ historyOf l) :
    ∃ p1 p2 σa, l = p1 ++ ⟨.ret id r, σa⟩ :: p2 := by
  obtain ⟨p1, p2, ev, σa, rfl, hh⟩ := mem_historyOf h
  cases ev <;> cases hh
  exact ⟨p1, p2, σa, rfl⟩

theorem sec_call {c : Conf} {pre : List KRec} {σ0 σ1 : KSt} {id : Nat} {e : Ev}
    (hpre : CTrace c KSt.init pre σ0) (hs : KStep c σ0 (.sec id e) σ1) :
    ∃ op fr, σ0.calls[id]? = some ⟨op, .running fr⟩ ∧ OpEv op e ∧
      ∃ p1 p2 σa, pre = p1 ++ ⟨.inv id op, σa⟩ :: p2 := by
  obtain ⟨lin, hi, _⟩ := linInv_reachable hpre
  obtain ⟨op, fr, hc, _⟩ := kstep_calls hs
  exact ⟨op, fr, hc, (callFrames_reachable hpre).sec_opEv hs hc, inv_mem_history (hi.invd _ _ hc)⟩

end GolibsVerif.C10
