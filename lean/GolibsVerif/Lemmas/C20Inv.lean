/-
C20 — the inductive invariant of the `LogMiddleware` transition system.

`Inv` has three parts: the pool discipline of the three pools, the length of the pooled
attribute slices, and for every request what it can rely on about the objects it holds
(`Good`).  A step of request `i` writes only to objects `i` holds afterwards (`WritesOwn`), so
the pool discipline of the new state keeps it from everybody else's; `step_inv` goes through
the steps once and gives what is left: the discipline, and `Good` for `i` itself.
-/
import GolibsVerif.Lemmas.C20Pool

namespace GolibsVerif.C20

def PoolsInv (s : St) : Prop :=
  PoolInv s.pA (ownedA s.th) ∧ PoolInv s.pQ (ownedQ s.th) ∧ PoolInv s.pW (ownedW s.th)

/-- `NewSlicePool(logMwAttrNum)`: every slice the attribute pool has made has `logMwAttrNum`
elements; `Wrap` only stores into the slices, so the lengths stay. -/
def LenInv (s : St) : Prop := ∀ o, o < s.pA.fresh → (s.mA o).length = Gen.C20Skel.logMwAttrNum

theorem Pool.get_fresh {p p' : Pool} {o : Obj} {b : Bool} (h : p.get o = some (p', b)) :
    p'.fresh = (if b then p.fresh + 1 else p.fresh) ∧ (b = true → o = p.fresh) := by
  unfold Pool.get at h
  by_cases hm : o ∈ p.free
  · simp [hm] at h; obtain ⟨rfl, rfl⟩ := h; simp
  · simp [hm] at h; obtain ⟨ho, rfl, rfl⟩ := h; simp [ho]

theorem Pool.drop_fresh {p p' : Pool} {o : Obj} (h : p.drop o = some p') : p'.fresh = p.fresh := by
  unfold Pool.drop at h
  by_cases hm : o ∈ p.free
  · simp [hm] at h; subst h; rfl
  · simp [hm] at h

@[simp] theorem fillAttrs_length (sl : List Attr) (d : ReqData) : (fillAttrs sl d).length = sl.length := by
  simp [fillAttrs]

theorem fillAttrs_eq (sl : List Attr) (d : ReqData) (h : sl.length = Gen.C20Skel.logMwAttrNum) :
    fillAttrs sl d = attrsOf d := by
  match sl, h with
  | [_, _, _, _], _ => rfl

theorem len_get {p p' : Pool} {m : Obj → List Attr} {n : Nat} {ob : Obj} {b : Bool} {v : List Attr}
    (h : ∀ o, o < p.fresh → (m o).length = n) (hg : p.get ob = some (p', b)) (hv : v.length = n) :
    ∀ o, o < p'.fresh → ((if b then upd m ob v else m) o).length = n := by
  obtain ⟨hf, hn⟩ := Pool.get_fresh hg
  intro o ho
  rw [hf] at ho
  cases b with
  | false => exact h o ho
  | true =>
    obtain rfl := hn rfl
    by_cases he : o = p.fresh
    · rw [he, if_pos rfl, upd_same]; exact hv
    · rw [if_pos rfl, upd_other _ _ he]; exact h o (by simp at ho; omega)

theorem len_upd {m : Obj → List Attr} {n k : Nat} {x : Obj} {v : List Attr}
    (h : ∀ o, o < k → (m o).length = n) (hv : v.length = (m x).length) :
    ∀ o, o < k → (upd m x v o).length = n := by
  intro o ho
  by_cases he : o = x
  · rw [he, upd_same, hv, ← he]; exact h o ho
  · rw [upd_other _ _ he]; exact h o ho

theorem lastHeader_snoc (i : Rid) (tr : List Obs) (o : Obs) :
    lastHeader i (tr ++ [o]) =
      match o with
      | .wroteHeader j _ c => if j = i then some c else lastHeader i tr
      | _ => lastHeader i tr := by
  simp only [lastHeader, List.foldl_append, List.foldl_cons, List.foldl_nil]
  cases o <;> rfl

theorem hasPanicked_snoc (i : Rid) (tr : List Obs) (o : Obs) :
    hasPanicked i (tr ++ [o]) = (hasPanicked i tr || decide (o = .handlerPanic i)) := by
  simp only [hasPanicked, List.mem_append, List.mem_singleton]
  by_cases h1 : Obs.handlerPanic i ∈ tr <;> by_cases h2 : o = Obs.handlerPanic i <;> simp [h1, h2, eq_comm]

/-- the request whose `lastHeader` or `hasPanicked` an observation changes -/
def affects : Obs → Option Rid
  | .wroteHeader i _ _ | .handlerPanic i => some i
  | _ => none

def filledA : PC → Bool
  | .idle | .getAttr | .fillAttr | .done => false
  | _ => true

def hasLg : PC → Bool
  | .idle | .getAttr | .fillAttr | .withAttrs | .done => false
  | _ => true

def copiedQ : PC → Bool
  | .getRw | .resetRw | .logStarted | .serve | .implicit | .logFinished | .putRw | .putReq => true
  | _ => false

def resetW : PC → Bool
  | .logStarted | .serve | .implicit | .logFinished | .putRw => true
  | _ => false

def preImplicit : PC → Bool
  | .logStarted | .serve | .implicit => true
  | _ => false

def atFin : PC → Bool
  | .logFinished => true
  | _ => false

def beforeServe : PC → Bool
  | .idle | .getAttr | .fillAttr | .withAttrs | .getReq | .copyReq | .getRw | .resetRw | .logStarted => true
  | _ => false

/-- everything the invariant reads off a program counter -/
def facts : List (PC → Bool) :=
  [holdsA, holdsQ, holdsW, filledA, hasLg, copiedQ, resetW, preImplicit, atFin, beforeServe]

/-- going from `p` to `p'` a request comes to hold and to claim nothing new -/
def keeps (p p' : PC) : Bool := facts.all fun f => !f p' || f p

theorem keeps_imp {p p' : PC} (h : keeps p p' = true) {f : PC → Bool} (hf : f ∈ facts) (h' : f p' = true) :
    f p = true := by
  simpa [h'] using List.all_eq_true.mp h f hf

/-- a request knows something only about an object it holds -/
theorem holds_of_known (p : PC) :
    (filledA p = true → holdsA p = true) ∧ (copiedQ p = true → holdsQ p = true) ∧
    (resetW p = true → holdsW p = true) ∧ (preImplicit p = true → resetW p = true) ∧
    (atFin p = true → resetW p = true) := by
  cases p <;> decide

/-- What request `i` can rely on: `t` are its local variables, `A`, `Q` and `W` the contents
of the pooled objects that `t.a`, `t.q` and `t.w` name, `last` and `pan` what the trace says
so far about its handler's `WriteHeader` calls and panic. -/
structure Good (inp : Rid → ReqData) (i : Rid) (t : Thread) (A : List Attr)
    (Q : Option (ReqData × Obj)) (W : RwObj) (last : Option Nat) (pan : Bool) : Prop where
  contA : filledA t.pc = true → A = attrsOf (inp i)
  lgA : hasLg t.pc = true → t.lg = t.a
  contQ : copiedQ t.pc = true → Q = some (inp i, t.a)
  underW : resetW t.pc = true → W.under = some i
  codeW : preImplicit t.pc = true → W.code = last.getD 0 ∧ pan = false
  codeFin : atFin t.pc = true → W.code = finCode last pan
  early : beforeServe t.pc = true → last = none ∧ pan = false

section
variable {inp : Rid → ReqData} {i : Rid} {t t' : Thread} {A A' : List Attr}
  {Q Q' : Option (ReqData × Obj)} {W W' : RwObj} {last : Option Nat} {pan : Bool}

/-- the request goes on from program counter `q` to one at which it claims nothing new -/
theorem Good.carry {q : PC} (hg : Good inp i t A Q W last pan) (hq : t.pc = q) (hk : keeps q t'.pc = true)
    (ha : t'.a = t.a) (hlg : t'.lg = t.lg) : Good inp i t' A Q W last pan := by
  subst hq
  exact {
    contA := fun h => hg.contA (keeps_imp hk (by simp [facts]) h)
    lgA := fun h => by rw [hlg, ha]; exact hg.lgA (keeps_imp hk (by simp [facts]) h)
    contQ := fun h => by rw [ha]; exact hg.contQ (keeps_imp hk (by simp [facts]) h)
    underW := fun h => hg.underW (keeps_imp hk (by simp [facts]) h)
    codeW := fun h => hg.codeW (keeps_imp hk (by simp [facts]) h)
    codeFin := fun h => hg.codeFin (keeps_imp hk (by simp [facts]) h)
    early := fun h => hg.early (keeps_imp hk (by simp [facts]) h) }

/-- only the contents the request knows something about matter -/
theorem Good.congr (hg : Good inp i t A Q W last pan) (hA : filledA t.pc = true → A' = A)
    (hQ : copiedQ t.pc = true → Q' = Q) (hW : resetW t.pc = true → W' = W) :
    Good inp i t A' Q' W' last pan := by
  obtain ⟨-, -, -, hpre, hfin⟩ := holds_of_known t.pc
  exact {
    contA := fun h => (hA h).trans (hg.contA h)
    lgA := hg.lgA
    contQ := fun h => (hQ h).trans (hg.contQ h)
    underW := fun h => by rw [hW h]; exact hg.underW h
    codeW := fun h => by rw [hW (hpre h)]; exact hg.codeW h
    codeFin := fun h => by rw [hW (hfin h)]; exact hg.codeFin h
    early := hg.early }

/-- an observation that bears on neither `lastHeader i` nor `hasPanicked i` changes nothing for `i` -/
theorem Good.snoc {tr : List Obs} {o : Obs}
    (hg : Good inp i t A Q W (lastHeader i tr) (hasPanicked i tr)) (ho : affects o ≠ some i) :
    Good inp i t A Q W (lastHeader i (tr ++ [o])) (hasPanicked i (tr ++ [o])) := by
  have : lastHeader i (tr ++ [o]) = lastHeader i tr ∧ hasPanicked i (tr ++ [o]) = hasPanicked i tr := by
    rw [lastHeader_snoc, hasPanicked_snoc]
    cases o <;> simp_all [affects]
  rw [this.1, this.2]; exact hg

end

structure Inv (inp : Rid → ReqData) (s : St) (tr : List Obs) : Prop where
  pools : PoolsInv s
  len : LenInv s
  good : ∀ i, Good inp i (s.th i) (s.mA (s.th i).a) (s.mQ (s.th i).q) (s.mW (s.th i).w)
    (lastHeader i tr) (hasPanicked i tr)

section
variable {inp : Rid → ReqData} {s s' : St} {tr : List Obs} {o : Obs} {i : Rid} {t' : Thread}

/-- What a step of one request wrote: in each of the three memories at most the object that
request, with local variables `t'` after the step, holds then.  A memory that is not named
was not written to. -/
structure WritesOwn (s s' : St) (t' : Thread) : Prop where
  mA : ∀ x, s'.mA x ≠ s.mA x → holdsA t'.pc = true ∧ x = t'.a := by exact fun _ h => absurd rfl h
  mQ : ∀ x, s'.mQ x ≠ s.mQ x → holdsQ t'.pc = true ∧ x = t'.q := by exact fun _ h => absurd rfl h
  mW : ∀ x, s'.mW x ≠ s.mW x → holdsW t'.pc = true ∧ x = t'.w := by exact fun _ h => absurd rfl h

/-- A step of request `i` that writes only to objects `i` holds after it keeps the invariant
if the pool discipline and the lengths are kept and `i` itself is provided for: what another
request holds is not what `i` holds, by the discipline of the new state. -/
theorem Inv.step (hI : Inv inp s tr) (th : s'.th = upd s.th i t') (pools : PoolsInv s')
    (len : LenInv s') (writes : WritesOwn s s' t') (others : ∀ j, j ≠ i → affects o ≠ some j)
    (self : Good inp i t' (s'.mA t'.a) (s'.mQ t'.q) (s'.mW t'.w)
      (lastHeader i (tr ++ [o])) (hasPanicked i (tr ++ [o]))) :
    Inv inp s' (tr ++ [o]) := by
  refine ⟨pools, len, fun j => ?_⟩
  have hi : s'.th i = t' := by rw [th, upd_same]
  by_cases hji : j = i
  · rw [hji, hi]; exact self
  · have hj : s'.th j = s.th j := by rw [th, upd_other _ _ hji]
    obtain ⟨hhA, hhQ, hhW, -, -⟩ := holds_of_known (s.th j).pc
    rw [hj]
    exact ((hI.good j).congr (fun hf => pools.1.untouched hji hi hj (hhA hf) writes.mA)
      (fun hf => pools.2.1.untouched hji hi hj (hhQ hf) writes.mQ)
      (fun hf => pools.2.2.untouched hji hi hj (hhW hf) writes.mW)).snoc (others j hji)

/-- `Inv.step` for a step whose observation bears on nobody's `lastHeader` or `hasPanicked` -/
theorem Inv.quiet_step (hI : Inv inp s tr) (th : s'.th = upd s.th i t') (pools : PoolsInv s')
    (len : LenInv s') (writes : WritesOwn s s' t') (quiet : affects o = none)
    (self : Good inp i t' (s'.mA t'.a) (s'.mQ t'.q) (s'.mW t'.w) (lastHeader i tr) (hasPanicked i tr)) :
    Inv inp s' (tr ++ [o]) :=
  hI.step th pools len writes (fun j _ => by simp [quiet]) (self.snoc (by simp [quiet]))

/-- request `i` only goes on, from program counter `q` to a `p'` at which it holds and claims
nothing new -/
theorem Inv.move {q p' : PC} (hI : Inv inp s tr) (hq : (s.th i).pc = q) (hk : keeps q p' = true)
    (quiet : affects o = none) : Inv inp (setTh s i { s.th i with pc := p' }) (tr ++ [o]) :=
  have hh (f : PC → Bool) (hf : f ∈ facts) : (!f p' || f q) = true := List.all_eq_true.mp hk f hf
  hI.quiet_step (th := rfl)
    (pools := ⟨hI.pools.1.move rfl hq (hh holdsA (by simp [facts])),
      hI.pools.2.1.move rfl hq (hh holdsQ (by simp [facts])),
      hI.pools.2.2.move rfl hq (hh holdsW (by simp [facts]))⟩)
    (len := hI.len) (writes := {}) (quiet := quiet) (self := (hI.good i).carry hq hk rfl rfl)

end

/-- what an observation must look like, given the observations before it -/
def ObsOk (inp : Rid → ReqData) (tr : List Obs) : Obs → Prop
  | .silent => True
  | .started i la => la = attrsOf (inp i)
  | .seen i d la => d = some (inp i) ∧ la = attrsOf (inp i)
  | .hlog i la => la = attrsOf (inp i)
  | .wroteHeader i cl _ => cl = some i
  | .wrote i cl _ => cl = some i
  | .finished i la c => la = attrsOf (inp i) ∧ c = finCode (lastHeader i tr) (hasPanicked i tr)
  | .handlerPanic _ => True
  | .goPanic _ => False

theorem step_inv {inp : Rid → ReqData} {s s' : St} {tr : List Obs} {a : Act} {o : Obs}
    (hI : Inv inp s tr) (hs : step inp s a = some (s', o)) : Inv inp s' (tr ++ [o]) ∧ ObsOk inp tr o := by
  -- In every case `pools` lists the pools of attribute slices, requests and response writers in
  -- this order, `writes` names the memory the step stored into, and `self` says for each clause
  -- of `Good` whether the request keeps it from before (`g.…`), gains it, or claims nothing at
  -- its new program counter (`no`).
  obtain ⟨hA, hQ, hW⟩ := hI.pools
  rw [ownedA_eq] at hA
  rw [ownedQ_eq] at hQ
  rw [ownedW_eq] at hW
  have no {P : Prop} : false = true → P := nofun
  cases a with
  | arrive i =>
    simp only [step] at hs
    split at hs
    · next hpc =>
      cases hs
      exact ⟨hI.move hpc rfl rfl, trivial⟩
    · cases hs
  | get i ob =>
    have g := hI.good i
    simp only [step, stepGet] at hs
    split at hs
    · next hpc =>  -- attrPool.Get
      simp only [Option.map_eq_some_iff] at hs
      obtain ⟨⟨p', b⟩, hg, heq⟩ := hs
      cases heq
      exact ⟨hI.quiet_step (th := rfl)
        (pools := ⟨hA.take hg rfl rfl, hQ.move rfl hpc rfl, hW.move rfl hpc rfl⟩)
        (len := len_get hI.len hg List.length_replicate)
        (writes := { mA := fun _ h => ⟨rfl, upd_if_ne h⟩ }) (quiet := rfl)
        (self := { contA := no, lgA := no, contQ := no, underW := no, codeW := no, codeFin := no,
                   early := fun _ => g.early (congrArg beforeServe hpc) }), trivial⟩
    · next hpc =>  -- reqPool.Get
      simp only [Option.map_eq_some_iff] at hs
      obtain ⟨⟨p', b⟩, hg, heq⟩ := hs
      cases heq
      exact ⟨hI.quiet_step (th := rfl)
        (pools := ⟨hA.move rfl hpc rfl, hQ.take hg rfl rfl, hW.move rfl hpc rfl⟩) (len := hI.len)
        (writes := { mQ := fun _ h => ⟨rfl, upd_if_ne h⟩ }) (quiet := rfl)
        (self := { contA := fun _ => g.contA (congrArg filledA hpc), lgA := fun _ => g.lgA (congrArg hasLg hpc),
                   contQ := no, underW := no, codeW := no, codeFin := no,
                   early := fun _ => g.early (congrArg beforeServe hpc) }), trivial⟩
    · next hpc =>  -- rwPool.Get
      simp only [Option.map_eq_some_iff] at hs
      obtain ⟨⟨p', b⟩, hg, heq⟩ := hs
      cases heq
      exact ⟨hI.quiet_step (th := rfl)
        (pools := ⟨hA.move rfl hpc rfl, hQ.move rfl hpc rfl, hW.take hg rfl rfl⟩) (len := hI.len)
        (writes := { mW := fun _ h => ⟨rfl, upd_if_ne h⟩ }) (quiet := rfl)
        (self := { contA := fun _ => g.contA (congrArg filledA hpc), lgA := fun _ => g.lgA (congrArg hasLg hpc),
                   contQ := fun _ => g.contQ (congrArg copiedQ hpc), underW := no, codeW := no, codeFin := no,
                   early := fun _ => g.early (congrArg beforeServe hpc) }), trivial⟩
    · cases hs
  | tick i =>
    have g := hI.good i
    simp only [step, stepTick] at hs
    cases hpc : (s.th i).pc <;> simp only [hpc] at hs
    case fillAttr =>
      -- the slice came from the pool, so it has `logMwAttrNum` elements and the index is in range
      have hlen := hI.len _ (hA.own_lt i (s.th i).a (by simp [owned, hpc, holdsA]))
      split at hs
      · next h => rw [hlen] at h; exact absurd h (by decide)
      · cases hs
        exact ⟨hI.quiet_step (th := rfl)
          (pools := ⟨hA.move rfl hpc rfl, hQ.move rfl hpc rfl, hW.move rfl hpc rfl⟩)
          (len := len_upd hI.len (fillAttrs_length ..))
          (writes := { mA := fun _ h => ⟨rfl, upd_ne h⟩ }) (quiet := rfl)
          (self := { contA := fun _ => (upd_same ..).trans (fillAttrs_eq _ _ hlen),
                     lgA := no, contQ := no, underW := no, codeW := no, codeFin := no,
                     early := fun _ => g.early (congrArg beforeServe hpc) }), trivial⟩
    case withAttrs =>
      cases hs
      exact ⟨hI.quiet_step (th := rfl)
        (pools := ⟨hA.move rfl hpc rfl, hQ.move rfl hpc rfl, hW.move rfl hpc rfl⟩) (len := hI.len)
        (writes := {}) (quiet := rfl)
        (self := { contA := fun _ => g.contA (congrArg filledA hpc), lgA := fun _ => rfl,
                   contQ := no, underW := no, codeW := no, codeFin := no,
                   early := fun _ => g.early (congrArg beforeServe hpc) }), trivial⟩
    case copyReq =>
      cases hs
      exact ⟨hI.quiet_step (th := rfl)
        (pools := ⟨hA.move rfl hpc rfl, hQ.move rfl hpc rfl, hW.move rfl hpc rfl⟩) (len := hI.len)
        (writes := { mQ := fun _ h => ⟨rfl, upd_ne h⟩ }) (quiet := rfl)
        (self := { contA := fun _ => g.contA (congrArg filledA hpc), lgA := fun _ => g.lgA (congrArg hasLg hpc),
                   contQ := fun _ => (upd_same ..).trans (by rw [g.lgA (congrArg hasLg hpc)]),
                   underW := no, codeW := no, codeFin := no,
                   early := fun _ => g.early (congrArg beforeServe hpc) }), trivial⟩
    case resetRw =>
      cases hs
      obtain ⟨hl, hp⟩ := g.early (congrArg beforeServe hpc)
      exact ⟨hI.quiet_step (th := rfl)
        (pools := ⟨hA.move rfl hpc rfl, hQ.move rfl hpc rfl, hW.move rfl hpc rfl⟩) (len := hI.len)
        (writes := { mW := fun _ h => ⟨rfl, upd_ne h⟩ }) (quiet := rfl)
        (self := { contA := fun _ => g.contA (congrArg filledA hpc), lgA := fun _ => g.lgA (congrArg hasLg hpc),
                   contQ := fun _ => g.contQ (congrArg copiedQ hpc),
                   underW := fun _ => congrArg RwObj.under (upd_same ..),
                   codeW := fun _ => ⟨by simp [hl], hp⟩, codeFin := no, early := fun _ => ⟨hl, hp⟩ }), trivial⟩
    case logStarted =>
      cases hs
      refine ⟨hI.move hpc rfl rfl, ?_⟩
      show s.mA (s.th i).lg = _
      rw [g.lgA (congrArg hasLg hpc)]; exact g.contA (congrArg filledA hpc)
    case implicit =>
      cases hs
      obtain ⟨hc, hp⟩ := g.codeW (congrArg preImplicit hpc)
      exact ⟨hI.quiet_step (th := rfl)
        (pools := ⟨hA.move rfl hpc rfl, hQ.move rfl hpc rfl, hW.move rfl hpc rfl⟩) (len := hI.len)
        (writes := { mW := fun _ h => ⟨rfl, upd_ne h⟩ }) (quiet := rfl)
        (self := { contA := fun _ => g.contA (congrArg filledA hpc), lgA := fun _ => g.lgA (congrArg hasLg hpc),
                   contQ := fun _ => g.contQ (congrArg copiedQ hpc),
                   underW := fun _ => (congrArg RwObj.under (upd_same ..)).trans (g.underW (congrArg resetW hpc)),
                   codeW := no, codeFin := fun _ => by simp [hp, hc, finCode], early := no }), trivial⟩
    case logFinished =>
      cases hs
      refine ⟨hI.move hpc rfl rfl, ?_, g.codeFin (congrArg atFin hpc)⟩
      show s.mA (s.th i).lg = _
      rw [g.lgA (congrArg hasLg hpc)]; exact g.contA (congrArg filledA hpc)
    case putRw =>
      cases hs
      exact ⟨hI.quiet_step (th := rfl)
        (pools := ⟨hA.move rfl hpc rfl, hQ.move rfl hpc rfl, hW.give (congrArg holdsW hpc) rfl⟩)
        (len := hI.len) (writes := {}) (quiet := rfl) (self := g.carry hpc rfl rfl rfl), trivial⟩
    case putReq =>
      cases hs
      exact ⟨hI.quiet_step (th := rfl)
        (pools := ⟨hA.move rfl hpc rfl, hQ.give (congrArg holdsQ hpc) rfl, hW.move rfl hpc rfl⟩)
        (len := hI.len) (writes := {}) (quiet := rfl) (self := g.carry hpc rfl rfl rfl), trivial⟩
    case putAttr =>
      cases hs
      exact ⟨hI.quiet_step (th := rfl)
        (pools := ⟨hA.give (congrArg holdsA hpc) rfl, hQ.move rfl hpc rfl, hW.move rfl hpc rfl⟩)
        (len := hI.len) (writes := {}) (quiet := rfl) (self := g.carry hpc rfl rfl rfl), trivial⟩
    all_goals cases hs
  | handler i op =>
    have g := hI.good i
    have hth : s.th = upd s.th i (s.th i) := (upd_self_eq _ _ _ rfl).symm
    simp only [step, stepHandler] at hs
    split at hs
    · next hpc =>
      have hq := g.contQ (congrArg copiedQ hpc)
      have hu := g.underW (congrArg resetW hpc)
      have hctx : ctxAttrs s (s.th i).q = attrsOf (inp i) := by
        simp [ctxAttrs, hq, g.contA (congrArg filledA hpc)]
      -- a call that changes nothing in the state
      have stay {o : Obs} (quiet : affects o = none) : Inv inp s (tr ++ [o]) :=
        hI.quiet_step (th := hth) (pools := hI.pools) (len := hI.len) (writes := {}) (quiet := quiet)
          (self := g)
      cases op with
      | observe =>
        cases hs
        exact ⟨stay rfl, by simp [hq], hctx⟩
      | log =>
        cases hs
        exact ⟨stay rfl, hctx⟩
      | writeHeader c =>
        cases hs
        refine ⟨hI.step (th := hth) (pools := hI.pools) (len := hI.len)
          (writes := { mW := fun _ h => ⟨congrArg holdsW hpc, upd_ne h⟩ })
          (others := fun j hj h => hj (Option.some.inj h).symm) (self := ?_), hu⟩
        have hl : lastHeader i (tr ++ [.wroteHeader i (s.mW (s.th i).w).under c]) = some c := by
          rw [lastHeader_snoc]; exact if_pos rfl
        have hp : hasPanicked i (tr ++ [.wroteHeader i (s.mW (s.th i).w).under c]) = hasPanicked i tr := by
          rw [hasPanicked_snoc]; simp
        rw [hl, hp]
        exact { g with
          underW := fun h => (congrArg RwObj.under (upd_same ..)).trans (g.underW h)
          codeW := fun h => ⟨congrArg RwObj.code (upd_same ..), (g.codeW h).2⟩
          codeFin := fun h => no ((congrArg atFin hpc).symm.trans h)
          early := fun h => no ((congrArg beforeServe hpc).symm.trans h) }
      | write b =>
        cases hs
        exact ⟨stay rfl, hu⟩
      | ret =>
        cases hs
        exact ⟨hI.move hpc rfl rfl, trivial⟩
      | panic =>
        cases hs
        obtain ⟨hc, -⟩ := g.codeW (congrArg preImplicit hpc)
        refine ⟨hI.step (th := rfl)
          (pools := ⟨hA.move rfl hpc rfl, hQ.move rfl hpc rfl, hW.move rfl hpc rfl⟩) (len := hI.len)
          (writes := {}) (others := fun j hj h => hj (Option.some.inj h).symm) (self := ?_), trivial⟩
        have hl : lastHeader i (tr ++ [.handlerPanic i]) = lastHeader i tr := lastHeader_snoc ..
        have hp : hasPanicked i (tr ++ [.handlerPanic i]) = true := by rw [hasPanicked_snoc]; simp
        rw [hl, hp]
        exact { contA := fun _ => g.contA (congrArg filledA hpc), lgA := fun _ => g.lgA (congrArg hasLg hpc),
                contQ := fun _ => hq, underW := fun _ => hu, codeW := no, codeFin := fun _ => hc, early := no }
    · cases hs
  | gc p ob =>
    simp only [step, stepGc] at hs
    cases p <;> simp only [Option.map_eq_some_iff] at hs <;> obtain ⟨p', hd, heq⟩ := hs <;> cases heq
    · exact ⟨⟨⟨hA.drop hd, hQ, hW⟩, fun x hx => hI.len x (Pool.drop_fresh hd ▸ hx), fun j => (hI.good j).snoc nofun⟩,
        trivial⟩
    · exact ⟨⟨⟨hA, hQ.drop hd, hW⟩, hI.len, fun j => (hI.good j).snoc nofun⟩, trivial⟩
    · exact ⟨⟨⟨hA, hQ, hW.drop hd⟩, hI.len, fun j => (hI.good j).snoc nofun⟩, trivial⟩

theorem exec_inv {inp : Rid → ReqData} {s : St} {tr : List Obs} (h : Exec inp s tr) : Inv inp s tr := by
  induction h with
  | init =>
    exact ⟨⟨PoolInv.empty, PoolInv.empty, PoolInv.empty⟩, fun _ h => absurd h (Nat.not_lt_zero _),
      fun _ => ⟨nofun, nofun, nofun, nofun, nofun, nofun, fun _ => ⟨rfl, rfl⟩⟩⟩
  | step _ hs ih => exact (step_inv ih hs).1

theorem step_obs_ok {inp : Rid → ReqData} {s s' : St} {tr : List Obs} {a : Act} {o : Obs}
    (hI : Inv inp s tr) (hs : step inp s a = some (s', o)) : ObsOk inp tr o :=
  (step_inv hI hs).2

end GolibsVerif.C20
