/-
The two binary searches of `unicode.SimpleFold` are complete on the regenerated tables:
`caseOrbit` has strictly increasing keys and `CaseRanges` consists of non-empty, increasing,
disjoint ranges (checked by kernel evaluation on the tables of `Gen/UniFold.lean`), so
`orbitSearch` finds the entry with a given key and `lookupCaseRange` the range containing a
given rune whenever there is one.  With `simpleFold_cases` of `Lemmas/Unicode.lean` this
gives the table semantics of the model: `simpleFold_ascii`, `simpleFold_of_orbit`,
`simpleFold_of_range`, and in one equation `tableFold_eq`: the model is
the function `tableFold` read off the tables as lists, without arrays or binary search.
-/
import GolibsVerif.Lemmas.Unicode
namespace GolibsVerif.Unicode
open GolibsVerif.Gen.UniFold

/-! ## Completeness of the two binary searches on sorted tables -/

/-- the midpoint `int(uint(lo+hi) >> 1)` of both searches lies in `[lo, hi)` -/
theorem mid_bounds {lo hi : Nat} (h : lo < hi) : lo ≤ (lo + hi) >>> 1 ∧ (lo + hi) >>> 1 < hi := by
  simp only [Nat.shiftRight_eq_div_pow]; omega

/-- `[lo a, hi a]` non-empty, increasing and disjoint along the list (adjacent check); with
`lo = hi` the keys are strictly increasing -/
def sortedBy {α : Type} (lo hi : α → Nat) : List α → Bool
  | a :: b :: t => decide (lo a ≤ hi a) && decide (hi a < lo b) && sortedBy lo hi (b :: t)
  | [a] => decide (lo a ≤ hi a)
  | [] => true

theorem sortedBy_pairwise {α : Type} {lo hi : α → Nat} : ∀ (l : List α), sortedBy lo hi l = true →
    l.Pairwise (fun a b => hi a < lo b) ∧ ∀ a ∈ l, lo a ≤ hi a
  | [], _ => ⟨List.Pairwise.nil, by simp⟩
  | [a], h => by
    simp only [sortedBy, decide_eq_true_eq] at h
    exact ⟨List.pairwise_singleton _ _, by simpa using h⟩
  | a :: b :: t, h => by
    simp only [sortedBy, Bool.and_eq_true, decide_eq_true_eq] at h
    obtain ⟨ih1, ih2⟩ := sortedBy_pairwise (b :: t) h.2
    refine ⟨List.Pairwise.cons ?_ ih1, ?_⟩
    · intro c hc
      rcases List.mem_cons.mp hc with rfl | hc
      · exact h.1.2
      · have h1 := List.rel_of_pairwise_cons ih1 hc
        have h2 := ih2 b List.mem_cons_self
        omega
    · intro c hc
      rcases List.mem_cons.mp hc with rfl | hc
      · exact h.1.1
      · exact ih2 c hc

/-- On a table with strictly increasing keys the search loop of `SimpleFold` computes the
partition point of `[lo, hi)`: the keys before the result are `< r`, those from it on are `≥ r`. -/
theorem orbitSearch_spec {tbl : Array (Nat × Nat)} {r : Nat}
    (hs : ∀ (a b : Nat) (_ : a < b) (hb : b < tbl.size), tbl[a].1 < tbl[b].1) :
    ∀ (fuel lo hi : Nat) (hh : hi ≤ tbl.size), lo ≤ hi → hi - lo ≤ fuel →
      lo ≤ orbitSearch tbl r fuel lo hi hh ∧ orbitSearch tbl r fuel lo hi hh ≤ hi ∧
      (∀ (a : Nat) (ha : a < tbl.size), lo ≤ a → a < orbitSearch tbl r fuel lo hi hh → tbl[a].1 < r) ∧
      (∀ (a : Nat) (ha : a < tbl.size), orbitSearch tbl r fuel lo hi hh ≤ a → a < hi → r ≤ tbl[a].1)
  | 0, lo, hi, hh, h1, h2 => by
    simp only [orbitSearch]
    exact ⟨Nat.le_refl _, h1, fun a _ _ _ => by omega, fun a _ _ _ => by omega⟩
  | fuel + 1, lo, hi, hh, h1, h2 => by
    have mono : ∀ (a b : Nat) (_ : a ≤ b) (hb : b < tbl.size), tbl[a].1 ≤ tbl[b].1 := fun a b hab hb => by
      rcases Nat.lt_or_eq_of_le hab with h | rfl
      · exact Nat.le_of_lt (hs a b h hb)
      · exact Nat.le_refl _
    rw [orbitSearch]
    by_cases h : lo < hi
    · rw [dif_pos h]
      simp only
      obtain ⟨hm1, hm2⟩ := mid_bounds h
      have hm : (lo + hi) >>> 1 < tbl.size := Nat.lt_of_lt_of_le hm2 hh
      split
      · next hlt =>
        obtain ⟨i1, i2, i3, i4⟩ := orbitSearch_spec (r := r) hs fuel (((lo + hi) >>> 1) + 1) hi hh (by omega) (by omega)
        refine ⟨by omega, i2, ?_, i4⟩
        intro a ha hla hres
        by_cases ham : a ≤ ((lo + hi) >>> 1)
        · exact Nat.lt_of_le_of_lt (mono a _ ham hm) hlt
        · exact i3 a ha (by omega) hres
      · next hge =>
        obtain ⟨i1, i2, i3, i4⟩ := orbitSearch_spec (r := r) hs fuel lo ((lo + hi) >>> 1) (Nat.le_of_lt hm) hm1 (by omega)
        refine ⟨i1, by omega, i3, ?_⟩
        intro a ha hres hahi
        by_cases ham : a < ((lo + hi) >>> 1)
        · exact i4 a ha hres ham
        · exact Nat.le_trans (Nat.le_of_not_lt hge) (mono _ a (Nat.le_of_not_lt ham) ha)
    · rw [dif_neg h]
      exact ⟨Nat.le_refl _, h1, fun a _ _ _ => by omega, fun a _ _ _ => by omega⟩

theorem orbitSearch_complete {tbl : Array (Nat × Nat)} {r i : Nat} (hi : i < tbl.size)
    (hs : ∀ (a b : Nat) (_ : a < b) (hb : b < tbl.size), tbl[a].1 < tbl[b].1)
    (hk : tbl[i].1 = r) :
    orbitSearch tbl r tbl.size 0 tbl.size (Nat.le_refl _) = i := by
  obtain ⟨_, h2, h3, h4⟩ := orbitSearch_spec (r := r) hs tbl.size 0 tbl.size (Nat.le_refl _) (Nat.zero_le _) (by omega)
  generalize orbitSearch tbl r tbl.size 0 tbl.size (Nat.le_refl _) = res at h2 h3 h4
  by_cases h : i < res
  · have := h3 i hi (Nat.zero_le _) h; omega
  · by_cases h' : i = res
    · exact h'.symm
    · have hres : res < tbl.size := by omega
      have := h4 res hres (Nat.le_refl _) hres
      have := hs res i (by omega) hi
      omega

/-- In a table of non-empty, increasing, disjoint ranges, how `r` lies relative to the range at
`m` tells where the range that contains `r` is. -/
theorem index_of_inRange {tbl : Array CaseRange} {r i m : Nat} (hi : i < tbl.size) (hm : m < tbl.size)
    (hs : ∀ (a b : Nat) (_ : a < b) (hb : b < tbl.size), tbl[a].2.1 < tbl[b].1)
    (hne : ∀ (a : Nat) (ha : a < tbl.size), tbl[a].1 ≤ tbl[a].2.1) (hin : inRange tbl[i] r) :
    (inRange tbl[m] r → m = i) ∧ (r < tbl[m].1 → i < m) ∧ (tbl[m].2.1 < r → m < i) := by
  have := hne m hm
  unfold inRange at *
  rcases Nat.lt_trichotomy m i with h | rfl | h
  · have := hs m i h hi; omega
  · omega
  · have := hs i m h hm; omega

/-- On such a table the loop of `lookupCaseRange`, started with the range that contains `r` in
`[lo, hi)`, returns that range. -/
theorem lookupCaseRangeLoop_spec {tbl : Array CaseRange} {r i : Nat} (hi' : i < tbl.size)
    (hs : ∀ (a b : Nat) (_ : a < b) (hb : b < tbl.size), tbl[a].2.1 < tbl[b].1)
    (hne : ∀ (a : Nat) (ha : a < tbl.size), tbl[a].1 ≤ tbl[a].2.1) (hin : inRange tbl[i] r) :
    ∀ (fuel lo hi : Nat) (hh : hi ≤ tbl.size), hi - lo ≤ fuel → lo ≤ i → i < hi →
      lookupCaseRangeLoop tbl r fuel lo hi hh = some tbl[i]
  | 0, lo, hi, hh, h2, h3, h4 => by omega
  | fuel + 1, lo, hi, hh, h2, h3, h4 => by
    rw [lookupCaseRangeLoop, dif_pos (Nat.lt_of_le_of_lt h3 h4)]
    simp only
    obtain ⟨hm1, hm2⟩ := mid_bounds (Nat.lt_of_le_of_lt h3 h4)
    have hm : (lo + hi) >>> 1 < tbl.size := Nat.lt_of_lt_of_le hm2 hh
    obtain ⟨heq, hlt, hgt⟩ := index_of_inRange hi' hm hs hne hin
    split
    · next hc => simp only [heq hc]
    · next hnot =>
      split
      · next hlo => exact lookupCaseRangeLoop_spec hi' hs hne hin fuel lo _ (Nat.le_of_lt hm) (by omega) h3 (hlt hlo)
      · next hlo =>
        refine lookupCaseRangeLoop_spec hi' hs hne hin fuel _ hi hh (by omega) (hgt ?_) h4
        omega

theorem lookupCaseRangeLoop_none {tbl : Array CaseRange} {r : Nat}
    (hs : ∀ (a b : Nat) (_ : a < b) (hb : b < tbl.size), tbl[a].2.1 < tbl[b].1)
    (hne : ∀ (a : Nat) (ha : a < tbl.size), tbl[a].1 ≤ tbl[a].2.1)
    (fuel lo hi : Nat) (hh : hi ≤ tbl.size) (h : hi - lo ≤ fuel)
    (hnone : lookupCaseRangeLoop tbl r fuel lo hi hh = none) (a : Nat) (ha : a < tbl.size)
    (hla : lo ≤ a) (hah : a < hi) : ¬ inRange tbl[a] r := fun hin => by
  rw [lookupCaseRangeLoop_spec ha hs hne hin fuel lo hi hh h hla hah] at hnone
  cases hnone

theorem lookupCaseRange_complete {tbl : Array CaseRange} {r i : Nat} (hi : i < tbl.size)
    (hs : ∀ (a b : Nat) (_ : a < b) (hb : b < tbl.size), tbl[a].2.1 < tbl[b].1)
    (hne : ∀ (a : Nat) (ha : a < tbl.size), tbl[a].1 ≤ tbl[a].2.1)
    (hin : inRange tbl[i] r) : lookupCaseRange r tbl = some tbl[i] :=
  lookupCaseRangeLoop_spec hi hs hne hin _ _ _ _ (Nat.le_refl _) (Nat.zero_le _) hi

/-! ## The regenerated tables are sorted -/

theorem caseOrbit_sorted : sortedBy (·.1) (·.1) caseOrbit = true := by decide +kernel

theorem caseRanges_sorted : sortedBy (·.1) (·.2.1) caseRanges = true := by decide +kernel

/-- For every range and every case, the delta is the `UpperLower` sentinel or `r + delta` stays
within `[0, MaxInt32]` for all runes of the range: `Int.toNat` in `convertCase` is the identity
and Go's `int32` addition does not wrap. -/
def deltaOk (cr : CaseRange) : Bool :=
  [cr.2.2.1, cr.2.2.2.1, cr.2.2.2.2].all fun d =>
    decide (d = upperLower) ||
      (decide (d ≤ (maxRune : Int)) && decide (0 ≤ (cr.1 : Int) + d) && decide ((cr.2.1 : Int) + d ≤ 2147483647))

theorem caseRanges_delta_ok : caseRanges.all deltaOk = true := by decide +kernel

/-- the same in the index form the searches are stated with -/
theorem sortedBy_toArray {α : Type} {lo hi : α → Nat} {l : List α} (h : sortedBy lo hi l = true) :
    (∀ (a b : Nat) (_ : a < b) (hb : b < l.toArray.size), hi l.toArray[a] < lo l.toArray[b]) ∧
    ∀ (a : Nat) (ha : a < l.toArray.size), lo l.toArray[a] ≤ hi l.toArray[a] := by
  obtain ⟨h1, h2⟩ := sortedBy_pairwise l h
  refine ⟨fun a b hab hb => ?_, fun a ha => h2 _ (List.getElem_mem (by simpa using ha))⟩
  exact List.pairwise_iff_getElem.mp h1 a b (by simp at hb; omega) (by simpa using hb) hab

/-! ## Table semantics of the model -/

theorem simpleFold_ascii {r : Nat} (h : r < 128) : asciiFold[r]? = some (simpleFold r) := by
  have hsz : r < asciiFoldA.size := by rw [asciiFoldA_size]; exact h
  have hmax : ¬ r > maxRune := by
    have : 128 ≤ maxRune := by decide
    omega
  unfold simpleFold
  rw [if_neg hmax, dif_pos hsz]
  simp [asciiFoldA]

theorem simpleFold_of_orbit {r : Nat} (h1 : 128 ≤ r) (h2 : r ≤ maxRune) {e : Nat × Nat}
    (he : e ∈ caseOrbit) (hk : e.1 = r) : simpleFold r = e.2 := by
  obtain ⟨i, hi, rfl⟩ := List.mem_iff_getElem.mp he
  have hi' : i < caseOrbitA.size := by simpa [caseOrbitA] using hi
  have hk' : caseOrbitA[i].1 = r := by simpa [caseOrbitA] using hk
  have hs := orbitSearch_complete hi' (sortedBy_toArray caseOrbit_sorted).1 hk'
  unfold simpleFold
  rw [if_neg (by omega), dif_neg (by rw [asciiFoldA_size]; omega)]
  simp only [hs]
  rw [dif_pos hi', if_pos hk']
  simp [caseOrbitA]

/-- `SimpleFold` on a rune `r` of the range `cr` that is no `caseOrbit` key: its lower case if
that differs from it, else its upper case, both by `convertCase` on `cr` -/
def rangeFold (cr : CaseRange) (r : Nat) : Nat :=
  if convertCase LowerCase r cr ≠ r then convertCase LowerCase r cr else convertCase UpperCase r cr

theorem simpleFold_of_range {r : Nat} (h1 : 128 ≤ r) (h2 : r ≤ maxRune)
    (hno : ∀ e ∈ caseOrbit, e.1 ≠ r) {cr : CaseRange} (hcr : cr ∈ caseRanges) (hin : inRange cr r) :
    simpleFold r = rangeFold cr r := by
  obtain ⟨i, hi, rfl⟩ := List.mem_iff_getElem.mp hcr
  have hi' : i < caseRangesA.size := by simpa [caseRangesA] using hi
  have hin' : inRange caseRangesA[i] r := by simpa [caseRangesA] using hin
  have hl := lookupCaseRange_complete hi' (sortedBy_toArray caseRanges_sorted).1 (sortedBy_toArray caseRanges_sorted).2 hin'
  have hF : foldByCaseRange r = rangeFold caseRanges[i] r := by
    unfold foldByCaseRange
    rw [hl]
    simp only [caseRangesA, List.getElem_toArray]
    rfl
  unfold simpleFold
  rw [if_neg (by omega), dif_neg (by rw [asciiFoldA_size]; omega)]
  simp only
  split
  · split
    · next hlo hk =>
      exact absurd hk (hno _ (by simp [caseOrbitA]))
    · exact hF
  · exact hF

/-- `SimpleFold` read off the tables: the `asciiFold` entry of an ASCII rune; else the `To` of
the `caseOrbit` entry with this `From`; else `rangeFold` by the range of `CaseRanges` that
contains the rune; a rune in no table, or above `MaxRune`, stays. -/
def tableFold (r : Nat) : Nat :=
  if r > maxRune then r
  else if r < 128 then asciiFold.getD r r
  else
    match caseOrbit.find? fun e => e.1 == r with
    | some e => e.2
    | none =>
      match caseRanges.find? fun cr => decide (inRange cr r) with
      | some cr => rangeFold cr r
      | none => r

theorem tableFold_eq : tableFold = simpleFold := by
  funext r
  unfold tableFold
  split
  · next h => unfold simpleFold; rw [if_pos h]
  next hmax =>
  split
  · next h => rw [List.getD_eq_getElem?_getD, simpleFold_ascii h, Option.getD_some]
  next h128 =>
  split
  · next e he =>
    exact (simpleFold_of_orbit (by omega) (by omega) (List.mem_of_find?_eq_some he)
      (by simpa using List.find?_some he)).symm
  next hk =>
  have hno : ∀ e ∈ caseOrbit, e.1 ≠ r := by simpa using hk
  split
  · next cr hcr =>
    exact (simpleFold_of_range (by omega) (by omega) hno (List.mem_of_find?_eq_some hcr)
      (by simpa using List.find?_some hcr)).symm
  next hr =>
  have hnr : ∀ cr ∈ caseRanges, ¬ inRange cr r := by simpa using hr
  rcases simpleFold_cases r with h | h | ⟨e, he, h⟩ | ⟨cr, hcr, h⟩
  · exact h.symm
  · omega
  · exact absurd h (hno e he)
  · exact absurd h (hnr cr hcr)

end GolibsVerif.Unicode
