/-
C11 — the two stand-ins of `Model/C11.lean` for `slices.Sort` (insertion sort) and
`slices.BinarySearch` (the lower bound) against the models of the real functions in
`Go/Sort.lean`.
-/
import GolibsVerif.Lemmas.C11Sets
import GolibsVerif.Lemmas.SortC12
import GolibsVerif.Lemmas.SortSearch

namespace GolibsVerif.C11

open GoOrdered (lt)
open GolibsVerif.Slices (lessCmp WeakCmp)

section Ordered
variable {T : Type} [GoOrdered T]

theorem lessCmp_neg_iff {a b : T} : lessCmp less a b < 0 ↔ lt a b := by
  unfold lessCmp
  by_cases h : less a b = true
  · simp [h, less_iff.1 h]
  · have h' : less a b = false := by simpa using h
    simp [h', less_false_iff.1 h']

theorem weakCmp_less : WeakCmp (lessCmp (less (T := T))) := by
  refine ⟨?_, ?_, ?_⟩
  · intro a; rw [lessCmp_neg_iff]; exact GoOrdered.irrefl a
  · intro a b c; simp only [lessCmp_neg_iff]; exact GoOrdered.trans a b c
  · intro a b c; simp only [lessCmp_neg_iff]
    intro h1 h2
    exact le_trans' (a := a) (b := b) (c := c) h1 h2

theorem lt_of_le_of_lt'' {a b c : T} (h1 : le a b) (h2 : lt b c) : lt a c :=
  (lt_or_eq_of_le' h1).elim (fun h => GoOrdered.trans a b c h h2) (fun e => e ▸ h2)

/-- `lowerBound` is the boundary of `less · v` -/
theorem lowerBound_eq (v : T) : ∀ (l : List T) (i : Nat),
    (∀ k x, k < i → l[k]? = some x → less x v = true) →
    (∀ k x, i ≤ k → l[k]? = some x → less x v = false) → i ≤ l.length → lowerBound v l = i := by
  intro l
  induction l with
  | nil => intro i _ _ hi; simp at hi; simp [lowerBound, hi]
  | cons y ys ih =>
    intro i h1 h2 hi
    simp only [lowerBound]
    cases i with
    | zero =>
      have := h2 0 y (Nat.le_refl _) (by simp)
      simp [this]
    | succ i =>
      have := h1 0 y (by omega) (by simp)
      simp only [this, if_true]
      rw [ih i (fun k x hk hx => h1 (k + 1) x (by omega) (by simpa using hx))
        (fun k x hk hx => h2 (k + 1) x (by omega) (by simpa using hx)) (by simpa using hi)]

end Ordered

end GolibsVerif.C11
