/- C04: the prologue (trim, domain-name validation, re-kinding), the suffix switch, and
domain-name validity of every case variant of a dot-joined name ending in `arpa`. -/
import GolibsVerif.Lemmas.C04V6
import GolibsVerif.Theorems.C03

namespace GolibsVerif.C04
open GolibsVerif.Netutil GolibsVerif.Str GolibsVerif.Netip GolibsVerif.Gen.Consts GolibsVerif
open GolibsVerif.C03 (validateName_spec domainValidator validateDomainName_iff DomainNameOK NameOK
  LabelsOK DomainLabel TLDLabel HostLabel)

theorem prologue_accept (toASCII : Bytes → Option Bytes) (s : Bytes)
    (h : validateDomainName toASCII (trimSuffix s [46]) = .ok none) :
    arpaPrologue toASCII s = .ok (.ok (trimSuffix s [46])) := by
  simp [arpaPrologue, h, bind, Except.bind, pure, Except.pure]

theorem prologue_reject (toASCII : Bytes → Option Bytes) (s : Bytes) (e : Err)
    (h : validateDomainName toASCII (trimSuffix s [46]) = .ok (some e)) :
    ∃ inner, arpaPrologue toASCII s = .ok (.error (.addr .arpa (trimSuffix s [46]) (some inner))) := by
  obtain ⟨inner, rfl⟩ :=
    (validateName_spec .domainName domainValidator toASCII (trimSuffix s [46])).shape e h
  exact ⟨inner, by simp [arpaPrologue, h, replaceKind, bind, Except.bind, pure, Except.pure]⟩

theorem prologue_cases (toASCII : Bytes → Option Bytes) (s : Bytes) :
    (validateDomainName toASCII (trimSuffix s [46]) = .ok none ∧
      arpaPrologue toASCII s = .ok (.ok (trimSuffix s [46]))) ∨
    (∃ inner, arpaPrologue toASCII s = .ok (.error (.addr .arpa (trimSuffix s [46]) (some inner)))) := by
  obtain ⟨r, hr⟩ := (validateName_spec .domainName domainValidator toASCII (trimSuffix s [46])).total
  cases r with
  | none => exact Or.inl ⟨hr, prologue_accept toASCII s hr⟩
  | some e => exact Or.inr (prologue_reject toASCII s e hr)

theorem trimSuffix_nodot (v : Bytes) (h : v.getLast? ≠ some 46) : trimSuffix v [46] = v := by
  unfold trimSuffix
  have : hasSuffix v [46] = false := by
    cases hs : hasSuffix v [46] with
    | false => rfl
    | true =>
      obtain ⟨t, ht⟩ := (hasSuffix_iff v [46]).1 hs
      rw [← ht] at h; simp at h
  simp [this]

theorem trimSuffix_dot (v : Bytes) : trimSuffix (v ++ [46]) [46] = v := by
  unfold trimSuffix
  have : hasSuffix (v ++ [46]) [46] = true := (hasSuffix_iff _ _).2 ⟨v, rfl⟩
  simp [this]

theorem v6suffix_not_v4 (s : Bytes) (h6 : arpaV6Suffix <:+ s) : hasSuffix s arpaV4Suffix = false := by
  cases hs : hasSuffix s arpaV4Suffix with
  | false => rfl
  | true =>
    have h4 := (hasSuffix_iff s arpaV4Suffix).1 hs
    have := List.suffix_of_suffix_length_le h6 h4 (by decide)
    revert this; decide

theorem joinDot_append (ls ms : List Bytes) (h1 : ls ≠ []) (h2 : ms ≠ []) :
    joinDot (ls ++ ms) = joinDot ls ++ 46 :: joinDot ms := by
  induction ls with
  | nil => exact absurd rfl h1
  | cons l rest ih =>
    cases rest with
    | nil =>
      cases ms with
      | nil => exact absurd rfl h2
      | cons m ms' => simp [joinDot]
    | cons l' rest' =>
      have : (l :: l' :: rest') ++ ms = l :: (l' :: (rest' ++ ms)) := rfl
      rw [this, joinDot_cons_cons, joinDot_cons_cons]
      have ih' := ih (by simp)
      simp only [List.cons_append] at ih'
      rw [ih']; simp

theorem mem_joinDot (ls : List Bytes) (c : Nat) (h : c ∈ joinDot ls) : c = 46 ∨ ∃ l ∈ ls, c ∈ l := by
  induction ls with
  | nil => simp [joinDot] at h
  | cons l rest ih =>
    cases rest with
    | nil => simp [joinDot] at h; exact Or.inr ⟨l, by simp, h⟩
    | cons l' rest' =>
      rw [joinDot_cons_cons] at h
      simp only [List.mem_append, List.mem_cons] at h
      rcases h with h | h | h
      · exact Or.inr ⟨l, by simp, h⟩
      · exact Or.inl h
      · rcases ih h with h | ⟨x, hx, hc⟩
        · exact Or.inl h
        · exact Or.inr ⟨x, by simp [hx], hc⟩

theorem lowerByte_letter (c k : Nat) (h : lowerByte c = k) (hk : 97 ≤ k ∧ k ≤ 122) :
    c = k ∨ c + 32 = k := by
  have := hk.1
  unfold lowerByte at h; split at h <;> omega

theorem letter_of_lower (b : Nat) (h : 97 ≤ lowerByte b ∧ lowerByte b ≤ 122) :
    isValidHostInnerRune b = true ∧ b ≠ 45 ∧ isDigit b = false := by
  have hb := lowerByte_letter b _ rfl h
  simp [isValidHostInnerRune, isValidHostOuterRune, isLower, isUpper, isDigit]
  omega

theorem tld_of_lower_arpa (x : Bytes) (h : asciiLower x = lblArpa) : TLDLabel x := by
  have hlen : x.length = 4 := by rw [← asciiLower_length, h]; rfl
  have hb : ∀ b ∈ x, isValidHostInnerRune b = true ∧ b ≠ 45 ∧ isDigit b = false := by
    intro b hb
    have : lowerByte b ∈ lblArpa := h ▸ List.mem_map.2 ⟨b, hb, rfl⟩
    simp only [lblArpa, List.mem_cons, List.not_mem_nil, or_false] at this
    exact letter_of_lower b (by omega)
  match x, hlen with
  | [b1, b2, b3, b4], _ =>
    have h1 := hb b1 (by simp)
    have h4 := hb b4 (by simp)
    exact ⟨⟨by simp, by simp, fun b hbm => (hb b hbm).1, by simpa using h1.2.1, by simpa using h4.2.1⟩,
      b1, by simp, h1.2.2⟩

theorem labelsOK_snoc (P : Bytes → Prop) (init : List Bytes) (last : Bytes)
    (hi : ∀ x ∈ init, P x) (hl : TLDLabel last) : LabelsOK P (init ++ [last]) := by
  induction init with
  | nil => exact hl
  | cons x init ih =>
    have := ih (fun y hy => hi y (by simp [hy]))
    cases hinit : init ++ [last] with
    | nil => simp at hinit
    | cons y ys =>
      rw [hinit] at this
      simp only [List.cons_append, hinit]
      exact ⟨hi x (by simp), this⟩

theorem labelsOK_of_lower (L Lv : List Bytes) (h : Lv.map asciiLower = L ++ [lblArpa])
    (hl : ∀ l ∈ L, 1 ≤ l.length ∧ l.length ≤ 63) : LabelsOK DomainLabel Lv := by
  obtain ⟨init, last, rfl, rfl, hlast⟩ := List.map_eq_append_iff.1 h
  obtain ⟨x, rfl, hx⟩ := List.map_eq_singleton_iff.1 hlast
  refine labelsOK_snoc _ init x (fun y hy => ?_) (tld_of_lower_arpa x hx)
  have := hl _ (List.mem_map.2 ⟨y, hy, rfl⟩)
  rwa [asciiLower_length] at this

theorem domain_ok_of_labels (toASCII : Bytes → Option Bytes)
    (hT : ∀ s, (∀ b ∈ s, b < 128) → NoXnLabel s → toASCII s = some s)
    (v : Bytes) (L : List Bytes) (hv : asciiLower v = joinDot (L ++ [lblArpa]))
    (hL : ∀ l ∈ L, 1 ≤ l.length ∧ l.length ≤ 63 ∧ (∀ c ∈ l, c ≠ 46 ∧ c < 128) ∧ l.head? ≠ some 120)
    (hlen : (joinDot (L ++ [lblArpa])).length ≤ 253) :
    validateDomainName toASCII v = .ok none := by
  have hLa : ∀ l ∈ L ++ [lblArpa], (∀ c ∈ l, c ≠ 46 ∧ c < 128) ∧ l.head? ≠ some 120 := by
    intro l hl
    simp only [List.mem_append, List.mem_singleton] at hl
    rcases hl with hl | rfl
    · exact (hL l hl).2.2
    · constructor
      · intro c hc; simp [lblArpa] at hc; omega
      · simp [lblArpa]
  have hsplit : (splitOn 46 v).map asciiLower = L ++ [lblArpa] := by
    rw [← splitOn_asciiLower, hv, splitOn_joinDot _ (by simp) (fun l hl c hc => ((hLa l hl).1 c hc).1)]
  have hascii : ∀ b ∈ v, b < 128 := by
    intro b hb
    apply lowerByte_lt128
    have : lowerByte b ∈ asciiLower v := List.mem_map.2 ⟨b, hb, rfl⟩
    rw [hv] at this
    rcases mem_joinDot _ _ this with h | ⟨l, hl, hc⟩
    · omega
    · exact ((hLa l hl).1 _ hc).2
  have hxn : NoXnLabel v := by
    intro l hl hpre
    have hmem : asciiLower l ∈ L ++ [lblArpa] := by
      rw [← hsplit]; exact List.mem_map.2 ⟨l, hl, rfl⟩
    obtain ⟨t, ht⟩ := hpre
    have := (hLa _ hmem).2
    rw [← ht] at this
    simp at this
  rw [validateDomainName_iff]
  refine ⟨v, hT v hascii hxn, ?_, ?_, ?_⟩
  · have h1 : 1 ≤ (asciiLower v).length := by
      rw [hv]
      cases L with
      | nil => simp [joinDot, lblArpa]
      | cons l L' => rw [joinDot_append _ _ (by simp) (by simp)]; simp; omega
    rwa [asciiLower_length] at h1
  · rw [← asciiLower_length, hv]; exact hlen
  · exact labelsOK_of_lower L _ hsplit (fun l hl => ⟨(hL l hl).1, (hL l hl).2.1⟩)

theorem wrapARPA_ok {α : Type} (a : Bytes) (r : Except Err α) (p : α) :
    wrapARPA a r = .ok p ↔ r = .ok p := by
  cases r <;> simp [wrapARPA]

end GolibsVerif.C04
