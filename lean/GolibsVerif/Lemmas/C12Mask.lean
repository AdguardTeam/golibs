/-
C12 — bytes against bits: a canonical mask (`cidrMask`, recognised by `simpleMaskLength`), and the
bytewise comparison under it (`maskedEq`) as a comparison of the leading bits of the big-endian
values (`maskedEq_cidr`).  `Lemmas/C06.lean` reads the byte formula of a prefix through the same
lemma.
-/
import GolibsVerif.Spec.C12

namespace GolibsVerif.C12

theorem byteOnes_spec : ∀ v, v < 256 → v ≠ 255 → ∀ j ∈ byteOnes v, j < 8 ∧ v = topBits j := by
  decide +kernel

theorem byteOnes_topBits : ∀ j, j < 8 → topBits j ≠ 255 ∧ byteOnes (topBits j) = some j := by decide +kernel

/-- masking a byte with `256 - 2 ^ j`, which is `8 - j` ones above `j` zeros, clears the low `j` bits -/
theorem and_topBits (a : Nat) (ha : a < 256) (j : Nat) (hj : j < 9) :
    a &&& (256 - 2 ^ j) = (a / 2 ^ j) * 2 ^ j := by
  have hj8 : j ≤ 8 := Nat.le_of_lt_succ hj
  have hm : 256 - 2 ^ j = (2 ^ (8 - j) - 1) * 2 ^ j := by
    rw [Nat.sub_mul, Nat.one_mul, ← Nat.pow_add, Nat.sub_add_cancel hj8]
  have hq : a / 2 ^ j < 2 ^ (8 - j) :=
    Nat.div_lt_of_lt_mul (by rw [← Nat.pow_add, Nat.add_sub_cancel' hj8]; exact ha)
  rw [hm]
  have h := Nat.div_add_mod (a &&& ((2 ^ (8 - j) - 1) * 2 ^ j)) (2 ^ j)
  rw [Nat.and_div_two_pow, Nat.and_mod_two_pow, Nat.mul_div_cancel _ (Nat.two_pow_pos j), Nat.mul_mod_left,
    Nat.and_zero, Nat.add_zero, Nat.and_two_pow_sub_one_of_lt_two_pow hq] at h
  rw [← h, Nat.mul_comm]

theorem IsByte.head {a : Nat} {as : Bytes} (h : IsByte (a :: as)) : a < 256 :=
  h a (List.mem_cons_self ..)

theorem IsByte.tail {a : Nat} {as : Bytes} (h : IsByte (a :: as)) : IsByte as :=
  fun x hx => h x (List.mem_cons_of_mem _ hx)

theorem IsByte.drop {b : Bytes} (h : IsByte b) (n : Nat) : IsByte (b.drop n) :=
  fun x hx => h x (List.mem_of_mem_drop hx)

theorem IsByte.append {a b : Bytes} (ha : IsByte a) (hb : IsByte b) : IsByte (a ++ b) := by
  intro x hx
  rcases List.mem_append.mp hx with h | h
  · exact ha x h
  · exact hb x h

theorem isByte_v4InV6Prefix : IsByte v4InV6Prefix := by
  intro x hx
  simp [v4InV6Prefix] at hx
  omega

theorem cidrMask_length (k n : Nat) : (cidrMask k n).length = n := by
  induction n generalizing k with
  | zero => rfl
  | succ n ih => simp [cidrMask, ih]

theorem cidrMask_zero (n : Nat) : cidrMask 0 n = List.replicate n 0 := by
  induction n with
  | zero => rfl
  | succ n ih => simp [cidrMask, ih, topBits, List.replicate_succ]

theorem cidrMask_succ_of_ge {k : Nat} (n : Nat) (h : 8 ≤ k) :
    cidrMask k (n + 1) = 255 :: cidrMask (k - 8) n := by
  rw [cidrMask, Nat.min_eq_right h]; rfl

theorem cidrMask_succ_of_lt {k : Nat} (n : Nat) (h : k < 8) :
    cidrMask k (n + 1) = topBits k :: List.replicate n 0 := by
  rw [cidrMask, Nat.min_eq_left (Nat.le_of_lt h), Nat.sub_eq_zero_of_le (Nat.le_of_lt h), cidrMask_zero]

theorem simpleMaskLength_some (m : Bytes) (hm : IsByte m) (k : Nat) (h : simpleMaskLength m = some k) :
    k ≤ 8 * m.length ∧ m = cidrMask k m.length := by
  induction m generalizing k with
  | nil =>
    cases h
    exact ⟨Nat.le_refl _, rfl⟩
  | cons v rest ih =>
    rw [List.length_cons]
    rw [simpleMaskLength] at h
    split at h
    · next h255 =>
      obtain ⟨k', hk', rfl⟩ := Option.map_eq_some_iff.1 h
      obtain ⟨hle, heq⟩ := ih hm.tail k' hk'
      rw [cidrMask_succ_of_ge _ (Nat.le_add_left 8 k'), Nat.add_sub_cancel, ← heq, h255, Nat.mul_succ]
      exact ⟨Nat.add_le_add_right hle 8, rfl⟩
    · next h255 =>
      split at h
      · cases h
      · next j hbo =>
        split at h
        · next hz =>
          cases h
          obtain ⟨hj, rfl⟩ := byteOnes_spec v hm.head h255 _ hbo
          have hrest : rest = List.replicate rest.length 0 :=
            List.eq_replicate_iff.2 ⟨rfl, fun b hb => by simpa using List.all_eq_true.1 hz b hb⟩
          rw [cidrMask_succ_of_lt _ hj, ← hrest]
          exact ⟨Nat.le_trans (Nat.le_of_lt hj) (Nat.le_mul_of_pos_right 8 (Nat.succ_pos _)), rfl⟩
        · cases h

theorem simpleMaskLength_cidrMask (k n : Nat) (hk : k ≤ 8 * n) : simpleMaskLength (cidrMask k n) = some k := by
  induction n generalizing k with
  | zero =>
    obtain rfl : k = 0 := Nat.le_zero.1 hk
    rfl
  | succ n ih =>
    by_cases h8 : 8 ≤ k
    · rw [cidrMask_succ_of_ge _ h8, simpleMaskLength, if_pos rfl, ih (k - 8) (Nat.sub_le_of_le_add hk),
        Option.map_some, Nat.sub_add_cancel h8]
    · have hk8 : k < 8 := Nat.lt_of_not_le h8
      obtain ⟨hne, hbo⟩ := byteOnes_topBits k hk8
      rw [cidrMask_succ_of_lt _ hk8, simpleMaskLength, if_neg hne]
      simp [hbo]

theorem pow256 (n : Nat) : 256 ^ n = 2 ^ (8 * n) := by
  rw [Nat.pow_mul]

theorem beNat_lt (b : Bytes) (h : IsByte b) : beNat b < 256 ^ b.length := by
  induction b with
  | nil => exact Nat.one_pos
  | cons a t ih =>
    have ha := h.head
    have := ih h.tail
    rw [beNat, List.length_cons, Nat.pow_succ]
    have h1 : a * 256 ^ t.length ≤ 255 * 256 ^ t.length := Nat.mul_le_mul_right _ (by omega)
    omega

/-- quotients by a divisor `d` of the radix `M` compare digit by digit -/
theorem div_radix_inj {d T M a b ra rb : Nat} (hM : M = d * T) (hra : ra < M) (hrb : rb < M) :
    (a * M + ra) / d = (b * M + rb) / d ↔ a = b ∧ ra / d = rb / d := by
  subst hM
  have hd : 0 < d := Nat.pos_of_ne_zero fun h => by simp [h] at hra
  have e : ∀ c r, (c * (d * T) + r) / d = c * T + r / d := fun c r => by
    rw [Nat.mul_left_comm, Nat.mul_add_div hd]
  rw [e, e]
  have qa : ra / d < T := Nat.div_lt_of_lt_mul hra
  have qb : rb / d < T := Nat.div_lt_of_lt_mul hrb
  constructor
  · intro h
    have hab : a = b := by
      have := congrArg (· / T) h
      simpa [Nat.mul_comm _ T, Nat.mul_add_div (Nat.zero_lt_of_lt qa), Nat.div_eq_of_lt qa,
        Nat.div_eq_of_lt qb] using this
    subst hab
    exact ⟨rfl, by omega⟩
  · rintro ⟨rfl, h⟩
    rw [h]

theorem maskedEq_zero (as bs : Bytes) (n : Nat) : maskedEq as (List.replicate n 0) bs = true := by
  induction as generalizing bs n with
  | nil => rfl
  | cons a t ih =>
    cases n with
    | zero => simp [maskedEq]
    | succ n =>
      cases bs with
      | nil => simp [maskedEq]
      | cons b bt => simp [maskedEq, List.replicate_succ, ih]

theorem div_pow_gt {n j a ra : Nat} (hra : ra < 256 ^ n) :
    (a * 256 ^ n + ra) / 2 ^ (8 * n + j) = a / 2 ^ j := by
  rw [Nat.pow_add, ← pow256, ← Nat.div_div_eq_div_mul, Nat.mul_comm a, Nat.mul_add_div (Nat.zero_lt_of_lt hra),
    Nat.div_eq_of_lt hra, Nat.add_zero]

/-- The loop of `IPNet.Contains` under a canonical mask with `k` ones compares the `k`
leading bits of the two big-endian values, i.e. the values shifted right by the other `s` bits. -/
theorem maskedEq_cidr (as bs : Bytes) (k s : Nat) (hl : as.length = bs.length) (ha : IsByte as)
    (hb : IsByte bs) (hs : s + k = 8 * as.length) :
    maskedEq as (cidrMask k as.length) bs = true ↔ beNat as / 2 ^ s = beNat bs / 2 ^ s := by
  induction as generalizing bs k with
  | nil =>
    cases bs with
    | nil => simp [maskedEq]
    | cons b bt => cases hl
  | cons a as ih =>
    cases bs with
    | nil => cases hl
    | cons b bs =>
      have hl' : as.length = bs.length := Nat.succ.inj hl
      have hra := beNat_lt as ha.tail
      have hrb := beNat_lt bs hb.tail
      rw [List.length_cons] at hs ⊢
      rw [← hl'] at hrb
      rw [beNat, beNat, ← hl']
      by_cases h8 : 8 ≤ k
      · -- the first mask byte is 0xff: the heads agree and the tails agree under the rest of the mask
        have hs' : s + (k - 8) = 8 * as.length := by
          rw [← Nat.add_sub_assoc h8, hs, Nat.mul_succ, Nat.add_sub_cancel]
        rw [cidrMask_succ_of_ge _ h8, maskedEq, Nat.and_two_pow_sub_one_of_lt_two_pow (n := 8) ha.head,
          Nat.and_two_pow_sub_one_of_lt_two_pow (n := 8) hb.head, Bool.and_eq_true, beq_iff_eq, ih bs (k - 8) hl' ha.tail hb.tail hs',
          div_radix_inj (T := 2 ^ (k - 8)) (by rw [← Nat.pow_add, hs', pow256]) hra hrb]
      · -- the first mask byte has `k < 8` ones and the rest of the mask is zero: only the top
        -- `k` bits of the heads are compared, and the division discards everything else
        have hj : 8 - k < 9 := Nat.lt_succ_of_le (Nat.sub_le 8 k)
        have hk8 : k < 8 := Nat.lt_of_not_le h8
        obtain rfl : s = 8 * as.length + (8 - k) := by
          rw [Nat.eq_sub_of_add_eq hs, Nat.mul_succ, Nat.add_sub_assoc (Nat.le_of_lt hk8)]
        rw [cidrMask_succ_of_lt _ hk8, maskedEq, maskedEq_zero, Bool.and_true, beq_iff_eq,
          topBits, and_topBits a ha.head _ hj, and_topBits b hb.head _ hj, div_pow_gt hra, div_pow_gt hrb]
        exact Nat.mul_right_cancel_iff (Nat.two_pow_pos _)

theorem maskedEq_cidr_take (as bs : Bytes) (k j : Nat) (hl : as.length = bs.length) (ha : IsByte as)
    (hb : IsByte bs) (hj : 8 * j ≤ k) (h : maskedEq as (cidrMask k as.length) bs = true) :
    as.take j = bs.take j := by
  induction as generalizing bs k j with
  | nil =>
    cases bs with
    | nil => rfl
    | cons b bt => cases hl
  | cons a as ih =>
    cases bs with
    | nil => cases hl
    | cons b bs =>
      cases j with
      | zero => rfl
      | succ j =>
        rw [Nat.mul_succ] at hj
        rw [List.length_cons, cidrMask_succ_of_ge _ (Nat.le_trans (Nat.le_add_left 8 _) hj), maskedEq,
          Nat.and_two_pow_sub_one_of_lt_two_pow (n := 8) ha.head,
          Nat.and_two_pow_sub_one_of_lt_two_pow (n := 8) hb.head, Bool.and_eq_true, beq_iff_eq] at h
        rw [List.take_succ_cons, List.take_succ_cons, h.1,
          ih bs (k - 8) j (Nat.succ.inj hl) ha.tail hb.tail (Nat.le_sub_of_add_le hj) h.2]

end GolibsVerif.C12
