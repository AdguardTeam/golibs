/-
C14 — lemmas about the model of `time.Duration.String` and the suffix cuts of
`timeutil.Duration.String`.
-/
import GolibsVerif.Model.C14
import GolibsVerif.Spec.C14
import GolibsVerif.Lemmas.GoM

namespace GolibsVerif.C14

/-! ### decimal digits -/

theorem decLoop_zero (tail : Bytes) : decLoop 0 tail = tail := by
  rw [decLoop]; simp

theorem decLoop_pos {v : Nat} (h : v ≠ 0) (tail : Bytes) :
    decLoop v tail = decLoop (v / 10) ((v % 10 + 48) :: tail) := by
  rw [decLoop]; simp [h]

/-- the digits of `v` (most significant first; none for `0`) -/
def digits (v : Nat) : Bytes := decLoop v []

theorem decLoop_eq (v : Nat) (tail : Bytes) : decLoop v tail = digits v ++ tail := by
  induction v using Nat.strongRecOn generalizing tail with
  | _ v ih =>
    by_cases h : v = 0
    · subst h; simp [digits, decLoop_zero]
    · have hlt : v / 10 < v := by omega
      rw [digits, decLoop_pos h, decLoop_pos h, ih _ hlt, ih _ hlt]
      simp

theorem digits_zero : digits 0 = [] := by simp [digits, decLoop_zero]

theorem digits_pos {v : Nat} (h : v ≠ 0) : digits v = digits (v / 10) ++ [v % 10 + 48] := by
  rw [digits, decLoop_pos h, decLoop_eq]

/-- A loop that reads decimal digits into an accumulator (as long as the value stays `≤ B`) reads
`v` from `digits v`. -/
theorem digits_fold {R : Type} (L : Bytes → Nat → R) (B : Nat)
    (step : ∀ c rest x, c < 10 → x * 10 + c ≤ B → L ((c + 48) :: rest) x = L rest (x * 10 + c))
    (v : Nat) (hv : v ≤ B) (rest : Bytes) : L (digits v ++ rest) 0 = L rest v := by
  induction v using Nat.strongRecOn generalizing rest with
  | _ v ih =>
    by_cases h : v = 0
    · subst h; rw [digits_zero]; rfl
    · rw [digits_pos h, List.append_assoc, ih _ (by omega) (by omega), List.singleton_append,
        step _ _ _ (by omega) (by omega)]
      congr 1; omega

/-- the text of `fmtInt`: `"0"` for zero, else the digits -/
def intText (v : Nat) : Bytes := if v = 0 then [48] else digits v

theorem fmtInt_eq (tail : Bytes) (v : Nat) : fmtInt tail v = intText v ++ tail := by
  unfold fmtInt intText
  by_cases h : v = 0
  · simp [h]
  · simp [h, decLoop_eq]

/-- the last digit of `fmtInt`'s text, also for `0` -/
theorem intText_snoc (v : Nat) : intText v = digits (v / 10) ++ [v % 10 + 48] := by
  unfold intText
  by_cases h : v = 0
  · subst h; simp [digits_zero]
  · rw [if_neg h, digits_pos h]

theorem digits_range (v : Nat) : ∀ b ∈ digits v, 48 ≤ b ∧ b ≤ 57 := by
  induction v using Nat.strongRecOn with
  | _ v ih =>
    by_cases h : v = 0
    · subst h; simp [digits_zero]
    · rw [digits_pos h]
      intro b hb
      rcases List.mem_append.1 hb with hb | hb
      · exact ih (v / 10) (by omega) b hb
      · simp at hb; omega

theorem intText_range (v : Nat) : ∀ b ∈ intText v, 48 ≤ b ∧ b ≤ 57 := by
  rw [intText_snoc]
  intro b hb
  rcases List.mem_append.1 hb with hb | hb
  · exact digits_range _ b hb
  · simp at hb; omega

/-! ### fmtFrac -/

/-- the last `k` decimal digits of `f`, zero-padded -/
def padDigits : Nat → Nat → Bytes
  | 0, _ => []
  | k + 1, f => padDigits k (f / 10) ++ [f % 10 + 48]

theorem padDigits_length (k f : Nat) : (padDigits k f).length = k := by
  induction k generalizing f with
  | zero => rfl
  | succ k ih => simp [padDigits, ih]

theorem mod_pow_succ (f k : Nat) : f % 10 ^ (k + 1) = (f / 10 % 10 ^ k) * 10 + f % 10 := by
  rw [Nat.pow_succ, Nat.mul_comm, Nat.mod_mul]; omega

theorem mod_pow_pos (f k : Nat) (hk : 0 < k) (hf : f % 10 ≠ 0) : 0 < f % 10 ^ k := by
  obtain ⟨k, rfl⟩ : ∃ k', k = k' + 1 := ⟨k - 1, by omega⟩
  rw [mod_pow_succ]; omega

theorem div_pow_succ (v p : Nat) : v / 10 / 10 ^ p = v / 10 ^ (p + 1) := by
  rw [Nat.div_div_eq_div_mul, Nat.pow_succ, Nat.mul_comm]

/-- `frac` is what `fmtFrac` writes for the fraction `r / 10^p`: nothing when `r = 0`, otherwise
`.` and the `k ≤ p` digits `f mod 10^k` left when the trailing zeros are dropped. -/
def FracText (p r : Nat) (frac : Bytes) : Prop :=
  (r = 0 ∧ frac = []) ∨
  ∃ k f, 0 < k ∧ k ≤ p ∧ f % 10 ≠ 0 ∧ r = f % 10 ^ k * 10 ^ (p - k) ∧ frac = 46 :: padDigits k f

theorem fmtFracLoop_true (p v : Nat) (tail : Bytes) :
    fmtFracLoop p v true tail = (padDigits p v ++ tail, v / 10 ^ p, true) := by
  induction p generalizing v tail with
  | zero => simp [fmtFracLoop, padDigits]
  | succ p ih =>
    simp only [fmtFracLoop, Bool.true_or, if_true, ih, padDigits, div_pow_succ]
    simp

theorem fmtFracLoop_false (p v : Nat) (tail : Bytes) :
    (v % 10 ^ p = 0 ∧ fmtFracLoop p v false tail = (tail, v / 10 ^ p, false)) ∨
    (∃ k f, 0 < k ∧ k ≤ p ∧ f % 10 ≠ 0 ∧ v % 10 ^ p = f % 10 ^ k * 10 ^ (p - k) ∧
      fmtFracLoop p v false tail = (padDigits k f ++ tail, v / 10 ^ p, true)) := by
  induction p generalizing v tail with
  | zero => left; simp [fmtFracLoop, Nat.mod_one]
  | succ p ih =>
    by_cases hd : v % 10 = 0
    · have hb : (v % 10 != 0) = false := by simp [hd]
      have e : fmtFracLoop (p + 1) v false tail = fmtFracLoop p (v / 10) false tail := by
        simp only [fmtFracLoop, hb, Bool.or_self, Bool.false_eq_true, if_false]
      rw [e, ← div_pow_succ]
      rcases ih (v / 10) tail with ⟨hz, hl⟩ | ⟨k, f, hk0, hkp, hf, hv, hl⟩
      · left
        refine ⟨?_, hl⟩
        rw [mod_pow_succ]; omega
      · right
        refine ⟨k, f, hk0, by omega, hf, ?_, hl⟩
        have : p + 1 - k = (p - k) + 1 := Nat.succ_sub hkp
        rw [mod_pow_succ, hv, this, Nat.pow_succ, hd]
        simp [Nat.mul_assoc]
    · right
      have hb : (v % 10 != 0) = true := by simp [hd]
      have e : fmtFracLoop (p + 1) v false tail = fmtFracLoop p (v / 10) true ((v % 10 + 48) :: tail) := by
        simp only [fmtFracLoop, hb, Bool.false_or, if_true]
      refine ⟨p + 1, v, by omega, by omega, hd, by simp, ?_⟩
      rw [e, fmtFracLoop_true, div_pow_succ]
      simp [padDigits]

theorem fmtFrac_eq (tail : Bytes) (v p : Nat) :
    ∃ frac, FracText p (v % 10 ^ p) frac ∧ fmtFrac tail v p = (frac ++ tail, v / 10 ^ p) := by
  unfold fmtFrac
  rcases fmtFracLoop_false p v tail with ⟨hz, hl⟩ | ⟨k, f, hk0, hkp, hf, hv, hl⟩
  · exact ⟨[], .inl ⟨hz, rfl⟩, by rw [hl]; rfl⟩
  · exact ⟨_, .inr ⟨k, f, hk0, hkp, hf, hv, rfl⟩, by rw [hl]; simp⟩

theorem fracText_ends {p r : Nat} {frac : Bytes} (h : FracText p r frac) :
    (r = 0 ∧ frac = []) ∨ (r ≠ 0 ∧ ∃ pre c, frac = pre ++ [c] ∧ c ≠ 48) := by
  rcases h with h | ⟨k, f, hk0, -, hf, hr, rfl⟩
  · exact .inl h
  · refine .inr ⟨?_, ?_⟩
    · rw [hr]
      exact Nat.mul_ne_zero (Nat.ne_of_gt (mod_pow_pos f k hk0 hf))
        (Nat.ne_of_gt (Nat.pow_pos (by omega)))
    · obtain ⟨k, rfl⟩ : ∃ k', k = k' + 1 := ⟨k - 1, by omega⟩
      exact ⟨46 :: padDigits k (f / 10), f % 10 + 48, rfl, by omega⟩

/-! ### suffix cuts -/

theorem cut2If_append (x y z a b : Nat) (pre : Bytes) :
    cut2If [x, y, z] (pre ++ [a, b]) = if [x] <:+ pre ∧ y = a ∧ z = b then pre else pre ++ [a, b] := by
  have hs : [x, y, z] <:+ pre ++ [a, b] ↔ [x] <:+ pre ∧ y = a ∧ z = b := by
    rw [show [x, y, z] = [x] ++ [y, z] from rfl,
      List.suffix_append_inj_of_length_eq (s₁ := [y, z]) (s₂ := [a, b]) rfl]
    simp
  unfold cut2If
  simp only [hs]
  split
  · exact List.take_left' (by simp)
  · rfl

theorem cut2If_last (x y z c : Nat) (pre : Bytes) (h : z ≠ c) :
    cut2If [x, y, z] (pre ++ [c]) = pre ++ [c] := by
  have hs : ¬ [x, y, z] <:+ pre ++ [c] := by
    rw [show [x, y, z] = [x, y] ++ [z] from rfl,
      List.suffix_append_inj_of_length_eq (s₁ := [z]) (s₂ := [c]) rfl]
    simp [h]
  rw [cut2If, if_neg hs]

theorem cut2If_cases (x y z : Nat) (s : Bytes) :
    cut2If [x, y, z] s = s ∨
      ∃ s', s = s' ++ [y, z] ∧ s'.getLast? = some x ∧ cut2If [x, y, z] s = s' := by
  by_cases h : [x, y, z] <:+ s
  · right
    obtain ⟨t, rfl⟩ := h
    refine ⟨t ++ [x], by simp, by simp, ?_⟩
    rw [show t ++ [x, y, z] = (t ++ [x]) ++ [y, z] by simp, cut2If_append]
    simp
  · left; rw [cut2If, if_neg h]

theorem strip_noop (pre : Bytes) (a : Nat) (ha : a ≠ 48) :
    stripRedundant (pre ++ [a, 115]) = pre ++ [a, 115] := by
  have h1 : ¬ ([109] <:+ pre ∧ 48 = a ∧ 115 = 115) := fun h => ha h.2.1.symm
  rw [stripRedundant, cut2If_append, if_neg h1]
  rw [show pre ++ [a, 115] = (pre ++ [a]) ++ [115] by simp]
  exact cut2If_last 104 48 109 115 (pre ++ [a]) (by decide)

/-- digits never end in a unit letter -/
theorem suffix_digits (a : Nat) (ha : 57 < a) (X : Bytes) (w : Nat) :
    [a] <:+ X ++ digits w ↔ w = 0 ∧ [a] <:+ X := by
  by_cases h : w = 0
  · subst h; simp [digits_zero]
  · rw [digits_pos h, ← List.append_assoc,
      show [a] = [] ++ [a] from rfl,
      List.suffix_append_inj_of_length_eq (s₁ := [a]) (s₂ := [w % 10 + 48]) rfl]
    simp only [List.cons.injEq, and_true, h, false_and, iff_false, not_and]
    omega

/-- cutting `<a>0<u>` from a text that ends with the number `v` and the unit `u`: only a lone
`0` behind the unit letter `a` goes -/
theorem cut2If_num (a u v : Nat) (ha : 57 < a) (X : Bytes) :
    cut2If [a, 48, u] (X ++ (intText v ++ [u])) =
      if v = 0 ∧ [a] <:+ X then X else X ++ (intText v ++ [u]) := by
  have e : X ++ (intText v ++ [u]) = (X ++ digits (v / 10)) ++ [v % 10 + 48, u] := by
    rw [intText_snoc]; simp
  have hc : ([a] <:+ X ++ digits (v / 10) ∧ 48 = v % 10 + 48 ∧ u = u) ↔ (v = 0 ∧ [a] <:+ X) := by
    rw [suffix_digits a ha]
    constructor
    · rintro ⟨⟨h1, h2⟩, h3, -⟩; exact ⟨by omega, h2⟩
    · rintro ⟨rfl, h2⟩; exact ⟨⟨rfl, h2⟩, rfl, rfl⟩
  rw [e, cut2If_append]
  by_cases h : v = 0 ∧ [a] <:+ X
  · rw [if_pos (hc.2 h), if_pos h, h.1]; simp [digits_zero]
  · rw [if_neg (mt hc.1 h), if_neg h]

/-- a non-zero number of seconds: nothing is redundant -/
theorem strip_secs (X : Bytes) (v : Nat) (hv : v ≠ 0) :
    stripRedundant (X ++ (intText v ++ [115])) = X ++ (intText v ++ [115]) := by
  rw [stripRedundant, cut2If_num 109 115 v (by decide), if_neg (fun h => hv h.1), ← List.append_assoc]
  exact cut2If_last 104 48 109 115 _ (by decide)

/-- whole minutes: `0s` is cut, and then `0m` when it follows the hours -/
theorem strip_mins (X : Bytes) (m : Nat) (hX : m = 0 → [104] <:+ X) :
    stripRedundant ((X ++ (intText m ++ [109])) ++ (intText 0 ++ [115])) =
      if m = 0 then X else X ++ (intText m ++ [109]) := by
  have h109 : [109] <:+ X ++ (intText m ++ [109]) := ⟨X ++ intText m, by simp⟩
  rw [stripRedundant, cut2If_num 109 115 0 (by decide), if_pos ⟨rfl, h109⟩,
    cut2If_num 104 109 m (by decide)]
  by_cases hm : m = 0
  · rw [if_pos ⟨hm, hX hm⟩, if_pos hm]
  · rw [if_neg (fun h => hm h.1), if_neg hm]

/-! ### the shape of `time.Duration.String` -/

/-- the hours group for `H` hours: nothing for `0` -/
def hText (H : Nat) : Bytes := if H > 0 then intText H ++ [104] else []

/-- hours and minutes groups for `M` whole minutes: nothing for `0` -/
def hmText (M : Nat) : Bytes := if M > 0 then hText (M / 60) ++ (intText (M % 60) ++ [109]) else []

/-- one second and above: `[-][<H>h][<M>m]<S>[.<frac>]s` -/
theorem stdString_big (d : Int) (h : second ≤ d.natAbs) :
    ∃ frac, FracText 9 (d.natAbs % 10 ^ 9) frac ∧
      stdString d = signBytes d ++ (hmText (d.natAbs / 10 ^ 9 / 60) ++
        (intText (d.natAbs / 10 ^ 9 % 60) ++ (frac ++ [115]))) := by
  obtain ⟨frac, hf, e⟩ := fmtFrac_eq [115] d.natAbs 9
  refine ⟨frac, hf, ?_⟩
  have hn : ¬ d.natAbs < second := by omega
  unfold stdString
  simp only [hn, if_false, e, fmtInt_eq, hmText, hText]
  by_cases hm : d.natAbs / 10 ^ 9 / 60 > 0
  · by_cases hh : d.natAbs / 10 ^ 9 / 60 / 60 > 0 <;> simp [hm, hh]
  · simp [hm]

/-- below one second: `[-]<int>[.<frac>]<unit>` for one of `ns`, `µs`, `ms` -/
theorem stdString_small (d : Int) (h : d.natAbs < second) (h0 : d.natAbs ≠ 0) :
    ∃ p ub frac, ((p = 0 ∧ ub = [110, 115]) ∨ (p = 3 ∧ ub = [0xC2, 0xB5, 115]) ∨ (p = 6 ∧ ub = [109, 115])) ∧
      FracText p (d.natAbs % 10 ^ p) frac ∧
      stdString d = signBytes d ++ (intText (d.natAbs / 10 ^ p) ++ (frac ++ ub)) := by
  unfold stdString
  simp only [h, if_true, h0, if_false]
  by_cases h1 : d.natAbs < 1000
  · obtain ⟨frac, hf, e⟩ := fmtFrac_eq [110, 115] d.natAbs 0
    exact ⟨0, _, frac, .inl ⟨rfl, rfl⟩, hf, by simp only [h1, if_true, e, fmtInt_eq]⟩
  · by_cases h2 : d.natAbs < 1000000
    · obtain ⟨frac, hf, e⟩ := fmtFrac_eq [0xC2, 0xB5, 115] d.natAbs 3
      exact ⟨3, _, frac, .inr (.inl ⟨rfl, rfl⟩), hf, by simp only [h1, h2, if_true, if_false, e, fmtInt_eq]⟩
    · obtain ⟨frac, hf, e⟩ := fmtFrac_eq [109, 115] d.natAbs 6
      exact ⟨6, _, frac, .inr (.inr ⟨rfl, rfl⟩), hf, by simp only [h1, h2, if_false, e, fmtInt_eq]⟩

/-! ### the truncating arithmetic of `Duration.String` in terms of `|d|` -/

/-- the `int64` product `rounded * time.Second` does not wrap -/
theorem wrap64_tdiv_mul (d : Int) (hd : inInt64 d) :
    wrap64 (d.tdiv 1000000000 * 1000000000) = d.tdiv 1000000000 * 1000000000 := by
  unfold inInt64 at hd
  unfold wrap64
  rcases Int.eq_nat_or_neg d with ⟨u, rfl | rfl⟩
  · have t1 : (u : Int).tdiv 1000000000 = ((u / 1000000000 : Nat) : Int) := (Int.ofNat_tdiv u 1000000000).symm
    rw [t1]; omega
  · have t1 : (-(u : Int)).tdiv 1000000000 = -((u / 1000000000 : Nat) : Int) := by
      rw [Int.neg_tdiv]; exact congrArg _ (Int.ofNat_tdiv u 1000000000).symm
    rw [t1]; omega

/-- the tests of `Duration.String`, on `|d|`: whole seconds `S = |d| / 10^9`, minutes `S / 60` -/
theorem duration_conds (d : Int) (hd : inInt64 d) :
    (d.tdiv 1000000000 = 0 ↔ d.natAbs / 10 ^ 9 = 0) ∧
    (wrap64 (d.tdiv 1000000000 * 1000000000) ≠ d ↔ d.natAbs % 10 ^ 9 ≠ 0) ∧
    ((d.tdiv 1000000000).tmod 60 ≠ 0 ↔ d.natAbs / 10 ^ 9 % 60 ≠ 0) ∧
    (((d.tdiv 1000000000).tmod 3600).tdiv 60 ≠ 0 ↔ d.natAbs / 10 ^ 9 / 60 % 60 ≠ 0) := by
  have hq : (d.tdiv 1000000000).natAbs = d.natAbs / 10 ^ 9 := Int.natAbs_tdiv d 1000000000
  have hr : (d.tmod 1000000000).natAbs = d.natAbs % 10 ^ 9 := Int.natAbs_tmod d 1000000000
  have h3 : ((d.tdiv 1000000000).tmod 60).natAbs = d.natAbs / 10 ^ 9 % 60 := by
    rw [Int.natAbs_tmod, hq]; rfl
  have h4 : (((d.tdiv 1000000000).tmod 3600).tdiv 60).natAbs = d.natAbs / 10 ^ 9 / 60 % 60 := by
    rw [Int.natAbs_tdiv, Int.natAbs_tmod, hq]
    exact Nat.mod_mul_right_div_self (d.natAbs / 10 ^ 9) 60 60
  have hsum := Int.mul_tdiv_add_tmod d 1000000000
  refine ⟨?_, ?_, ?_, ?_⟩
  · rw [← hq, Int.natAbs_eq_zero]
  · rw [wrap64_tdiv_mul d hd, ← hr, Ne, Ne, Int.natAbs_eq_zero]; omega
  · rw [← h3, Ne, Ne, Int.natAbs_eq_zero]
  · rw [← h4, Ne, Ne, Int.natAbs_eq_zero]

theorem durationString_eq (d : Int) (hd : inInt64 d) :
    durationString d = .ok (stripRedundant (stdString d)) := by
  obtain ⟨c1, c2, c3, c4⟩ := duration_conds d hd
  unfold durationString
  simp only [c1, c2, c3, c4]
  by_cases hS : d.natAbs / 10 ^ 9 = 0
  · -- below one second: the text ends in a unit letter and `s`
    rw [if_pos (.inl hS)]
    have hlt : d.natAbs < second := Nat.lt_of_div_eq_zero (by decide) hS
    by_cases h0 : d.natAbs = 0
    · have : stdString d = [48, 115] := by unfold stdString; simp [h0, second]
      rw [this]; rfl
    · obtain ⟨p, ub, frac, hub, -, e⟩ := stdString_small d hlt h0
      have : ∃ pre a, ub = pre ++ [a, 115] ∧ a ≠ 48 := by
        rcases hub with ⟨-, rfl⟩ | ⟨-, rfl⟩ | ⟨-, rfl⟩
        · exact ⟨[], 110, rfl, by decide⟩
        · exact ⟨[0xC2], 0xB5, rfl, by decide⟩
        · exact ⟨[], 109, rfl, by decide⟩
      obtain ⟨pre, a, rfl, ha⟩ := this
      rw [e]
      simp only [← List.append_assoc]
      rw [strip_noop _ a ha]; rfl
  · have hge : second ≤ d.natAbs := Nat.le_of_not_lt fun h => hS (Nat.div_eq_of_lt h)
    obtain ⟨frac, hf, e⟩ := stdString_big d hge
    rcases fracText_ends hf with ⟨hr, rfl⟩ | ⟨hr, pre, c, rfl, hc⟩
    · -- whole seconds: `<X><S>s` with `X` the sign, hours and minutes
      rw [List.nil_append] at e
      have e' : stdString d = (signBytes d ++ hmText (d.natAbs / 10 ^ 9 / 60)) ++
          (intText (d.natAbs / 10 ^ 9 % 60) ++ [115]) := by rw [e, List.append_assoc]
      generalize d.natAbs / 10 ^ 9 = S at hS e'
      rw [e']
      by_cases h60 : S % 60 = 0
      · -- whole minutes: `<X'><M>m0s`, with `X'` ending in `h` when `M = 0`
        have hM : S / 60 > 0 := by omega
        have hX' : S / 60 % 60 = 0 → [104] <:+ signBytes d ++ hText (S / 60 / 60) := fun hm =>
          ⟨signBytes d ++ intText (S / 60 / 60), by rw [hText, if_pos (by omega), List.append_assoc]⟩
        rw [if_neg (show ¬ (S = 0 ∨ d.natAbs % 10 ^ 9 ≠ 0 ∨ S % 60 ≠ 0) by omega), h60, hmText,
          if_pos hM, ← List.append_assoc (signBytes d)]
        generalize signBytes d ++ hText (S / 60 / 60) = X' at hX'
        rw [strip_mins X' _ hX']
        by_cases hm : S / 60 % 60 = 0
        · rw [if_neg (show ¬ S / 60 % 60 ≠ 0 from fun h => h hm), if_pos hm, hm, List.append_assoc]
          exact GoM.sliceTo_length_sub X' _
        · rw [if_pos (show S / 60 % 60 ≠ 0 from hm), if_neg hm]
          exact GoM.sliceTo_length_sub _ _
      · rw [if_pos (show S = 0 ∨ d.natAbs % 10 ^ 9 ≠ 0 ∨ S % 60 ≠ 0 from .inr (.inr h60)),
          strip_secs _ _ h60]
        rfl
    · rw [if_pos (.inr (.inl hr)), e]
      simp only [← List.append_assoc]
      rw [List.append_assoc _ [c] [115]]
      exact congrArg _ (strip_noop _ c hc).symm

/-- A parser that does not see a zero group `0<u>` behind the unit letter `a` parses the text
with that group cut as it parses the text. -/
theorem parse_cut2If {parse : Bytes → Option Int} {a u : Nat}
    (drop : ∀ s d, s.getLast? = some a → parse (s ++ [48, u]) = some d → parse s = some d)
    {s : Bytes} {d : Int} (h : parse s = some d) : parse (cut2If [a, 48, u] s) = some d := by
  rcases cut2If_cases a 48 u s with e | ⟨s', e, hl, hc⟩
  · rw [e]; exact h
  · rw [hc]; exact drop s' d hl (e ▸ h)

/-- Under DUR-RT the reference text of `Duration.String` parses back to `d`: each cut removes a
zero group behind a complete `…m` / `…h` group. -/
theorem DurRT.parse_strip {parseDuration : Bytes → Option Int} (C : DurRT parseDuration)
    (d : Int) (hd : inInt64 d) : parseDuration (stripRedundant (stdString d)) = some d :=
  parse_cut2If C.drop0m (parse_cut2If C.drop0s (C.rt d hd))

end GolibsVerif.C14
