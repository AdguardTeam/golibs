/-
C14 — `time.ParseDuration` (model) cuts a group into runs before it computes anything: the
integer digits, the fraction digits behind a `.`, the unit (up to the next `.` or digit) and
the rest.  `lexGroup` is that cut, `groupVal` the value of the three runs, and
`parseGroup s = (groupVal …).map (·, rest)` (`parseGroup_eq`).  What `ParseDuration` does on a
text is then a fact about `takeWhile`/`dropWhile` (how much is consumed; that a further group
behind a unit byte is not looked at) or about `groupVal` (what the digits are worth).
-/
import GolibsVerif.Model.C14Parse
import GolibsVerif.Lemmas.ListFacts

namespace GolibsVerif.C14

def isDig (c : Nat) : Bool := decide (48 ≤ c ∧ c ≤ 57)

/-- a byte of a unit: neither `.` nor a digit -/
def isUnit (c : Nat) : Bool := !decide (c = 46 ∨ (48 ≤ c ∧ c ≤ 57))

theorem isUnit_iff {c : Nat} : isUnit c = true ↔ ¬ (c = 46 ∨ (48 ≤ c ∧ c ≤ 57)) := by
  unfold isUnit; rw [Bool.not_eq_true', decide_eq_false_iff_not]

/-- `z` is empty or begins with `.` or a decimal digit: the next group, or the end -/
def NumHead (z : Bytes) : Prop := ∀ c t, z = c :: t → isUnit c = false

theorem numHead_nil : NumHead [] := by intro c t h; cases h

theorem isDig_of {c : Nat} (h : ¬ (c < 48 ∨ c > 57)) : isDig c = true := by
  unfold isDig; rw [decide_eq_true_eq]; omega

theorem isDig_of_not {c : Nat} (h : c < 48 ∨ c > 57) : isDig c = false := by
  unfold isDig; rw [decide_eq_false_iff_not]; omega

theorem length_dropWhile_bne (p : Nat → Bool) (s : Bytes) :
    (s.length != (s.dropWhile p).length) = !(s.takeWhile p).isEmpty := by
  have h := congrArg List.length (List.takeWhile_append_dropWhile (p := p) (l := s))
  rw [List.length_append] at h
  cases hs : s.takeWhile p with
  | nil => rw [hs] at h; simp at h; simp [h]
  | cons a t => rw [hs] at h; simp at h; simp; omega

/-! ### the three scanners read a run and leave the rest -/

theorem leadingInt_eq (s : Bytes) (x : Nat) :
    leadingInt s x = (leadingInt (s.takeWhile isDig) x).map fun vr => (vr.1, s.dropWhile isDig) := by
  induction s generalizing x with
  | nil => rfl
  | cons c t ih =>
    by_cases h : c < 48 ∨ c > 57
    · simp [isDig_of_not h, leadingInt, h]
    · rw [List.takeWhile_cons, List.dropWhile_cons, isDig_of h]
      simp only [leadingInt, h, if_false, if_true]
      split
      · rfl
      · split
        · rfl
        · exact ih _

theorem leadingFraction_eq (s : Bytes) (x : Nat) (sc : F64) (ov : Bool) :
    leadingFraction s x sc ov =
      ((leadingFraction (s.takeWhile isDig) x sc ov).1, (leadingFraction (s.takeWhile isDig) x sc ov).2.1,
        s.dropWhile isDig) := by
  induction s generalizing x sc ov with
  | nil => rfl
  | cons c t ih =>
    by_cases h : c < 48 ∨ c > 57
    · simp [isDig_of_not h, leadingFraction, h]
    · rw [List.takeWhile_cons, List.dropWhile_cons, isDig_of h]
      simp only [leadingFraction, h, if_false, if_true]
      split
      · exact ih _ _ _
      · split
        · exact ih _ _ _
        · split <;> exact ih _ _ _

theorem unitSpan_eq (s : Bytes) : unitSpan s = (s.takeWhile isUnit, s.dropWhile isUnit) := by
  induction s with
  | nil => rfl
  | cons c t ih =>
    by_cases h : c = 46 ∨ (48 ≤ c ∧ c ≤ 57)
    · simp [unitSpan, h, isUnit]
    · simp [unitSpan, h, isUnit, ih]

/-! ### one group -/

/-- `(\.[0-9]*)?`: the fraction digits and what follows them -/
def fracSplit (s : Bytes) : Bytes × Bytes :=
  match s with
  | 46 :: t => (t.takeWhile isDig, t.dropWhile isDig)
  | _ => ([], s)

/-- integer digits, fraction digits, unit, rest -/
def lexGroup (s : Bytes) : Bytes × Bytes × Bytes × Bytes :=
  let ft := fracSplit (s.dropWhile isDig)
  (s.takeWhile isDig, ft.1, ft.2.takeWhile isUnit, ft.2.dropWhile isUnit)

/-- the value part of `parseUnit`, as a function of the unit text -/
def unitVal (v f : Nat) (sc : F64) (u : Bytes) : Option Nat :=
  if u = [] then none else
  match unitOf u with
  | none => none
  | some unit =>
    if v > two63 / unit then none else
    if f > 0 then
      let v' := v * unit + F64.trunc (F64.mul (F64.ofNat f) (F64.div (F64.ofNat unit) sc))
      if v' > two63 then none else some v'
    else some (v * unit)

/-- what the integer digits `a`, the fraction digits `f` and the unit `u` are worth -/
def groupVal (a f u : Bytes) : Option Nat :=
  if a = [] ∧ f = [] then none else
  match leadingInt a 0 with
  | none => none
  | some vr =>
    let fr := leadingFraction f 0 F64.one false
    unitVal vr.1 fr.1 fr.2.1 u

theorem parseUnit_eq (v f : Nat) (sc : F64) (s : Bytes) :
    parseUnit v f sc s = (unitVal v f sc (s.takeWhile isUnit)).map (fun v' => (v', s.dropWhile isUnit)) := by
  unfold parseUnit unitVal
  rw [unitSpan_eq]
  by_cases h1 : s.takeWhile isUnit = []
  · simp only [h1, if_true]; rfl
  · simp only [h1, if_false]
    cases unitOf (s.takeWhile isUnit) with
    | none => rfl
    | some unit =>
      simp only []
      by_cases h2 : v > two63 / unit
      · simp only [h2, if_true]; rfl
      · simp only [h2, if_false]
        by_cases h3 : f > 0
        · simp only [h3, if_true]; split <;> rfl
        · simp only [h3, if_false]; rfl

theorem parseFrac_eq (s : Bytes) :
    parseFrac s = ((leadingFraction (fracSplit s).1 0 F64.one false).1,
      (leadingFraction (fracSplit s).1 0 F64.one false).2.1, !(fracSplit s).1.isEmpty, (fracSplit s).2) := by
  unfold parseFrac fracSplit
  split
  · rfl
  · next c t =>
    by_cases h : c = 46
    · subst h
      simp only [if_true]
      rw [leadingFraction_eq, length_dropWhile_bne]
    · simp only [h, if_false]
      split
      · next heq => cases heq; exact absurd rfl h
      · rfl

theorem isEmpty_and_iff (a f : Bytes) : (!!a.isEmpty && !!f.isEmpty) = decide (a = [] ∧ f = []) := by
  cases a <;> cases f <;> simp

theorem parseGroup_eq (s : Bytes) :
    parseGroup s = (groupVal (lexGroup s).1 (lexGroup s).2.1 (lexGroup s).2.2.1).map
      fun v => (v, (lexGroup s).2.2.2) := by
  have core : (match leadingInt s 0 with
      | none => none
      | some (v, s1) =>
        let pre := s.length != s1.length
        let fr := parseFrac s1
        if !pre && !fr.2.2.1 then none else parseUnit v fr.1 fr.2.1 fr.2.2.2) =
      (groupVal (lexGroup s).1 (lexGroup s).2.1 (lexGroup s).2.2.1).map
        fun v => (v, (lexGroup s).2.2.2) := by
    rw [leadingInt_eq]
    unfold groupVal lexGroup
    cases leadingInt (s.takeWhile isDig) 0 with
    | none => simp
    | some vr =>
      simp only [Option.map_some, parseFrac_eq, parseUnit_eq, length_dropWhile_bne, isEmpty_and_iff]
      simp only [decide_eq_true_eq]
      split <;> rfl
  cases s with
  | nil => rfl
  | cons c0 t =>
    by_cases h0 : c0 = 46 ∨ (48 ≤ c0 ∧ c0 ≤ 57)
    · rw [← core]
      simp only [parseGroup, h0, not_true_eq_false, if_false]
      rfl
    · have hd : isDig c0 = false := isDig_of_not (by omega)
      have h46 : c0 ≠ 46 := fun h => h0 (.inl h)
      have : fracSplit (c0 :: t) = ([], c0 :: t) := by
        unfold fracSplit
        split
        · next heq => cases heq; exact absurd rfl h46
        · rfl
      simp [parseGroup, h0, lexGroup, List.takeWhile_cons, List.dropWhile_cons, hd, this, groupVal]

/-! ### what a round consumes -/

theorem fracSplit_suffix (s : Bytes) : (fracSplit s).2 <:+ s := by
  unfold fracSplit
  split
  · exact (List.dropWhile_suffix _).trans (List.suffix_cons _ _)
  · exact List.suffix_refl _

theorem groupVal_unit {a f u : Bytes} {v : Nat} (h : groupVal a f u = some v) : u ≠ [] := by
  rintro rfl
  unfold groupVal at h
  split at h
  · cases h
  · simp only [unitVal, if_true] at h
    split at h <;> cases h

/-- a successful round leaves a proper suffix of its text: it consumes at least the unit -/
theorem parseGroup_rest {s : Bytes} {v : Nat} {r : Bytes} (h : parseGroup s = some (v, r)) :
    r <:+ s ∧ r.length < s.length := by
  rw [parseGroup_eq] at h
  obtain ⟨v', hv, e⟩ := Option.map_eq_some_iff.1 h
  cases e
  have hu := List.length_pos_iff.2 (groupVal_unit hv)
  have hs : (lexGroup s).2.2.1 ++ (lexGroup s).2.2.2 <:+ s := by
    unfold lexGroup
    rw [List.takeWhile_append_dropWhile]
    exact (fracSplit_suffix _).trans (List.dropWhile_suffix _)
  have hl := hs.length_le
  rw [List.length_append] at hl
  exact ⟨(List.suffix_append _ _).trans hs, by omega⟩

/-! ### a further group behind a unit byte is not looked at -/

theorem lexGroup_append (pre : Bytes) (e : Nat) (z : Bytes) (he : isUnit e = true)
    (hz : NumHead z) :
    lexGroup (pre ++ e :: z) = ((lexGroup (pre ++ [e])).1, (lexGroup (pre ++ [e])).2.1,
      (lexGroup (pre ++ [e])).2.2.1, (lexGroup (pre ++ [e])).2.2.2 ++ z) := by
  have he' := isUnit_iff.1 he
  have hd : ∀ w c t, e :: w = c :: t → isDig c = false := fun w c t h => by
    cases h; exact isDig_of_not (by omega)
  obtain ⟨a1, d1⟩ := List.span_append_stop isDig pre (e :: z) (hd z)
  obtain ⟨a2, d2⟩ := List.span_append_stop isDig pre [e] (hd [])
  -- the fraction, if there is one, ends at or before `e` as well
  have hf : ∀ q : Bytes, ∃ f q2, fracSplit (q ++ e :: z) = (f, q2 ++ e :: z) ∧
      fracSplit (q ++ [e]) = (f, q2 ++ [e]) := by
    intro q
    cases q with
    | nil =>
      refine ⟨[], [], ?_, ?_⟩ <;>
      · unfold fracSplit
        split
        · next heq => cases heq; exact absurd (.inl rfl) he'
        · rfl
    | cons c q =>
      by_cases hc : c = 46
      · subst hc
        obtain ⟨b1, e1⟩ := List.span_append_stop isDig q (e :: z) (hd z)
        obtain ⟨b2, e2⟩ := List.span_append_stop isDig q [e] (hd [])
        exact ⟨q.takeWhile isDig, q.dropWhile isDig, by simp only [List.cons_append, fracSplit, b1, e1],
          by simp only [List.cons_append, fracSplit, b2, e2]⟩
      · refine ⟨[], c :: q, ?_, ?_⟩ <;>
        · unfold fracSplit
          split
          · next heq => cases heq; exact absurd rfl hc
          · rfl
  obtain ⟨f, q2, h1, h2⟩ := hf (pre.dropWhile isDig)
  obtain ⟨u1, r1⟩ := List.span_append_stop isUnit (q2 ++ [e]) z hz
  unfold lexGroup
  simp only [a1, d1, a2, d2, h1, h2]
  rw [show q2 ++ e :: z = (q2 ++ [e]) ++ z by simp, u1, r1]

/-- One round on a text that ends with a unit byte `e`, followed by any `z` that begins a new
group: what it does on the text alone, with `z` left behind the rest. -/
theorem parseGroup_append (pre : Bytes) (e : Nat) (z : Bytes) (he : isUnit e = true)
    (hz : NumHead z) :
    parseGroup (pre ++ e :: z) = (parseGroup (pre ++ [e])).map fun vr => (vr.1, vr.2 ++ z) := by
  rw [parseGroup_eq, parseGroup_eq, lexGroup_append pre e z he hz, Option.map_map]
  rfl

end GolibsVerif.C14
