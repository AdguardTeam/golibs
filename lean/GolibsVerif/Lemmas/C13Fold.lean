/-
C13 — concrete fold functions used for the non-vacuity examples and for the model-level
witness of the defect: ASCII case swapping (`swapFold`), and `kFold`, which adds the two
three-member orbits k/K/U+212A and s/S/U+017F.  Both satisfy contract FOLD-1.
-/
import GolibsVerif.Lemmas.C13

namespace GolibsVerif.C13

/-- ASCII-only case swapping satisfies FOLD-1 (so the contract is not vacuous). -/
def swapFold (r : Nat) : Nat :=
  if 0x41 ≤ r ∧ r ≤ 0x5A then r + 32 else if 0x61 ≤ r ∧ r ≤ 0x7A then r - 32 else r

theorem swapFold_invol (r : Nat) : swapFold (swapFold r) = r := by
  grind [swapFold]

theorem lower_swapFold (r : Nat) : lowerASCII (swapFold r) = lowerASCII r := by
  grind [swapFold, lowerASCII]

theorem lowerASCII_eq {a b : Nat} (h : lowerASCII a = lowerASCII b) : b = a ∨ b = swapFold a := by
  grind [swapFold, lowerASCII]

theorem swapFold_fold1 : Fold1 swapFold where
  period := fun a => ⟨2, by decide, by decide, swapFold_invol a⟩
  fffd := by decide
  ascii := by
    intro a b _ _
    constructor
    · rintro ⟨n, rfl⟩; exact (iter_invariant lower_swapFold n a).symm
    · intro h
      rcases lowerASCII_eq h with rfl | rfl
      · exact ⟨0, rfl⟩
      · exact ⟨1, rfl⟩

/-! ### A fold function with three-member orbits: the contract is satisfiable there too, and
the shipped predicate fails on it -/

/-- `K → k → U+212A (Kelvin sign) → K`, `S → s → U+017F (long s) → S`; the other ASCII
letters swap case (the restriction of `unicode.SimpleFold` to these runes). -/
def kFold (r : Nat) : Nat :=
  if r = 0x4B then 0x6B else if r = 0x6B then 0x212A else if r = 0x212A then 0x4B
  else if r = 0x53 then 0x73 else if r = 0x73 then 0x17F else if r = 0x17F then 0x53
  else if 0x41 ≤ r ∧ r ≤ 0x5A then r + 32 else if 0x61 ≤ r ∧ r ≤ 0x7A then r - 32 else r

/-- the members of the two three-member orbits -/
def kOrbits : List Nat := [0x4B, 0x6B, 0x212A, 0x53, 0x73, 0x17F]

/-- the fold class of a rune under `kFold`, as a representative -/
def kKey (r : Nat) : Nat := if r = 0x212A then 0x6B else if r = 0x17F then 0x73 else lowerASCII r

theorem kFold_eq_swap {r : Nat} (h : r ∉ kOrbits) : kFold r = swapFold r ∧ swapFold r ∉ kOrbits := by
  simp only [kOrbits, List.mem_cons, List.not_mem_nil, or_false, not_or] at h ⊢
  refine ⟨by simp only [kFold, swapFold, h, ↓reduceIte], ?_⟩
  grind [swapFold]

theorem kKey_kFold (r : Nat) : kKey (kFold r) = kKey r := by
  by_cases h : r ∈ kOrbits
  · revert r; decide
  · have hs := (kFold_eq_swap h).2
    rw [(kFold_eq_swap h).1]
    simp only [kOrbits, List.mem_cons, List.not_mem_nil, or_false, not_or] at h hs
    simp only [kKey, hs, h, ↓reduceIte]
    exact lower_swapFold r

theorem kFold_fold1 : Fold1 kFold where
  period := by
    intro a
    by_cases h : a ∈ kOrbits
    · exact ⟨3, by decide, by decide, by revert a; decide⟩
    · refine ⟨2, by decide, by decide, ?_⟩
      simp only [iter]
      rw [(kFold_eq_swap h).1, (kFold_eq_swap (kFold_eq_swap h).2).1, swapFold_invol]
  fffd := by decide
  ascii := by
    intro a b ha hb
    constructor
    · rintro ⟨n, rfl⟩
      have h := iter_invariant kKey_kFold n a
      unfold kKey at h
      rw [if_neg (by omega), if_neg (by omega), if_neg (by omega), if_neg (by omega)] at h
      exact h.symm
    · intro h
      rcases lowerASCII_eq h with rfl | rfl
      · exact ⟨0, rfl⟩
      -- `k` and `s` reach their capitals in two steps, every other rune its other case in one
      by_cases hk : a = 0x6B
      · subst hk; exact ⟨2, by decide⟩
      by_cases hs : a = 0x73
      · subst hs; exact ⟨2, by decide⟩
      by_cases ho : a ∈ kOrbits
      · refine ⟨1, ?_⟩
        simp only [kOrbits, List.mem_cons, List.not_mem_nil, or_false] at ho
        rcases ho with rfl | rfl | rfl | rfl | rfl | rfl <;> first | decide | omega
      · exact ⟨1, (kFold_eq_swap ho).1⟩

/-- `.ok b`-test that the kernel can evaluate -/
def isOkB (b : Bool) : GoM Bool → Bool
  | .ok x => x == b
  | .error _ => false

end GolibsVerif.C13
