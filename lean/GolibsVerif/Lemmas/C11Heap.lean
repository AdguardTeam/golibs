/-
C11 — the storage-level model of `Model/C11Heap.lean` refines the value-level register file.
-/
import GolibsVerif.Model.C11Heap
import GolibsVerif.Lemmas.C11Sets

namespace GolibsVerif.C11.Heap
open GolibsVerif.C11

variable {T : Type}

theorem inserted_length (s : List T) (i : Nat) (v : T) (h : i ≤ s.length) :
    (inserted s i v).length = s.length + 1 := by
  rw [inserted, List.length_append, List.length_cons, List.length_take, List.length_drop, Nat.min_eq_left h]
  omega

theorem removed_length (s : List T) (i : Nat) (h : i < s.length) :
    (removed s i).length = s.length - 1 := by
  rw [removed, List.length_append, List.length_take, List.length_drop, Nat.min_eq_left (Nat.le_of_lt h),
    Nat.add_comm i 1, ← Nat.sub_sub, Nat.add_sub_cancel' (Nat.le_sub_one_of_lt h)]

theorem arrAt_set_self (arrays : List (List T)) (a : Nat) (x : List T) (h : a < arrays.length) :
    arrAt (arrays.set a x) a = x := by
  simp [arrAt, List.getD_eq_getElem?_getD, h]

theorem arrAt_set_ne (arrays : List (List T)) (a b : Nat) (x : List T) (h : a ≠ b) :
    arrAt (arrays.set a x) b = arrAt arrays b := by
  simp [arrAt, List.getD_eq_getElem?_getD, List.getElem?_set_ne h]

theorem arrAt_append_old (arrays : List (List T)) (x : List T) (b : Nat) (h : b < arrays.length) :
    arrAt (arrays ++ [x]) b = arrAt arrays b := by
  simp [arrAt, List.getD_eq_getElem?_getD, List.getElem?_append_left h]

theorem arrAt_append_new (arrays : List (List T)) (x : List T) :
    arrAt (arrays ++ [x]) arrays.length = x := by
  simp [arrAt, List.getD_eq_getElem?_getD]

/-- `arrays'` extends `arrays` and agrees with it on every array except possibly `own` -/
def Frame (arrays arrays' : List (List T)) (own : Option Nat) : Prop :=
  arrays.length ≤ arrays'.length ∧
  ∀ b, b < arrays.length → some b ≠ own → arrAt arrays' b = arrAt arrays b

theorem frame_append (arrays : List (List T)) (x : List T) (own : Option Nat) :
    Frame arrays (arrays ++ [x]) own :=
  ⟨by simp, fun b hb _ => arrAt_append_old arrays x b hb⟩

theorem frame_set (arrays : List (List T)) (a : Nat) (x : List T) :
    Frame arrays (arrays.set a x) (some a) :=
  ⟨by simp, fun b _ hne => arrAt_set_ne arrays a b x (fun e => hne (by rw [e]))⟩

theorem frame_refl (arrays : List (List T)) (own : Option Nat) : Frame arrays arrays own :=
  ⟨Nat.le_refl _, fun _ _ _ => rfl⟩

/-- every non-nil register points at an existing array with enough room for its length, and
no two registers share an array -/
structure WF (s : St T) : Prop where
  valid : ∀ i h, s.regs i = some h → h.arr < s.arrays.length ∧ h.len ≤ (arrAt s.arrays h.arr).length
  disjoint : ∀ i j h h', i ≠ j → s.regs i = some h → s.regs j = some h' → h.arr ≠ h'.arr

theorem wf_init : WF (init : St T) :=
  ⟨fun _ _ h => by simp [init] at h, fun _ _ _ _ _ h => by simp [init] at h⟩

theorem WF.others_off {s : St T} (hwf : WF s) {i : Nat} {h : Hdr} (hi : s.regs i = some h) :
    ∀ k g, k ≠ i → s.regs k = some g → some g.arr ≠ some h.arr :=
  fun k g hk hg e => hwf.disjoint k i g h hk hg hi (Option.some.inj e)

theorem view_length (arrays : List (List T)) (h : Hdr) (hv : h.len ≤ (arrAt arrays h.arr).length) :
    (view arrays h).length = h.len := by
  rw [view, List.length_take, Nat.min_eq_left hv]

theorem le_length_append {x y : List T} {n : Nat} (h : x.length = n) : n ≤ (x ++ y).length := by
  rw [List.length_append, h]
  exact Nat.le_add_right _ _

/-- what `update_reg` needs to know about the header `g` (`none`: nil) a call leaves in a register: the
value it denotes, that it is valid, and that only the array `own` was written, the result living there
or in a new array -/
structure Result (arrays : List (List T)) (own : Option Nat) (arrays' : List (List T)) (g : Option Hdr)
    (value : Option (SSS T)) : Prop where
  value : g.map (fun h => ⟨view arrays' h⟩) = value
  valid : ∀ h, g = some h → h.arr < arrays'.length ∧ h.len ≤ (arrAt arrays' h.arr).length ∧
    (some h.arr = own ∨ h.arr = arrays.length)
  frame : Frame arrays arrays' own

theorem Result.keep {arrays : List (List T)} {h : Hdr} (ha : h.arr < arrays.length)
    (hl : h.len ≤ (arrAt arrays h.arr).length) :
    Result arrays (some h.arr) arrays (some h) (some ⟨view arrays h⟩) :=
  ⟨rfl, fun _ e => Option.some.inj e ▸ ⟨ha, hl, Or.inl rfl⟩, frame_refl _ _⟩

/-- the result `new` written in place, over the front of the receiver's own array -/
theorem Result.set {arrays : List (List T)} {h : Hdr} (ha : h.arr < arrays.length) {new : List T} {n : Nat}
    (hn : new.length = n) (rest : List T) :
    Result arrays (some h.arr) (arrays.set h.arr (new ++ rest)) (some ⟨h.arr, n⟩) (some ⟨new⟩) := by
  refine ⟨?_, fun _ e => Option.some.inj e ▸ ⟨by simpa using ha, ?_, Or.inl rfl⟩, frame_set _ _ _⟩
  · simp only [Option.map_some, view, arrAt_set_self _ _ _ ha, List.take_left' hn]
  · simp only [arrAt_set_self _ _ _ ha]
    exact le_length_append hn

/-- the result `new` in a newly allocated array -/
theorem Result.append (arrays : List (List T)) (own : Option Nat) {new : List T} {n : Nat}
    (hn : new.length = n) (rest : List T) :
    Result arrays own (arrays ++ [new ++ rest]) (some ⟨arrays.length, n⟩) (some ⟨new⟩) := by
  refine ⟨?_, fun _ e => Option.some.inj e ▸ ⟨by simp, ?_, Or.inr rfl⟩, frame_append _ _ _⟩
  · simp only [Option.map_some, view, arrAt_append_new, List.take_left' hn]
  · simp only [arrAt_append_new]
    exact le_length_append hn

section
variable [GoOrdered T]

theorem newSet_spec (zero : T) (arrays : List (List T)) (vals : List T) :
    Result arrays none (newSet zero arrays vals).1 (some (newSet zero arrays vals).2) (some (SSS.new vals)) :=
  Result.append arrays none rfl _

theorem add_spec (zero : T) (arrays : List (List T)) (h : Hdr) (v : T) (ha : h.arr < arrays.length)
    (hl : h.len ≤ (arrAt arrays h.arr).length) :
    ∃ value, SSS.add ⟨view arrays h⟩ v = .ok value ∧
      Result arrays (some h.arr) (add zero arrays h v).1 (some (add zero arrays h v).2) (some value) := by
  refine ⟨_, add_value _ v, ?_⟩
  unfold add
  by_cases hf : (binarySearch (view arrays h) v).2 = true
  · rw [if_pos hf, if_pos hf]
    exact .keep ha hl
  · rw [if_neg hf, if_neg hf]
    have hs' := inserted_length (view arrays h) _ v (lowerBound_le v _)
    rw [view_length arrays h hl] at hs'
    by_cases hcap : h.len + 1 ≤ (arrAt arrays h.arr).length
    · rw [if_pos hcap]
      exact .set ha hs' _
    · rw [if_neg hcap]
      exact .append arrays _ hs' _

theorem delete_spec (zero : T) (arrays : List (List T)) (h : Hdr) (v : T) (ha : h.arr < arrays.length)
    (hl : h.len ≤ (arrAt arrays h.arr).length) :
    ∃ value, SSS.delete ⟨view arrays h⟩ v = .ok value ∧
      Result arrays (some h.arr) (delete zero arrays h v).1 (some (delete zero arrays h v).2) (some value) := by
  refine ⟨_, delete_value _ v, ?_⟩
  unfold delete
  by_cases hf : (binarySearch (view arrays h) v).2 = true
  · rw [if_pos hf, if_pos hf]
    have hs' := removed_length (view arrays h) _ (found_lt _ v hf)
    rw [view_length arrays h hl] at hs'
    exact .set ha hs' _
  · rw [if_neg hf, if_neg hf]
    exact .keep ha hl

end

theorem clear_spec (zero : T) (arrays : List (List T)) (h : Hdr) (ha : h.arr < arrays.length) :
    Result arrays (some h.arr) (clear zero arrays h).1 (some (clear zero arrays h).2) (some ⟨[]⟩) :=
  Result.set ha (new := []) rfl _

/-- storing the header a call leaves (`none`: nil) into register `j`, when no other register points at the
array `own` the call wrote to: the state stays well-formed and only register `j` changes its value -/
theorem update_reg {s : St T} (hwf : WF s) (j : Nat) {own : Option Nat} {arrays' : List (List T)}
    {g : Option Hdr} {value : Option (SSS T)} (hr : Result s.arrays own arrays' g value)
    (hown : ∀ k g, k ≠ j → s.regs k = some g → some g.arr ≠ own) :
    WF ⟨arrays', setReg s.regs j g⟩ ∧
    ∀ k, valueOf ⟨arrays', setReg s.regs j g⟩ k = setVal (valueOf s) j value k := by
  -- the result's array is `own` or new, so no other register points at it either
  have hfresh : ∀ k f h, k ≠ j → s.regs k = some f → g = some h → f.arr ≠ h.arr := by
    intro k f h hk hf hg e
    rcases (hr.valid h hg).2.2 with e' | e'
    · exact hown k f hk hf (by rw [e, e'])
    · exact Nat.ne_of_lt (hwf.valid k f hf).1 (e.trans e')
  refine ⟨⟨?_, ?_⟩, ?_⟩
  · intro i h hi
    simp only [setReg] at hi
    by_cases hij : i = j
    · rw [if_pos hij] at hi
      exact ⟨(hr.valid h hi).1, (hr.valid h hi).2.1⟩
    · rw [if_neg hij] at hi
      have hv := hwf.valid i h hi
      have := hr.frame.2 h.arr hv.1 (hown i h hij hi)
      exact ⟨Nat.lt_of_lt_of_le hv.1 hr.frame.1, by show h.len ≤ (arrAt arrays' h.arr).length; rw [this]; exact hv.2⟩
  · intro i k h f hik hi hk
    simp only [setReg] at hi hk
    by_cases hij : i = j
    · have hkj : k ≠ j := fun e => hik (by rw [hij, e])
      rw [if_pos hij] at hi
      rw [if_neg hkj] at hk
      exact fun e => hfresh k f h hkj hk hi e.symm
    · rw [if_neg hij] at hi
      by_cases hkj : k = j
      · rw [if_pos hkj] at hk
        exact hfresh i h f hij hi hk
      · rw [if_neg hkj] at hk
        exact hwf.disjoint i k h f hik hi hk
  · intro k
    by_cases hkj : k = j
    · subst hkj; simp [valueOf, setReg, setVal, hr.value]
    · simp only [valueOf, setReg, setVal, hkj, if_false]
      cases hk : s.regs k with
      | none => rfl
      | some f =>
        have := hr.frame.2 f.arr (hwf.valid k f hk).1 (hown k f hkj hk)
        simp only [Option.map_some, view, this]

/-- assigning nil writes nothing -/
theorem Result.nil (arrays : List (List T)) : Result arrays none arrays none none :=
  ⟨rfl, nofun, frame_refl _ _⟩

theorem valueOf_nil {s : St T} {i : Nat} (hi : s.regs i = none) : valueOf s i = none := by
  rw [valueOf, hi]; rfl

theorem valueOf_obj {s : St T} {i : Nat} {h : Hdr} (hi : s.regs i = some h) :
    valueOf s i = some ⟨view s.arrays h⟩ := by
  rw [valueOf, hi]; rfl

section
variable [GoOrdered T]

theorem step_refines (zero : T) {s : St T} (hwf : WF s) (op : Op T) :
    WF (step zero s op) ∧ ∀ k, valueOf (step zero s op) k = vstep (valueOf s) op k := by
  cases op with
  | new i vals => exact update_reg hwf i (newSet_spec zero s.arrays vals) (fun _ _ _ _ => nofun)
  | nil i => exact update_reg hwf i (.nil s.arrays) (fun _ _ _ _ => nofun)
  | add i v =>
    cases hi : s.regs i with
    | none =>
      simp only [step, hi, vstep, valueOf_nil hi, SSS.addP]
      exact ⟨hwf, fun _ => trivial⟩
    | some h =>
      have hval := hwf.valid i h hi
      obtain ⟨value, hval', hr⟩ := add_spec zero s.arrays h v hval.1 hval.2
      simp only [step, hi, vstep, valueOf_obj hi, SSS.addP, hval', Except.map]
      exact update_reg hwf i hr (hwf.others_off hi)
  | delete i v =>
    cases hi : s.regs i with
    | none =>
      simp only [step, hi, vstep, valueOf_nil hi, SSS.deleteP]
      exact ⟨hwf, fun _ => trivial⟩
    | some h =>
      have hval := hwf.valid i h hi
      obtain ⟨value, hval', hr⟩ := delete_spec zero s.arrays h v hval.1 hval.2
      simp only [step, hi, vstep, valueOf_obj hi, SSS.deleteP, hval', Except.map]
      exact update_reg hwf i hr (hwf.others_off hi)
  | clear i =>
    cases hi : s.regs i with
    | none =>
      simp only [step, hi, vstep, valueOf_nil hi, SSS.clearP]
      refine ⟨hwf, fun k => ?_⟩
      by_cases hk : k = i
      · subst hk; simp [setVal, valueOf_nil hi]
      · simp [setVal, hk]
    | some h =>
      simp only [step, hi, vstep, valueOf_obj hi, SSS.clearP, SSS.clear]
      exact update_reg hwf i (clear_spec zero s.arrays h (hwf.valid i h hi).1) (hwf.others_off hi)
  | clone i j =>
    cases hi : s.regs i with
    | none =>
      simp only [step, hi, vstep, valueOf_nil hi, SSS.cloneP]
      exact update_reg hwf j (.nil s.arrays) (fun _ _ _ _ => nofun)
    | some h =>
      simp only [step, hi, vstep, valueOf_obj hi, SSS.cloneP, SSS.clone]
      exact update_reg hwf j (newSet_spec zero s.arrays (view s.arrays h)) (fun _ _ _ _ => nofun)

theorem run_refines (zero : T) {s : St T} (hwf : WF s) (ops : List (Op T)) :
    WF (run zero s ops) ∧ ∀ k, valueOf (run zero s ops) k = vrun (valueOf s) ops k := by
  induction ops generalizing s with
  | nil => exact ⟨hwf, fun _ => rfl⟩
  | cons op rest ih =>
    have h1 := step_refines zero hwf op
    have h2 := ih h1.1
    refine ⟨h2.1, fun k => ?_⟩
    have : valueOf (step zero s op) = vstep (valueOf s) op := funext h1.2
    simp only [run, vrun, List.foldl_cons] at h2 ⊢
    rw [h2.2 k, this]

theorem vstep_other (regs : Nat → Option (SSS T)) (op : Op T) (k : Nat) (hk : k ≠ op.target) :
    vstep regs op k = regs k := by
  cases op with
  | new i vals => simp only [Op.target] at hk; simp [vstep, setVal, hk]
  | nil i => simp only [Op.target] at hk; simp [vstep, setVal, hk]
  | add i v =>
    simp only [Op.target] at hk
    simp only [vstep]
    cases SSS.addP (regs i) v <;> simp [setVal, hk]
  | delete i v =>
    simp only [Op.target] at hk
    simp only [vstep]
    cases SSS.deleteP (regs i) v <;> simp [setVal, hk]
  | clear i => simp only [Op.target] at hk; simp [vstep, setVal, hk]
  | clone i j => simp only [Op.target] at hk; simp [vstep, setVal, hk]

end

end GolibsVerif.C11.Heap
