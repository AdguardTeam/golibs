/-
C09 — lemmas about the pointer-level usage list (`Model/C09List.lean`):

* the algebra of single-field stores on the heap (`nx`/`pv` after `setNext`/`setPrev`);
* symbolic execution of the `list.go` functions: on live arguments they succeed and the
  resulting heap is an explicit composition of single-field stores;
* `Path h a l b` ("from `a`, following `next`, one visits exactly `l` in order and then
  reaches `b`; `prev` goes back the same way") and how it changes under the stores done by
  `listUnlink` and `listAppend`;
* `Repr h s l := Path h s l s ∧ (s :: l).Nodup`, what each list operation does to it, the
  simulation of the abstract list machine, the two traversals and `structPtr`.
-/
import GolibsVerif.Spec.C09List

namespace GolibsVerif.C09.LL

namespace Heap
theorem live_iff {h : Heap} {a : Ptr} : h.live a ↔ ∃ n, h a = some n := by
  unfold live; cases h a <;> simp

theorem live_of_nx {h : Heap} {a b : Ptr} (e : h.nx a = some b) : h.live a := by
  unfold nx at e; unfold live; cases hh : h a <;> simp_all

theorem live_of_pv {h : Heap} {a b : Ptr} (e : h.pv a = some b) : h.live a := by
  unfold pv at e; unfold live; cases hh : h a <;> simp_all

@[simp] theorem live_setNext {h : Heap} {a c : Ptr} {v} : (h.setNext a v).live c ↔ h.live c := by
  unfold live setNext; by_cases hc : c = a <;> simp [hc]

@[simp] theorem live_setPrev {h : Heap} {a c : Ptr} {v} : (h.setPrev a v).live c ↔ h.live c := by
  unfold live setPrev; by_cases hc : c = a <;> simp [hc]

theorem nx_setNext_same {h : Heap} {a : Ptr} {v} (ha : h.live a) : (h.setNext a v).nx a = v := by
  obtain ⟨n, hn⟩ := live_iff.1 ha
  simp [nx, setNext, hn]

theorem nx_setNext_ne {h : Heap} {a c : Ptr} {v} (hc : c ≠ a) : (h.setNext a v).nx c = h.nx c := by
  simp [nx, setNext, hc]

@[simp] theorem nx_setPrev {h : Heap} {a c : Ptr} {v} : (h.setPrev a v).nx c = h.nx c := by
  unfold nx setPrev; by_cases hc : c = a
  · subst hc; cases h c <;> simp
  · simp [hc]

theorem pv_setPrev_same {h : Heap} {a : Ptr} {v} (ha : h.live a) : (h.setPrev a v).pv a = v := by
  obtain ⟨n, hn⟩ := live_iff.1 ha
  simp [pv, setPrev, hn]

theorem pv_setPrev_ne {h : Heap} {a c : Ptr} {v} (hc : c ≠ a) : (h.setPrev a v).pv c = h.pv c := by
  simp [pv, setPrev, hc]

@[simp] theorem pv_setNext {h : Heap} {a c : Ptr} {v} : (h.setNext a v).pv c = h.pv c := by
  unfold pv setNext; by_cases hc : c = a
  · subst hc; cases h c <;> simp
  · simp [hc]

theorem setNext_other {h : Heap} {a c : Ptr} {v} (hc : c ≠ a) : h.setNext a v c = h c := by
  simp [setNext, hc]
theorem setPrev_other {h : Heap} {a c : Ptr} {v} (hc : c ≠ a) : h.setPrev a v c = h c := by
  simp [setPrev, hc]

theorem node_eq {h : Heap} {a : Ptr} {n p : Option Ptr} (ha : h.live a) (hn : h.nx a = n) (hp : h.pv a = p) :
    h a = some ⟨n, p⟩ := by
  obtain ⟨m, hm⟩ := live_iff.1 ha
  simp [nx, pv, hm] at hn hp
  subst hn; subst hp; exact hm

end Heap

open Heap

theorem deref_some {h : Heap} {a : Ptr} {n : Node} (hn : h a = some n) : deref h (some a) = .ok (a, n) := by
  simp [deref, hn]

theorem storeNext_ok {h : Heap} {a : Ptr} {v} (ha : h.live a) :
    storeNext (some a) v h = .ok (h.setNext a v) := by
  obtain ⟨n, hn⟩ := live_iff.1 ha
  simp [storeNext, deref, hn, bind, Except.bind, pure, Except.pure]

theorem storePrev_ok {h : Heap} {a : Ptr} {v} (ha : h.live a) :
    storePrev (some a) v h = .ok (h.setPrev a v) := by
  obtain ⟨n, hn⟩ := live_iff.1 ha
  simp [storePrev, deref, hn, bind, Except.bind, pure, Except.pure]

/-- the heap after `listUnlink(x)` when `x.prev = p`, `x.next = n` -/
def unlinked (h : Heap) (p n : Ptr) : Heap := (h.setNext p (some n)).setPrev n (some p)

/-- `unlinked h a b` is the effect of `listLink2(a, b)`, the one store sequence from which every
mutation of the list is composed. -/
theorem listLink2_ok {h : Heap} {a b : Ptr} (ha : h.live a) (hb : h.live b) :
    listLink2 (some a) (some b) h = .ok (unlinked h a b) := by
  have hb' : (h.setNext a (some b)).live b := live_setNext.2 hb
  simp [listLink2, storeNext_ok ha, storePrev_ok hb', bind, Except.bind, unlinked]

@[simp] theorem live_unlinked {h : Heap} {p n c : Ptr} : (unlinked h p n).live c ↔ h.live c := by
  simp [unlinked]

theorem nx_unlinked_ne {h : Heap} {p n c : Ptr} (hc : c ≠ p) : (unlinked h p n).nx c = h.nx c := by
  simp [unlinked, nx_setNext_ne hc]

theorem pv_unlinked_ne {h : Heap} {p n c : Ptr} (hc : c ≠ n) : (unlinked h p n).pv c = h.pv c := by
  simp [unlinked, pv_setPrev_ne hc]

theorem unlinked_other {h : Heap} {p n c : Ptr} (h1 : c ≠ p) (h2 : c ≠ n) : unlinked h p n c = h c := by
  simp [unlinked, setPrev_other h2, setNext_other h1]

theorem link_unlinked {h : Heap} {p n : Ptr} (lp : h.live p) (ln : h.live n) :
    Link (unlinked h p n) p n := by
  constructor
  · simp [unlinked, nx_setNext_same lp]
  · exact pv_setPrev_same (live_setNext.2 ln)

theorem listInit_ok {h : Heap} {s : Ptr} (hs : h.live s) :
    listInit (some s) h = .ok (unlinked h s s) := listLink2_ok hs hs

theorem listFirst_ok {h : Heap} {s : Ptr} (hs : h.live s) : listFirst (some s) h = .ok (h.nx s) := by
  obtain ⟨n, hn⟩ := live_iff.1 hs
  simp [listFirst, deref, hn, nx, bind, Except.bind, pure, Except.pure]

theorem listLast_ok {h : Heap} {s : Ptr} (hs : h.live s) : listLast (some s) h = .ok (h.pv s) := by
  obtain ⟨n, hn⟩ := live_iff.1 hs
  simp [listLast, deref, hn, pv, bind, Except.bind, pure, Except.pure]

/-- `listUnlink(x)` when `x.prev = p`, `x.next = n` are live: `p.next = n; n.prev = p`. -/
theorem listUnlink_ok {h : Heap} {x p n : Ptr} (hp : h.pv x = some p) (hn : h.nx x = some n)
    (lp : h.live p) (ln : h.live n) :
    listUnlink (some x) h = .ok (unlinked h p n) := by
  have hx := node_eq (live_of_nx hn) hn hp
  simp [listUnlink, deref, hx, bind, Except.bind, listLink2_ok lp ln]

/-- `listAppend(x, t)` when `t.next = n`: `listLink2(x, n)`, then `listLink2(t, x)`. -/
theorem listAppend_ok {h : Heap} {x t n : Ptr} (lx : h.live x) (hn : h.nx t = some n) (ln : h.live n) :
    listAppend (some x) (some t) h = .ok (unlinked (unlinked h x n) t x) := by
  obtain ⟨m, hm⟩ := live_iff.1 (live_of_nx hn)
  have hmn : m.next = some n := by simpa [nx, hm] using hn
  simp [listAppend, deref, hm, hmn, bind, Except.bind, listLink2_ok lx ln,
    listLink2_ok (live_unlinked.2 (live_of_nx hn)) (live_unlinked.2 lx)]

theorem listUnlink_nil (h : Heap) : listUnlink none h = .error .nilDeref := by
  simp [listUnlink, deref, bind, Except.bind]


theorem Path.append {h : Heap} {b : Ptr} : ∀ {l1 : List Ptr} {a y : Ptr} {l2 : List Ptr},
    Path h a (l1 ++ y :: l2) b ↔ Path h a l1 y ∧ Path h y l2 b := by
  intro l1
  induction l1 with
  | nil => simp [Path]
  | cons x xs ih => simp [Path, ih, and_assoc]

/-- `Path h a l b` reads `next` of `a :: l` and `prev` of `l ++ [b]` only. -/
theorem Path.congr {h h' : Heap} {b : Ptr} : ∀ {l : List Ptr} {a : Ptr},
    (∀ c ∈ a :: l, h'.nx c = h.nx c) → (∀ c ∈ l ++ [b], h'.pv c = h.pv c) →
    Path h a l b → Path h' a l b := by
  intro l
  induction l with
  | nil => exact fun hn hp hl => ⟨(hn _ (by simp)).trans hl.1, (hp _ (by simp)).trans hl.2⟩
  | cons x xs ih =>
    exact fun hn hp hl => ⟨⟨(hn _ (by simp)).trans hl.1.1, (hp x (by simp)).trans hl.1.2⟩,
      ih (fun c hc => hn c (List.mem_cons_of_mem _ hc)) (fun c hc => hp c (List.mem_cons_of_mem _ hc)) hl.2⟩

theorem Path.live_start {h : Heap} {a b : Ptr} {l : List Ptr} (hp : Path h a l b) : h.live a := by
  cases l with
  | nil => exact live_of_nx hp.1
  | cons x xs => exact live_of_nx hp.1.1

theorem Path.live_end {h : Heap} {b : Ptr} : ∀ {l : List Ptr} {a : Ptr}, Path h a l b → h.live b := by
  intro l
  induction l with
  | nil => exact fun hp => live_of_pv hp.2
  | cons _ _ ih => exact fun hp => ih hp.2

/-- the node before `b` is the last one of `a :: l` -/
theorem Path.last {h : Heap} {b : Ptr} : ∀ {l : List Ptr} {a : Ptr}, Path h a l b →
    ∃ t, h.pv b = some t ∧ h.nx t = some b ∧ t ∈ a :: l := by
  intro l
  induction l with
  | nil => exact fun hp => ⟨_, hp.2, hp.1, List.mem_singleton.2 rfl⟩
  | cons y ys ih =>
    intro a hp
    obtain ⟨t, h1, h2, h3⟩ := ih hp.2
    exact ⟨t, h1, h2, List.mem_cons_of_mem _ h3⟩

theorem Path.pv_end {h : Heap} {b : Ptr} : ∀ {l : List Ptr} {a : Ptr}, Path h a l b →
    h.pv b = (a :: l).getLast? := by
  intro l
  induction l with
  | nil => intro a hp; simpa using hp.2
  | cons y ys ih => intro a hp; rw [ih hp.2]; simp [List.getLast?_cons_cons]

theorem Path.first {h : Heap} {a b : Ptr} {l : List Ptr} (hp : Path h a l b) :
    h.nx a = (l ++ [b]).head? := by
  cases l with
  | nil => exact hp.1
  | cons x xs => exact hp.1.1


/-- Redirect the end of a path from `b` to `b'`: of the fields the path reads only `next` of its
last node `t` and `prev` of its end may differ. -/
theorem Path.retarget {h h' : Heap} {b b' t : Ptr} (ht : h.pv b = some t) : ∀ {l : List Ptr} {a : Ptr},
    Path h a l b → (a :: l).Nodup → (∀ c ∈ a :: l, c ≠ t → h'.nx c = h.nx c) →
    (∀ c ∈ l, h'.pv c = h.pv c) → Link h' t b' → Path h' a l b' := by
  intro l
  induction l with
  | nil => intro a hp _ _ _ hl; cases hp.2.symm.trans ht; exact hl
  | cons y ys ih =>
    intro a hp hnd hn hpv hl
    obtain ⟨_, h1, _, htm⟩ := hp.2.last
    cases h1.symm.trans ht
    exact ⟨⟨(hn a List.mem_cons_self fun e => (List.nodup_cons.1 hnd).1 (e ▸ htm)).trans hp.1.1,
        (hpv y List.mem_cons_self).trans hp.1.2⟩,
      ih hp.2 (List.nodup_cons.1 hnd).2 (fun c hc => hn c (List.mem_cons_of_mem _ hc))
        (fun c hc => hpv c (List.mem_cons_of_mem _ hc)) hl⟩

/-- A node `x` of the path has its two neighbours on the path: `x.prev` before it, `x.next` after
it — so, when the path does not repeat a node, both are different from `x`. -/
theorem Path.nbrs {h : Heap} {a b x : Ptr} {l : List Ptr} (hp : Path h a l b) (hx : x ∈ l) :
    ∃ p n, h.pv x = some p ∧ h.nx x = some n ∧ p ∈ a :: l ∧ n ∈ l ++ [b] ∧
      ((a :: l).Nodup → b ∉ l → p ≠ x ∧ n ≠ x) := by
  obtain ⟨l1, l2, rfl⟩ := List.append_of_mem hx
  obtain ⟨h1, h2⟩ := Path.append.1 hp
  obtain ⟨p, e1, _, m1⟩ := h1.last
  obtain ⟨n, e2, m2⟩ : ∃ n, h.nx x = some n ∧ n ∈ l2 ++ [b] := by
    cases l2 with
    | nil => exact ⟨b, h2.1, by simp⟩
    | cons z zs => exact ⟨z, h2.1.1, by simp⟩
  refine ⟨p, n, e1, e2, List.mem_append_left (x :: l2) m1, ?_, fun hnd hb => ⟨?_, ?_⟩⟩
  · rw [List.append_assoc]; exact List.mem_append_right _ (List.mem_cons_of_mem _ m2)
  · rintro rfl
    exact (List.nodup_append.1 (show ((a :: l1) ++ p :: l2).Nodup from hnd)).2.2 p m1 p (by simp) rfl
  · rintro rfl
    rcases List.mem_append.1 m2 with m | m
    · exact (List.nodup_cons.1 (List.nodup_append.1 (List.nodup_cons.1 hnd).2).2.1).1 m
    · exact hb (by simp [List.mem_singleton.1 m])

theorem Path.live_mem {h : Heap} {a b x : Ptr} {l : List Ptr} (hp : Path h a l b) (hx : x ∈ l) :
    h.live x := by
  obtain ⟨_, _, h1, _⟩ := hp.nbrs hx
  exact live_of_pv h1

/-- Unlinking `x ∈ l` (with `p = x.prev`, `n = x.next`) turns a path through `l` into a
path through `l.erase x`. -/
theorem Path.unlink {h : Heap} {b x p n : Ptr} (hpx : h.pv x = some p) (hnx : h.nx x = some n) :
    ∀ {l : List Ptr} {a : Ptr}, Path h a l b → (a :: l).Nodup → b ∉ l → x ∈ l →
      Path (unlinked h p n) a (l.erase x) b := by
  intro l a hp hnd hb hx
  obtain ⟨l1, l2, _, rfl, he⟩ := List.exists_erase_eq hx
  rw [he]
  obtain ⟨h1, h2⟩ := Path.append.1 hp
  obtain ⟨t, ht1, ht2, htm⟩ := h1.last
  cases ht1.symm.trans hpx
  obtain ⟨hnd1, hnd2, hdis⟩ := List.nodup_append.1 (show ((a :: l1) ++ x :: l2).Nodup from hnd)
  -- the part before `x` now ends in `n`, which is not on it
  have left : n ∉ l1 → h.live n → Path (unlinked h p n) a l1 n := fun hn1 ln =>
    h1.retarget hpx hnd1 (fun c _ hne => nx_unlinked_ne hne)
      (fun c hc => pv_unlinked_ne fun e => hn1 (e ▸ hc)) (link_unlinked (live_of_nx ht2) ln)
  cases l2 with
  | nil =>
    cases hnx.symm.trans h2.1
    simpa using left (fun hc => hb (List.mem_append_left _ hc)) (live_of_pv h2.2)
  | cons z zs =>
    cases hnx.symm.trans h2.1.1
    refine Path.append.2 ⟨left (fun hc => hdis n (List.mem_cons_of_mem _ hc) n (by simp) rfl)
      (live_of_pv h2.1.2), Path.congr (fun c hc => nx_unlinked_ne ?_) (fun c hc => pv_unlinked_ne ?_) h2.2⟩
    · rintro rfl; exact hdis c htm c (List.mem_cons_of_mem _ hc) rfl
    · rintro rfl
      rcases List.mem_append.1 hc with hc | hc
      · exact (List.nodup_cons.1 (List.nodup_cons.1 hnd2).2).1 hc
      · exact hb (by simp [List.mem_singleton.1 hc])

/-- Appending a node `x` that is not on the path after its last node `t` (`t = b.prev`):
`listLink2(x, b)`, then `listLink2(t, x)`. -/
theorem Path.push {h : Heap} {b x t : Ptr} (lx : h.live x) (hxb : x ≠ b) (ht : h.pv b = some t) :
    ∀ {l : List Ptr} {a : Ptr}, Path h a l b → (a :: l).Nodup → b ∉ l → x ∉ a :: l →
      Path (unlinked (unlinked h x b) t x) a (l ++ [x]) b := by
  intro l a hp hnd hb hx
  obtain ⟨t', h1, h2, htm⟩ := hp.last
  cases h1.symm.trans ht
  have k := link_unlinked lx hp.live_end
  exact Path.append.2 ⟨hp.retarget ht hnd
      (fun c hc hne => (nx_unlinked_ne hne).trans (nx_unlinked_ne (p := x) fun e => hx (e ▸ hc)))
      (fun c hc => (pv_unlinked_ne (n := x) fun e => hx (e ▸ List.mem_cons_of_mem _ hc)).trans
        (pv_unlinked_ne fun e => hb (e ▸ hc)))
      (link_unlinked (live_unlinked.2 (live_of_nx h2)) (live_unlinked.2 lx)),
    (nx_unlinked_ne (c := x) fun e => hx (e ▸ htm)).trans k.1, (pv_unlinked_ne (Ne.symm hxb)).trans k.2⟩

theorem Path.walkNext {h : Heap} {b : Ptr} : ∀ {l : List Ptr} {a : Ptr} {fuel : Nat}, Path h a l b →
    b ∉ l → l.length < fuel → walkNext h b fuel (h.nx a) = (l, .sentinel) := by
  intro l
  induction l with
  | nil =>
    intro a fuel hp _ hf
    obtain ⟨fuel, rfl⟩ := Nat.exists_eq_succ_of_ne_zero (Nat.ne_of_gt hf)
    have : h.nx a = some b := hp.1
    simp [this, LL.walkNext]
  | cons x xs ih =>
    intro a fuel hp hb hf
    obtain ⟨fuel, rfl⟩ := Nat.exists_eq_succ_of_ne_zero (Nat.ne_of_gt (Nat.zero_lt_of_lt hf))
    have h1 : h.nx a = some x := hp.1.1
    have hxb : x ≠ b := fun e => hb (by simp [e])
    have lx : h.live x := live_of_pv hp.1.2
    obtain ⟨n, hn⟩ := live_iff.1 lx
    have hnx : n.next = h.nx x := by simp [Heap.nx, hn]
    rw [h1]
    simp only [LL.walkNext, hxb, if_false, hn, hnx]
    rw [ih hp.2 (fun e => hb (List.mem_cons_of_mem _ e)) (by simpa using hf)]

/-- the path from `a` to `b` (not on it) is determined by the heap: it is what the traversal
reads -/
theorem Path.unique {h : Heap} {b : Ptr} : ∀ {l l' : List Ptr} {a : Ptr}, Path h a l b →
    Path h a l' b → b ∉ l → b ∉ l' → l = l' := by
  intro l l' a h1 h2 hb hb'
  have w1 := h1.walkNext hb (Nat.lt_succ_of_le (Nat.le_max_left l.length l'.length))
  have w2 := h2.walkNext hb' (Nat.lt_succ_of_le (Nat.le_max_right l.length l'.length))
  exact (Prod.mk.inj (w1.symm.trans w2)).1


theorem mem_snoc_iff {c s : Ptr} {l : List Ptr} : c ∈ l ++ [s] ↔ c ∈ s :: l := by
  rw [List.mem_append, List.mem_singleton, List.mem_cons, or_comm]

namespace Repr

variable {h : Heap} {s : Ptr} {l : List Ptr}

theorem s_notin (hr : Repr h s l) : s ∉ l := (List.nodup_cons.1 hr.nodup).1

theorem live_s (hr : Repr h s l) : h.live s := hr.path.live_start

theorem live (hr : Repr h s l) {a : Ptr} (ha : a ∈ s :: l) : h.live a := by
  rcases List.mem_cons.1 ha with rfl | ha
  · exact hr.live_s
  · exact hr.path.live_mem ha

/-- The heap determines the list it represents. -/
theorem unique {l' : List Ptr} (hr : Repr h s l) (hr' : Repr h s l') : l = l' :=
  Path.unique hr.path hr'.path hr.s_notin hr'.s_notin

/-- Only the objects at `s :: l` matter. -/
theorem frame {h' : Heap} (hr : Repr h s l) (hf : ∀ a ∈ s :: l, h' a = h a) : Repr h' s l := by
  refine ⟨Path.congr (fun c hc => ?_) (fun c hc => ?_) hr.path, hr.nodup⟩
  · simp [Heap.nx, hf c hc]
  · simp [Heap.pv, hf c (mem_snoc_iff.1 hc)]

/-- **Closure** (memory safety of the structure): both fields of every node of the
structure (sentinel included) are non-nil and point to nodes of the structure — so to live
objects, and never to an unlinked (dropped) item. -/
theorem closed (hr : Repr h s l) {a : Ptr} (ha : a ∈ s :: l) :
    ∃ n p, h a = some ⟨some n, some p⟩ ∧ n ∈ s :: l ∧ p ∈ s :: l := by
  rcases List.mem_cons.1 ha with rfl | ha
  · obtain ⟨t, h1, _, h3⟩ := hr.path.last
    have hf := hr.path.first
    cases l with
    | nil => exact ⟨a, t, node_eq hr.live_s hf h1, by simp, h3⟩
    | cons x xs => exact ⟨x, t, node_eq hr.live_s hf h1, by simp, h3⟩
  · obtain ⟨p, n, h1, h2, h3, h4, _⟩ := hr.path.nbrs ha
    exact ⟨n, p, node_eq (live_of_nx h2) h2 h1, mem_snoc_iff.1 h4, h3⟩

end Repr

/-- `listInit(&c.usage)` on a live sentinel: the heap represents `[]`; nothing else changes. -/
theorem listInit_repr' {h : Heap} {s : Ptr} (hs : h.live s) :
    ∃ h', listInit (some s) h = .ok h' ∧ Repr h' s [] ∧ (∀ a, a ≠ s → h' a = h a) ∧
      (∀ a, h'.live a ↔ h.live a) := by
  exact ⟨_, listInit_ok hs, ⟨link_unlinked hs hs, by simp⟩, fun a ha => unlinked_other ha ha, by simp⟩

theorem first_repr' {h : Heap} {s : Ptr} {l : List Ptr} (hr : Repr h s l) :
    listFirst (some s) h = .ok ((l ++ [s]).head?) := by
  rw [listFirst_ok hr.live_s, hr.path.first]

theorem last_repr' {h : Heap} {s : Ptr} {l : List Ptr} (hr : Repr h s l) :
    listLast (some s) h = .ok ((s :: l).getLast?) := by
  rw [listLast_ok hr.live_s, hr.path.pv_end]

/-- `listAppend(x, listLast(&c.usage))` for a live node `x` that is not in the structure:
succeeds, the heap represents `l ++ [x]`; only `x`, the old last node and the sentinel are
written. -/
theorem append_last_repr' {h : Heap} {s x : Ptr} {l : List Ptr} (hr : Repr h s l)
    (hx : x ∉ s :: l) (lx : h.live x) :
    ∃ h', pushBack s x h = .ok h' ∧ Repr h' s (l ++ [x]) ∧ (∀ a, h'.live a ↔ h.live a) ∧
      (∀ a, a ∉ x :: s :: l → h' a = h a) := by
  obtain ⟨t, h1, h2, h3⟩ := hr.path.last
  refine ⟨unlinked (unlinked h x s) t x, ?_, ⟨?_, ?_⟩, by simp, fun a ha => ?_⟩
  · simp [pushBack, listLast_ok hr.live_s, h1, bind, Except.bind, listAppend_ok lx h2 hr.live_s]
  · exact Path.push lx (fun e => hx (by simp [e])) h1 hr.path hr.nodup hr.s_notin hx
  · show ((s :: l) ++ [x]).Nodup
    exact List.nodup_append.2 ⟨hr.nodup, List.pairwise_singleton _ _, fun a ha b hb e =>
      hx (List.mem_singleton.1 hb ▸ e ▸ ha)⟩
  · have hax : a ≠ x := fun e => ha (by simp [e])
    exact (unlinked_other (c := a) (fun e => ha (e ▸ List.mem_cons_of_mem _ h3)) hax).trans
      (unlinked_other hax fun e => ha (by simp [e]))

/-- `listUnlink(x)` for a node of the list: succeeds, the heap represents `l.erase x`;
`x`'s own `next`/`prev` are left as they were (dangling into the structure); only the two
neighbours are written. -/
theorem unlink_repr' {h : Heap} {s x : Ptr} {l : List Ptr} (hr : Repr h s l) (hx : x ∈ l) :
    ∃ h', listUnlink (some x) h = .ok h' ∧ Repr h' s (l.erase x) ∧ h' x = h x ∧
      (∀ a, h'.live a ↔ h.live a) ∧ (∀ a, a ∉ s :: l → h' a = h a) := by
  obtain ⟨p, n, h1, h2, h3, h4, hne⟩ := hr.path.nbrs hx
  obtain ⟨hpx, hnx⟩ := hne hr.nodup hr.s_notin
  have hn' : n ∈ s :: l := mem_snoc_iff.1 h4
  refine ⟨unlinked h p n, listUnlink_ok h1 h2 (hr.live h3) (hr.live hn'), ⟨?_, ?_⟩,
    unlinked_other hpx.symm hnx.symm, by simp, fun a ha => ?_⟩
  · exact Path.unlink h1 h2 hr.path hr.nodup hr.s_notin hx
  · have := hr.nodup
    simp only [List.nodup_cons] at this ⊢
    exact ⟨fun e => this.1 (List.mem_of_mem_erase e), this.2.erase x⟩
  · exact unlinked_other (by rintro rfl; exact ha h3) (by rintro rfl; exact ha hn')


/-- One eviction, list part, on a non-empty list: `first` is the head node (not the
sentinel) and the heap represents the tail. -/
theorem popFront_repr' {h : Heap} {s x : Ptr} {l : List Ptr} (hr : Repr h s (x :: l)) :
    ∃ h', popFront s h = .ok (some x, h') ∧ Repr h' s l ∧ (∀ a, h'.live a ↔ h.live a) := by
  obtain ⟨h', h1, h2, _, h3, _⟩ := unlink_repr' hr (List.mem_cons_self)
  refine ⟨h', ?_, by simpa using h2, h3⟩
  simp [popFront, first_repr' hr, bind, Except.bind, h1, pure, Except.pure]

/-- `Get` with LRU: unlink, then append at the back. -/
theorem moveBack_repr' {h : Heap} {s x : Ptr} {l : List Ptr} (hr : Repr h s l) (hx : x ∈ l) :
    ∃ h', moveBack s x h = .ok h' ∧ Repr h' s (l.erase x ++ [x]) ∧ (∀ a, h'.live a ↔ h.live a) := by
  obtain ⟨h1, e1, r1, _, l1, _⟩ := unlink_repr' hr hx
  have hx1 : x ∉ s :: l.erase x := by
    simp only [List.mem_cons, not_or]
    exact ⟨fun e => hr.s_notin (e ▸ hx), fun e => (List.Nodup.mem_erase_iff (List.nodup_cons.1 hr.nodup).2).1 e |>.1 rfl⟩
  obtain ⟨h2, e2, r2, l2, _⟩ :=
    append_last_repr' r1 hx1 ((l1 x).2 (hr.live (List.mem_cons_of_mem _ hx)))
  exact ⟨h2, by simp [moveBack, e1, bind, Except.bind, e2], r2, fun a => (l2 a).trans (l1 a)⟩

theorem live_alloc {h : Heap} {x a : Ptr} : (h.alloc x).live a ↔ a = x ∨ h.live a := by
  unfold Heap.alloc Heap.set Heap.live
  by_cases e : a = x <;> simp [e]

theorem alloc_other {h : Heap} {x a : Ptr} (e : a ≠ x) : h.alloc x a = h a := by
  simp [Heap.alloc, Heap.set, e]

/-- One instruction: under its side condition the pointer code succeeds and the simulation
relation is kept. -/
theorem sim_step {h : Heap} {s : Ptr} {a : LAbs} (hs : Sim h s a) (op : LOp) (hl : Legal s op a) :
    ∃ h', execOp s op h = .ok h' ∧ Sim h' s (absStep op a) := by
  -- every list function keeps the set of live objects
  have objs : ∀ {h' : Heap}, (∀ y, h'.live y ↔ h.live y) → ∀ y ∈ a.objs, h'.live y :=
    fun lv y hy => (lv y).2 (hs.objs y hy)
  cases op with
  | alloc x =>
    refine ⟨h.alloc x, rfl, hs.repr.frame (fun c hc => alloc_other ?_), ?_⟩
    · rintro rfl; exact hl hc
    · intro y hy
      rcases List.mem_cons.1 hy with rfl | hy
      · exact live_alloc.2 (Or.inl rfl)
      · exact live_alloc.2 (Or.inr (hs.objs y hy))
  | append x =>
    obtain ⟨h', e, r, lv, _⟩ := append_last_repr' hs.repr hl.2 (hs.objs x hl.1)
    exact ⟨h', e, r, objs lv⟩
  | unlink x =>
    obtain ⟨h', e, r, _, lv, _⟩ := unlink_repr' hs.repr hl
    exact ⟨h', e, r, objs lv⟩
  | moveBack x =>
    obtain ⟨h', e, r, lv⟩ := moveBack_repr' hs.repr hl
    exact ⟨h', e, r, objs lv⟩
  | popFront =>
    have hr := hs.repr
    cases hlist : a.list with
    | nil => exact absurd hlist hl
    | cons x xs =>
      rw [hlist] at hr
      obtain ⟨h', e, r, lv⟩ := popFront_repr' hr
      refine ⟨h', by simp [execOp, e, bind, Except.bind, pure, Except.pure], ?_, objs lv⟩
      simpa [absStep, hlist] using r
  | clear =>
    obtain ⟨h', e, r, _, lv⟩ := listInit_repr' hs.repr.live_s
    exact ⟨h', e, r, objs lv⟩

theorem sim_run {s : Ptr} : ∀ (ops : List LOp) {h : Heap} {a : LAbs}, Sim h s a → LegalRun s ops a →
    ∃ h', execOps s ops h = .ok h' ∧ Sim h' s (absRun ops a) := by
  intro ops
  induction ops with
  | nil => exact fun hs _ => ⟨_, rfl, hs⟩
  | cons op rest ih =>
    intro h a hs hl
    obtain ⟨h1, e1, s1⟩ := sim_step hs op hl.1
    obtain ⟨h2, e2, s2⟩ := ih s1 hl.2
    exact ⟨h2, by simp [execOps, e1, bind, Except.bind, e2], s2⟩

theorem newList_sim (s : Ptr) : ∃ h, newList s = .ok h ∧ Sim h s LAbs.init := by
  obtain ⟨h, e, r, _⟩ := listInit_repr' (h := Heap.empty.alloc s) (s := s) (live_alloc.2 (Or.inl rfl))
  exact ⟨h, e, r, by simp [LAbs.init]⟩


/-- the mirror image of a heap: `next` and `prev` exchanged -/
def Heap.swap (h : Heap) : Heap := fun a => (h a).map fun n => ⟨n.prev, n.next⟩

theorem nx_swap {h : Heap} {a : Ptr} : h.swap.nx a = h.pv a := by
  simp only [Heap.swap, Heap.nx, Heap.pv]; cases h a <;> rfl

theorem pv_swap {h : Heap} {a : Ptr} : h.swap.pv a = h.nx a := by
  simp only [Heap.swap, Heap.nx, Heap.pv]; cases h a <;> rfl

theorem Path.swap {h : Heap} {b : Ptr} : ∀ {l : List Ptr} {a : Ptr}, Path h a l b →
    Path h.swap b l.reverse a := by
  intro l
  induction l with
  | nil => exact fun hp => ⟨by rw [nx_swap]; exact hp.2, by rw [pv_swap]; exact hp.1⟩
  | cons x xs ih =>
    intro a hp
    rw [List.reverse_cons, Path.append]
    exact ⟨ih hp.2, by rw [nx_swap]; exact hp.1.2, by rw [pv_swap]; exact hp.1.1⟩

theorem walkPrev_eq (h : Heap) (s : Ptr) : ∀ (fuel : Nat) (p : Option Ptr),
    walkPrev h s fuel p = walkNext h.swap s fuel p := by
  intro fuel
  induction fuel with
  | zero => intro _; rfl
  | succ fuel ih =>
    intro p
    cases p with
    | none => rfl
    | some a =>
      simp only [LL.walkPrev, LL.walkNext]
      split
      · rfl
      · cases hh : h a with
        | none => simp [Heap.swap, hh]
        | some n => simp [Heap.swap, hh, ih]

/-- What `VerifSnapshot` (and the list tie) reads: walking `next` from the sentinel lists
exactly `l`, walking `prev` lists it backwards. -/
theorem Repr.walk {h : Heap} {s : Ptr} {l : List Ptr} (hr : Repr h s l) {fuel : Nat}
    (hf : l.length < fuel) :
    walkNext h s fuel (h.nx s) = (l, .sentinel) ∧
    walkPrev h s fuel (h.pv s) = (l.reverse, .sentinel) := by
  refine ⟨hr.path.walkNext hr.s_notin hf, ?_⟩
  rw [walkPrev_eq, ← nx_swap]
  exact hr.path.swap.walkNext (by simpa using hr.s_notin) (by simpa using hf)

/-- wrapping subtraction, the two cases -/
theorem structPtr_eq {p off : Nat} (hp : p < addrMod) (ho : off < addrMod) :
    structPtr p off = if off ≤ p then p - off else p + addrMod - off := by
  unfold structPtr
  rw [Nat.mod_eq_of_lt ho, ← Nat.add_sub_assoc (Nat.le_of_lt ho)]
  split
  · next h =>
    rw [Nat.sub_add_comm h, Nat.add_mod_right]
    exact Nat.mod_eq_of_lt (Nat.lt_of_le_of_lt (Nat.sub_le _ _) hp)
  · next h =>
    exact Nat.mod_eq_of_lt (Nat.sub_lt_left_of_lt_add (Nat.le_of_lt (Nat.lt_add_left _ ho))
      (Nat.add_lt_add_right (Nat.lt_of_not_le h) _))

theorem structPtr_ge {p off : Nat} (hp : p < addrMod) (h : off ≤ p) : structPtr p off = p - off := by
  rw [structPtr_eq hp (Nat.lt_of_le_of_lt h hp), if_pos h]

theorem structPtr_lt {p off : Nat} (hp : p < addrMod) (ho : off < addrMod) (h : p < off) :
    structPtr p off = p + addrMod - off := by
  rw [structPtr_eq hp ho, if_neg (Nat.not_le_of_lt h)]

/-- `&(structPtr(p, off)).field = p` for every `uintptr` `p`: subtracting the offset and adding
it again cancel modulo `2^64`, whether or not the subtraction wraps. -/
theorem fieldPtr_structPtr {p : Nat} (off : Nat) (hp : p < addrMod) :
    fieldPtr (structPtr p off) off = p := by
  have ho : off % addrMod ≤ addrMod := Nat.le_of_lt (Nat.mod_lt _ (by decide))
  unfold fieldPtr structPtr
  rw [Nat.mod_add_mod, ← Nat.add_mod_mod, Nat.add_assoc, Nat.sub_add_cancel ho, Nat.add_mod_right,
    Nat.mod_eq_of_lt hp]

/-- `structPtr` inverts `&obj.field` (the object does not wrap around the address space). -/
theorem structPtr_fieldPtr {obj off : Nat} (h : obj + off < addrMod) :
    structPtr (fieldPtr obj off) off = obj := by
  unfold fieldPtr
  rw [Nat.mod_eq_of_lt h, structPtr_ge h (Nat.le_add_left _ _)]
  exact Nat.add_sub_cancel obj off

/-- `&it.used ↦ it` is injective on addresses: two different list nodes are the `used`
fields of two different items. -/
theorem itemOf_inj {p q : Ptr} (hp : p < addrMod) (hq : q < addrMod) (h : itemOf p = itemOf q) :
    p = q := by
  rw [← fieldPtr_structPtr usedOff hp, ← fieldPtr_structPtr usedOff hq]
  exact congrArg (fieldPtr · usedOff) h

end GolibsVerif.C09.LL
