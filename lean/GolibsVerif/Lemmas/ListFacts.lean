/-
Facts about `takeWhile`/`dropWhile`, `l[i]?` at the end of a known prefix, and duplicate-free
lists that core Lean does not state and more than one property uses.  They mention no definition
of the model.
-/

namespace GolibsVerif.List

variable {α : Type _} {β : Type _}

/-! ### `takeWhile` and `dropWhile` -/

theorem mem_takeWhile {p : α → Bool} {l : List α} {b : α} (h : b ∈ l.takeWhile p) : p b = true :=
  List.all_eq_true.1 List.all_takeWhile b h

theorem head?_dropWhile {p : α → Bool} {l : List α} {c : α} (h : (l.dropWhile p).head? = some c) :
    p c = false := by
  have := List.head?_dropWhile_not p l
  rwa [h] at this

theorem takeWhile_eq_self {p : α → Bool} : ∀ {l : List α}, (∀ b ∈ l, p b = true) → l.takeWhile p = l
  | [], _ => rfl
  | b :: r, h => by
    rw [List.takeWhile_cons, h b List.mem_cons_self, takeWhile_eq_self fun x hx => h x (List.mem_cons_of_mem _ hx)]
    rfl

theorem dropWhile_eq_self {p : α → Bool} : ∀ {l : List α}, (∀ b ∈ l, p b = false) → l.dropWhile p = l
  | [], _ => rfl
  | b :: _, h => by rw [List.dropWhile_cons, h b List.mem_cons_self]; rfl

theorem drop_length_takeWhile (p : α → Bool) (l : List α) :
    l.drop (l.takeWhile p).length = l.dropWhile p := by
  induction l with
  | nil => rfl
  | cons b r ih => by_cases h : p b <;> simp [List.takeWhile, List.dropWhile, h, ih]

/-- a run stops where it would stop without what follows, if that begins with an element outside `p` -/
theorem span_append_stop (p : α → Bool) (s z : List α) (hz : ∀ c t, z = c :: t → p c = false) :
    (s ++ z).takeWhile p = s.takeWhile p ∧ (s ++ z).dropWhile p = s.dropWhile p ++ z := by
  induction s with
  | nil =>
    cases z with
    | nil => exact ⟨rfl, rfl⟩
    | cons c t => simp [hz c t rfl]
  | cons a s ih =>
    simp only [List.cons_append, List.takeWhile_cons, List.dropWhile_cons]
    cases p a
    · exact ⟨rfl, rfl⟩
    · exact ⟨congrArg _ ih.1, ih.2⟩

/-- a run of elements in `p` in front of a list that begins outside `p` (or is empty) -/
theorem span_run (p : α → Bool) (a r : List α) (ha : ∀ c ∈ a, p c = true)
    (hr : ∀ c t, r = c :: t → p c = false) :
    (a ++ r).takeWhile p = a ∧ (a ++ r).dropWhile p = r := by
  rw [List.takeWhile_append_of_pos ha, List.dropWhile_append_of_pos ha]
  cases r with
  | nil => simp
  | cons c t => simp [hr c t rfl]

/-! ### positions -/

theorem lt_of_getElem? {l : List α} {i : Nat} {a : α} (h : l[i]? = some a) : i < l.length :=
  (List.getElem?_eq_some_iff.1 h).1

theorem getElem?_snoc (l : List α) (a : α) (i : Nat) :
    (l ++ [a])[i]? = if i = l.length then some a else l[i]? := by
  rcases Nat.lt_trichotomy i l.length with h | h | h
  · rw [List.getElem?_append_left h, if_neg (Nat.ne_of_lt h)]
  · simp [h]
  · rw [if_neg (Nat.ne_of_gt h), List.getElem?_eq_none (by simp; omega),
      List.getElem?_eq_none (Nat.le_of_lt h)]

theorem getElem?_append_cons_length (F E : List α) (a : α) : (F ++ a :: E)[F.length]? = some a := by
  simp

theorem set_append_cons_length (F E : List α) (a b : α) :
    (F ++ a :: E).set F.length b = F ++ b :: E := by
  simp

/-! ### duplicate-free lists -/

theorem Nodup.of_map (f : α → β) {l : List α} (h : (l.map f).Nodup) : l.Nodup :=
  List.Pairwise.of_map f (fun _ _ hab hc => hab (hc ▸ rfl)) h

/-- pigeonhole: a duplicate-free list contained in a list that is not longer exhausts it -/
theorem mem_of_nodup_of_length_le [DecidableEq α] {a b : List α} (ha : a.Nodup)
    (hsub : ∀ x ∈ a, x ∈ b) (hlen : b.length ≤ a.length) : ∀ x ∈ b, x ∈ a := by
  intro x hx
  apply Classical.byContradiction
  intro hnx
  -- otherwise `a` would fit into `b` without `x`, which is shorter than `a`
  have := ha.length_le_of_subset (l₂ := b.erase x) fun y hy =>
    (List.mem_erase_of_ne (fun (hc : y = x) => hnx (hc ▸ hy))).2 (hsub y hy)
  rw [List.length_erase_of_mem hx] at this
  have hpos : 0 < b.length := List.length_pos_of_mem hx
  omega

end GolibsVerif.List
