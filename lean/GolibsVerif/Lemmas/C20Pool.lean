/-
C20 — the pool discipline `PoolInv` (an object is idle in its pool or held by one request,
never both, and was made by `New`), and how `Get`, `Put`, the pool's GC and the steps that do
not touch the pool keep it.
-/
import GolibsVerif.Model.C20

namespace GolibsVerif.C20

@[simp] theorem upd_same {α : Type} (f : Nat → α) (i : Nat) (v : α) : upd f i v i = v := by
  simp [upd]

theorem upd_other {α : Type} (f : Nat → α) {i j : Nat} (v : α) (h : j ≠ i) : upd f i v j = f j := by
  simp [upd, h]

theorem upd_ne {α : Type} {f : Nat → α} {i j : Nat} {v : α} (h : upd f i v j ≠ f j) : j = i :=
  Decidable.byContradiction fun hji => h (upd_other f v hji)

/-- a conditional update changes the function at most at the updated index -/
theorem upd_if_ne {α : Type} {f : Nat → α} {b : Bool} {i j : Nat} {v : α}
    (h : (if b then upd f i v else f) j ≠ f j) : j = i := by
  cases b
  · exact absurd rfl h
  · exact upd_ne h

theorem upd_self_eq {α : Type} (f : Nat → α) (i : Nat) (v : α) (h : f i = v) : upd f i v = f := by
  funext j
  unfold upd
  split
  · next hj => rw [hj, h]
  · rfl

/-- The discipline of one pool `p` (contract MEM-1) with respect to `own`, the object each
request holds: the idle objects are distinct and were made by `New` (`< fresh`); an object that
is held was made by `New`, is not idle, and is held by one request only. -/
structure PoolInv (p : Pool) (own : Rid → Option Obj) : Prop where
  nodup : p.free.Nodup
  free_lt : ∀ o ∈ p.free, o < p.fresh
  own_lt : ∀ i o, own i = some o → o < p.fresh
  own_nfree : ∀ i o, own i = some o → o ∉ p.free
  excl : ∀ i j o, own i = some o → own j = some o → i = j

theorem PoolInv.empty : PoolInv ⟨[], 0⟩ (fun _ => none) :=
  ⟨List.nodup_nil, nofun, nofun, nofun, nofun⟩

section
variable {p p' : Pool} {own : Rid → Option Obj} {i j : Rid} {o o' : Obj}

theorem upd_some_eq_some (hj : upd own i (some o) j = some o') :
    (j = i ∧ o' = o) ∨ (j ≠ i ∧ own j = some o') := by
  by_cases hji : j = i
  · rw [hji, upd_same] at hj; exact .inl ⟨hji, (Option.some.inj hj).symm⟩
  · rw [upd_other _ _ hji] at hj; exact .inr ⟨hji, hj⟩

theorem upd_none_eq_some (hj : upd own i none j = some o') : j ≠ i ∧ own j = some o' := by
  by_cases hji : j = i
  · rw [hji, upd_same] at hj; cases hj
  · rw [upd_other _ _ hji] at hj; exact ⟨hji, hj⟩

/-- Request `i` is handed an object that is in bounds, not idle and nobody's, while the idle
list may shrink and the allocation counter grow. -/
theorem PoolInv.assign (h : PoolInv p own) (hnd : p'.free.Nodup)
    (hsub : ∀ x ∈ p'.free, x ∈ p.free) (hfr : p.fresh ≤ p'.fresh) (hlt : o < p'.fresh)
    (hnf : o ∉ p'.free) (hno : ∀ j, own j ≠ some o) : PoolInv p' (upd own i (some o)) := by
  refine ⟨hnd, fun x hx => Nat.lt_of_lt_of_le (h.free_lt x (hsub x hx)) hfr, ?_, ?_, ?_⟩
  · intro j o' hj
    rcases upd_some_eq_some hj with ⟨-, rfl⟩ | ⟨-, hj⟩
    · exact hlt
    · exact Nat.lt_of_lt_of_le (h.own_lt j o' hj) hfr
  · intro j o' hj
    rcases upd_some_eq_some hj with ⟨-, rfl⟩ | ⟨-, hj⟩
    · exact hnf
    · exact fun hc => h.own_nfree j o' hj (hsub _ hc)
  · intro j k o' hj hk
    rcases upd_some_eq_some hj with ⟨hji, rfl⟩ | ⟨-, hj⟩ <;>
      rcases upd_some_eq_some hk with ⟨hki, ho⟩ | ⟨-, hk⟩
    · rw [hji, hki]
    · exact absurd hk (hno k)
    · exact absurd hj (ho ▸ hno j)
    · exact h.excl j k o' hj hk

/-- `Get`: an idle object leaves the idle list, a new one is the next the counter gives -/
theorem PoolInv.get {b : Bool} (h : PoolInv p own) (hg : p.get o = some (p', b)) :
    PoolInv p' (upd own i (some o)) := by
  unfold Pool.get at hg
  by_cases hmem : o ∈ p.free
  · simp [hmem] at hg
    obtain ⟨rfl, -⟩ := hg
    exact h.assign (h.nodup.erase o) (fun _ => List.mem_of_mem_erase) (Nat.le_refl _) (h.free_lt o hmem)
      (fun hc => ((List.Nodup.mem_erase_iff h.nodup).1 hc).1 rfl) (fun j hj => h.own_nfree j o hj hmem)
  · simp [hmem] at hg
    obtain ⟨rfl, rfl, -⟩ := hg
    exact h.assign h.nodup (fun _ hx => hx) (Nat.le_succ _) (Nat.lt_succ_self _) hmem
      (fun j hj => Nat.lt_irrefl _ (h.own_lt j _ hj))

/-- request `i` forgets the object it holds, if any -/
theorem PoolInv.leak (h : PoolInv p own) (i : Rid) : PoolInv p (upd own i none) :=
  ⟨h.nodup, h.free_lt, fun j o' hj => h.own_lt j o' (upd_none_eq_some hj).2,
    fun j o' hj => h.own_nfree j o' (upd_none_eq_some hj).2,
    fun j k o' hj hk => h.excl j k o' (upd_none_eq_some hj).2 (upd_none_eq_some hk).2⟩

theorem PoolInv.put (h : PoolInv p own) (hi : own i = some o) : PoolInv (p.put o) (upd own i none) := by
  obtain ⟨-, -, hlt, hnf, hex⟩ := h.leak i
  refine ⟨List.nodup_cons.2 ⟨h.own_nfree i o hi, h.nodup⟩, ?_, hlt, ?_, hex⟩
  · intro x hx
    rcases List.mem_cons.1 hx with rfl | hx
    · exact h.own_lt i _ hi
    · exact h.free_lt x hx
  · intro j o' hj hc
    rcases List.mem_cons.1 hc with rfl | hc
    · exact (upd_none_eq_some hj).1 (h.excl j i _ (upd_none_eq_some hj).2 hi)
    · exact hnf j o' hj hc

end

/-- the pool's GC forgets an idle object: nobody held it, so nothing else changes -/
theorem PoolInv.drop {p p' : Pool} {own : Rid → Option Obj} (h : PoolInv p own) {o : Obj}
    (hd : p.drop o = some p') : PoolInv p' own := by
  unfold Pool.drop at hd
  by_cases hmem : o ∈ p.free
  · simp [hmem] at hd
    subst hd
    exact ⟨h.nodup.erase o, fun o' ho' => h.free_lt o' (List.mem_of_mem_erase ho'), h.own_lt,
      fun j o' hj hc => h.own_nfree j o' hj (List.mem_of_mem_erase hc), h.excl⟩
  · simp [hmem] at hd

/-- Ownership in a pool whose object a request keeps in the local variable `obj` for as long
as its program counter satisfies `hold`.  The three ownership maps of the model are its
instances (`ownedA_eq`, `ownedQ_eq`, `ownedW_eq`, by definition), which is how the lemmas below
apply to them. -/
def owned (hold : PC → Bool) (obj : Thread → Obj) (th : Rid → Thread) : Rid → Option Obj :=
  fun i => if hold (th i).pc then some (obj (th i)) else none

theorem ownedA_eq : ownedA = owned holdsA Thread.a := rfl
theorem ownedQ_eq : ownedQ = owned holdsQ Thread.q := rfl
theorem ownedW_eq : ownedW = owned holdsW Thread.w := rfl

section
variable {hold : PC → Bool} {obj : Thread → Obj} {th : Rid → Thread} {p : Pool} {i : Rid} {t' : Thread}

theorem owned_upd (hold : PC → Bool) (obj : Thread → Obj) (th : Rid → Thread) (i : Rid) (t : Thread) :
    owned hold obj (upd th i t) = upd (owned hold obj th) i (if hold t.pc then some (obj t) else none) := by
  funext j; unfold owned upd; split <;> rfl

/-- request `i`, at program counter `q`, goes on without taking or returning an object; it may
abandon the one it holds -/
theorem PoolInv.move {q : PC} (h : PoolInv p (owned hold obj th)) (ho : obj t' = obj (th i))
    (hq : (th i).pc = q) (hp : (!hold t'.pc || hold q) = true) :
    PoolInv p (owned hold obj (upd th i t')) := by
  rw [owned_upd]
  by_cases hh : hold t'.pc = true
  · have hi : hold (th i).pc = true := by rw [hq]; simpa [hh] using hp
    rwa [if_pos hh, upd_self_eq _ _ _ (by simp [owned, hi, ho])]
  · rw [if_neg hh]; exact h.leak i

theorem PoolInv.take {p' : Pool} {o : Obj} {b : Bool} (h : PoolInv p (owned hold obj th))
    (hg : p.get o = some (p', b)) (ht : hold t'.pc = true) (ho : obj t' = o) :
    PoolInv p' (owned hold obj (upd th i t')) := by
  rw [owned_upd, if_pos ht, ho]; exact h.get hg

theorem PoolInv.give (h : PoolInv p (owned hold obj th)) (hi : hold (th i).pc = true)
    (ht : hold t'.pc = false) : PoolInv (p.put (obj (th i))) (owned hold obj (upd th i t')) := by
  rw [owned_upd, if_neg (by simp [ht])]; exact h.put (by simp [owned, hi])

end

/-- A request `j` that holds an object of a pool finds it untouched by a step of another request
`i` that wrote at most to the object `i` itself holds in that pool: the two objects differ. -/
theorem PoolInv.untouched {β : Type} [DecidableEq β] {hold : PC → Bool} {obj : Thread → Obj}
    {th : Rid → Thread} {p : Pool} {i j : Rid} {ti tj : Thread} {m m' : Obj → β}
    (h : PoolInv p (owned hold obj th)) (hji : j ≠ i) (hti : th i = ti) (htj : th j = tj)
    (hj : hold tj.pc = true) (w : ∀ x, m' x ≠ m x → hold ti.pc = true ∧ x = obj ti) :
    m' (obj tj) = m (obj tj) :=
  Decidable.byContradiction fun hne =>
    hji (h.excl j i (obj tj) (by simp [owned, htj, hj]) (by simp [owned, hti, w _ hne]))

end GolibsVerif.C20
