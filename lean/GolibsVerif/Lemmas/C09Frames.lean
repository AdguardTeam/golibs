/-
C09 — helper lemmas for the framed transition system (`Model/C09Frames.lean`): framed
traces (append / split), the frame invariant that makes every framed step a step of the
frameless system, the three shapes a framed step has, the per-frame `OnDelete` scan (its one
cell of memory is a function of the frame's phase: `frame_run`), and where a frame comes from.
-/
import GolibsVerif.Model.C09Frames
import GolibsVerif.Lemmas.C09
import GolibsVerif.Lemmas.ListFacts

namespace GolibsVerif.C09

theorem ftrace_append {c : Conf} {σ σ1 σ2 : FSt} {l1 l2 : List FRec} (h1 : FTrace c σ l1 σ1)
    (h2 : FTrace c σ1 l2 σ2) : FTrace c σ (l1 ++ l2) σ2 := by
  induction h1 with
  | nil => simpa using h2
  | cons hstep _ ih => exact FTrace.cons hstep (ih h2)

theorem ftrace_single {c : Conf} {σ σ' : FSt} {ev : FEv} (h : FStep c σ ev σ') :
    FTrace c σ [⟨ev, σ'⟩] σ' := FTrace.cons h (FTrace.nil σ')

theorem ftrace_split {c : Conf} {σ σ' : FSt} {pre post : List FRec} {ev : FEv} {σ1 : FSt}
    (ht : FTrace c σ (pre ++ ⟨ev, σ1⟩ :: post) σ') :
    ∃ σ0, FTrace c σ pre σ0 ∧ FStep c σ0 ev σ1 ∧ FTrace c σ1 post σ' := by
  induction pre generalizing σ with
  | nil =>
    cases ht with
    | cons hstep hrest => exact ⟨σ, FTrace.nil σ, hstep, hrest⟩
  | cons x xs ih =>
    cases ht with
    | cons hstep hrest =>
      obtain ⟨σ0, h1, h2, h3⟩ := ih hrest
      exact ⟨σ0, FTrace.cons hstep h1, h2, h3⟩

theorem move_frames {σ : FSt} {i : Nat} {f : Frame} (p : Phase) (s : St)
    (h : σ.frames[i]? = some f) (j : Nat) :
    (σ.move i f p s).frames[j]? = if j = i then some { f with phase := p } else σ.frames[j]? := by
  have hlt := List.lt_of_getElem? h
  simp only [FSt.move, List.getElem?_set]
  by_cases hij : i = j
  · subst hij; simp [hlt]
  · have : ¬ j = i := fun hc => hij hc.symm
    simp [hij, this]

theorem move_phaseAt {σ : FSt} {i : Nat} {f : Frame} (p : Phase) (s : St)
    (h : σ.frames[i]? = some f) (j : Nat) :
    (σ.move i f p s).phaseAt j = if j = i then some p else σ.phaseAt j := by
  unfold FSt.phaseAt
  rw [move_frames p s h j]
  split <;> rfl

theorem call_phaseAt (σ : FSt) (k v : Bytes) (j : Nat) :
    ({ σ with frames := σ.frames ++ [⟨k, v, .start⟩] } : FSt).phaseAt j =
      if j = σ.frames.length then some .start else σ.phaseAt j := by
  unfold FSt.phaseAt
  rw [List.getElem?_snoc]
  split <;> rfl

theorem phaseAt_of_get {σ : FSt} {i : Nat} {f : Frame} (h : σ.frames[i]? = some f) :
    σ.phaseAt i = some f.phase := by simp [FSt.phaseAt, h]

/-- what a frame that is inside the loop has already established -/
def FrameOk (c : Conf) (f : Frame) : Prop :=
  match f.phase with
  | .cb _ _ => c.hasCb = true ∧ c.lru = true ∧ f.add ≤ c.maxElem
  | .loop => c.lru = true ∧ f.add ≤ c.maxElem
  | _ => True

def FramesOk (c : Conf) (σ : FSt) : Prop := ∀ (i : Nat) (f : Frame), σ.frames[i]? = some f → FrameOk c f

theorem FramesOk.init (c : Conf) : FramesOk c FSt.init := by
  intro i f h; simp [FSt.init] at h

theorem atLoopHead_ok {c : Conf} {s : St} {f : Frame} (hf : FrameOk c f)
    (h : f.atLoopHead c s) :
    f.add ≤ c.maxElem ∧ (c.lru = true ∨ full c s f.add = false) := by
  rcases h with ⟨_, hp⟩ | hl
  · exact setCheck_proceed hp
  · unfold FrameOk at hf
    rw [hl] at hf
    exact ⟨hf.2, Or.inl hf.1⟩

theorem framesOk_move {c : Conf} {σ : FSt} {i : Nat} {f : Frame} {p : Phase} (s : St)
    (hok : FramesOk c σ) (h : σ.frames[i]? = some f)
    (hp : FrameOk c { f with phase := p }) : FramesOk c (σ.move i f p s) := by
  intro j g hg
  rw [move_frames p s h j] at hg
  by_cases hji : j = i
  · simp only [hji, if_true, Option.some.injEq] at hg
    subst hg; exact hp
  · simp only [hji, if_false] at hg
    exact hok j g hg

/-- a framed step keeps the frame invariant; a section is a step of the frameless system
with the same event, a `call` leaves the cache alone -/
theorem fstep_ok {c : Conf} {σ σ' : FSt} {ev : FEv} (hok : FramesOk c σ) (hs : FStep c σ ev σ') :
    FramesOk c σ' ∧
    (match ev with
      | .call .. => σ'.cache = σ.cache
      | .sec _ e => CStep c σ.cache e σ'.cache) := by
  cases hs with
  | call k v =>
    refine ⟨?_, rfl⟩
    intro j g hg
    rw [List.getElem?_snoc] at hg
    split at hg
    · cases hg; trivial
    · exact hok j g hg
  | refuse i f hf hp hc =>
    exact ⟨framesOk_move _ hok hf (by simp [FrameOk]), CStep.refuse _ _ _ hc⟩
  | evict i f s' e hf hh hfull he =>
    obtain ⟨hadd, hor⟩ := atLoopHead_ok (hok i f hf) hh
    have hl := lru_of_full hor hfull
    refine ⟨framesOk_move _ hok hf ?_, CStep.evict _ _ f.add e hl hadd hfull he⟩
    cases hcb : c.hasCb
    · simp only [FrameOk]; exact ⟨hl, hadd⟩
    · simp only [FrameOk]; exact ⟨hcb, hl, hadd⟩
  | onDelete i f k v hf hp =>
    have := hok i f hf
    unfold FrameOk at this
    rw [hp] at this
    exact ⟨framesOk_move _ hok hf (by simp only [FrameOk]; exact ⟨this.2.1, this.2.2⟩),
      CStep.onDelete _ k v this.1⟩
  | commit i f s' r hf hh hfull hc =>
    obtain ⟨hadd, _⟩ := atLoopHead_ok (hok i f hf) hh
    exact ⟨framesOk_move _ hok hf (by simp [FrameOk]), CStep.commit _ _ _ _ _ hadd hfull hc⟩
  | get s' k r hg => exact ⟨hok, CStep.get _ _ _ _ hg⟩
  | del s' k hd => exact ⟨hok, CStep.del _ _ _ hd⟩
  | clear => exact ⟨hok, CStep.clear _⟩
  | stats => exact ⟨hok, CStep.stats _⟩

theorem projLog_append (a b : List FRec) : projLog (a ++ b) = projLog a ++ projLog b := by
  simp [projLog]

theorem projLog_sec (pre post : List FRec) (who : Option Nat) (ev : Ev) (σ1 : FSt) :
    projLog (pre ++ ⟨.sec who ev, σ1⟩ :: post) = projLog pre ++ ⟨ev, σ1.cache⟩ :: projLog post := by
  simp [projLog, FRec.proj]

theorem ftrace_proj {c : Conf} {σ σ' : FSt} {l : List FRec} (ht : FTrace c σ l σ') :
    FramesOk c σ → FramesOk c σ' ∧ Trace c σ.cache (projLog l) σ'.cache := by
  induction ht with
  | nil σ => intro h; exact ⟨h, Trace.nil _⟩
  | @cons σa σb σc ev rest hstep _ ih =>
    intro h
    obtain ⟨h1, hp⟩ := fstep_ok h hstep
    obtain ⟨h2, ht2⟩ := ih h1
    refine ⟨h2, ?_⟩
    cases ev with
    | call i k v =>
      simp only at hp
      simpa [projLog, List.filterMap_cons, FRec.proj, hp] using ht2
    | sec who e =>
      simp only at hp
      simpa [projLog, FRec.proj] using Trace.cons hp ht2

theorem fstep_in_history {c : Conf} {pre post : List FRec} {ev : FEv} {σ1 σ : FSt}
    (ht : FTrace c FSt.init (pre ++ ⟨ev, σ1⟩ :: post) σ) :
    ∃ σ0, FTrace c FSt.init pre σ0 ∧ FramesOk c σ0 ∧ Inv c σ0.cache ∧
      Agree σ0.cache (absOf c.lru (evsOf (projLog pre))) ∧ FStep c σ0 ev σ1 ∧ FTrace c σ1 post σ := by
  obtain ⟨σ0, hpre, hstep, hpost⟩ := ftrace_split ht
  obtain ⟨hok, htr⟩ := ftrace_proj hpre (FramesOk.init c)
  obtain ⟨h0, ha0⟩ := trace_from_init htr
  exact ⟨σ0, hpre, hok, h0, ha0, hstep, hpost⟩

theorem secsOf_append (i : Nat) (a b : List FRec) : secsOf i (a ++ b) = secsOf i a ++ secsOf i b := by
  simp [secsOf]

theorem secsOf_cons_sec (i : Nat) (who : Option Nat) (ev : Ev) (σ1 : FSt) (post : List FRec) :
    secsOf i (⟨.sec who ev, σ1⟩ :: post) =
      (if who = some i then [ev] else []) ++ secsOf i post := by
  cases who with
  | none => simp [secsOf, List.filterMap_cons, FRec.secOf]
  | some j =>
    by_cases h : j = i
    · simp [secsOf, FRec.secOf, h]
    · simp [secsOf, FRec.secOf, h]

theorem pendOf_atLoopHead {c : Conf} {s : St} {f : Frame} (hh : f.atLoopHead c s) :
    pendOf (some f.phase) = none := by
  rcases hh with ⟨hp, _⟩ | hp <;> rw [hp] <;> rfl

/-- what a section of a `Set` frame `f` can do on the cache `s`: its event, the frame's next
phase, the cache after it -/
inductive FrameSec (c : Conf) (s : St) (f : Frame) : Ev → Phase → St → Prop where
  | refuse : f.phase = .start → setCheck c s f.key f.val ≠ .proceed →
      FrameSec c s f (.refused f.key f.val) .done s
  | evict (s' : St) (e : Entry) : f.atLoopHead c s → full c s f.add = true →
      evictOne s = .ok (s', e) →
      FrameSec c s f (.evict e.key e.val) (if c.hasCb then .cb e.key e.val else .loop) s'
  | onDelete (k v : Bytes) : f.phase = .cb k v → FrameSec c s f (.onDelete k v) .loop s
  | commit (s' : St) (r : Bool) : f.atLoopHead c s → full c s f.add = false →
      setCommit c s f.key f.val = .ok (s', r) → FrameSec c s f (.commit f.key f.val r) .done s'

/-- for the `OnDelete` scan a section is a step from the cell of the frame's old phase to the cell
of its new one -/
theorem FrameSec.scan {c : Conf} {s s' : St} {f : Frame} {e : Ev} {p : Phase}
    (h : FrameSec c s f e p s') :
    cbNext c.hasCb (pendOf (some f.phase)) e = some (pendOf (some p)) := by
  cases h with
  | refuse hp _ => rw [hp]; rfl
  | evict s' e hh _ _ => rw [pendOf_atLoopHead hh]; cases c.hasCb <;> rfl
  | onDelete k v hp => rw [hp]; simp [pendOf, cbNext]
  | commit s' r hh _ _ => rw [pendOf_atLoopHead hh]; rfl

/-- **What a framed step can be**: a `call`; a one-section call, which leaves the frames alone; or
a section of one frame `j`, which moves that frame as `FrameSec` says -/
theorem fstep_shape {c : Conf} {σ σ' : FSt} {ev : FEv} (hs : FStep c σ ev σ') :
    (∃ k v, ev = .call σ.frames.length k v ∧
      σ' = { σ with frames := σ.frames ++ [⟨k, v, .start⟩] }) ∨
    (∃ e, ev = .sec none e ∧ σ'.frames = σ.frames) ∨
    (∃ j f p s e, σ.frames[j]? = some f ∧ ev = .sec (some j) e ∧ σ' = σ.move j f p s ∧
      FrameSec c σ.cache f e p s) := by
  cases hs with
  | call k v => exact .inl ⟨k, v, rfl, rfl⟩
  | refuse i f hf hp hc => exact .inr (.inr ⟨i, f, _, _, _, hf, rfl, rfl, .refuse hp hc⟩)
  | evict i f s' e hf hh hfull he =>
    exact .inr (.inr ⟨i, f, _, _, _, hf, rfl, rfl, .evict s' e hh hfull he⟩)
  | onDelete i f k v hf hp => exact .inr (.inr ⟨i, f, _, _, _, hf, rfl, rfl, .onDelete k v hp⟩)
  | commit i f s' r hf hh hfull hc =>
    exact .inr (.inr ⟨i, f, _, _, _, hf, rfl, rfl, .commit s' r hh hfull hc⟩)
  | _ => exact .inr (.inl ⟨_, rfl, rfl⟩)

/-- a section of frame `i` (the label's index is a variable here) -/
theorem fstep_set_inv {c : Conf} {σ σ' : FSt} {i : Nat} {ev : Ev}
    (hs : FStep c σ (.sec (some i) ev) σ') :
    ∃ f p s, σ.frames[i]? = some f ∧ FrameSec c σ.cache f ev p s ∧ σ' = σ.move i f p s := by
  rcases fstep_shape hs with ⟨_, _, h, _⟩ | ⟨_, h, _⟩ | ⟨j, f, p, s, e, hf, h, rfl, hsec⟩
  · cases h
  · cases h
  · cases h; exact ⟨f, p, s, hf, hsec, rfl⟩

theorem fstep_none_frames {c : Conf} {σ σ' : FSt} {ev : Ev} (hs : FStep c σ (.sec none ev) σ') :
    σ'.frames = σ.frames := by
  rcases fstep_shape hs with ⟨_, _, h, _⟩ | ⟨_, _, h⟩ | ⟨_, _, _, _, _, _, h, _⟩
  · cases h
  · exact h
  · cases h

/-- one step, seen from frame `i`: its section, if it is one, takes the scan from the cell of the
frame's phase before to the cell of its phase after -/
theorem fstep_run {c : Conf} {σ σ' : FSt} {ev : FEv} (hs : FStep c σ ev σ') (i : Nat) :
    cbRun c.hasCb (pendOf (σ.phaseAt i)) (secsOf i [⟨ev, σ'⟩]) = some (pendOf (σ'.phaseAt i)) := by
  rcases fstep_shape hs with ⟨k, v, rfl, rfl⟩ | ⟨e, rfl, hfr⟩ | ⟨j, f, p, s, e, hf, rfl, rfl, hsc⟩
  · -- a new frame owes nothing
    show some _ = _
    rw [call_phaseAt]
    by_cases hi : i = σ.frames.length
    · have : σ.phaseAt i = none := by simp [FSt.phaseAt, hi]
      rw [if_pos hi, this]; rfl
    · rw [if_neg hi]
  · rw [secsOf_cons_sec, if_neg (by simp)]
    unfold FSt.phaseAt; rw [hfr]; rfl
  · rw [secsOf_cons_sec, move_phaseAt _ _ hf]
    by_cases hji : j = i
    · subst hji
      rw [if_pos rfl, if_pos rfl, phaseAt_of_get hf]
      simp [secsOf, cbRun, hsc.scan]
    · rw [if_neg (fun h => hji (Option.some.inj h)), if_neg (fun h => hji h.symm)]; rfl

/-- **The `OnDelete` scan of a frame follows its phase**: over the sections of frame `i` the scan
goes from the cell of the frame's phase at the start to the cell of its phase at the end
(`some (k, v)` exactly in phase `cb k v`) -/
theorem frame_run {c : Conf} {σ0 : FSt} {l : List FRec} {σ : FSt} (ht : FTrace c σ0 l σ) (i : Nat) :
    cbRun c.hasCb (pendOf (σ0.phaseAt i)) (secsOf i l) = some (pendOf (σ.phaseAt i)) := by
  induction ht with
  | nil σ => rfl
  | @cons σa σb σc ev rest hstep _ ih =>
    rw [← List.singleton_append, secsOf_append, cbRun_append, fstep_run hstep i]
    exact ih

/-- what a frame still owes brings the scan back to "nothing owed" -/
theorem cbRun_owed (h : Bool) (p : Option Phase) : cbRun h (pendOf p) (owedOf p) = some none := by
  cases p with
  | none => rfl
  | some ph => cases ph <;> simp [pendOf, owedOf, cbRun, cbNext]

theorem pendOf_eq_some {q : Option Phase} {k v : Bytes} (h : pendOf q = some (k, v)) :
    q = some (.cb k v) := by
  cases q with
  | none => cases h
  | some ph => cases ph <;> simp [pendOf] at h; rw [h.1, h.2]

theorem cbRun_none_head {h : Bool} {l : List Ev} {q : Option (Bytes × Bytes)}
    (hs : cbRun h none l = some q) (k v : Bytes) : l.head? ≠ some (.onDelete k v) := by
  cases l with
  | nil => simp
  | cons x rest =>
    intro hc
    simp only [List.head?_cons, Option.some.injEq] at hc
    subst hc
    cases hs

theorem cbScan_none_head {h : Bool} {l : List Ev} (hs : cbScan h none l = true) (k v : Bytes) :
    l.head? ≠ some (.onDelete k v) := cbRun_none_head ((cbScan_iff_run ..).1 hs) k v

/-- a run that ends owing `(k, v)`: its last event is `evict k v` and a callback is configured (or
it is empty and `(k, v)` was owed at the start) -/
theorem cbRun_to_some (h : Bool) (k v : Bytes) :
    ∀ (l : List Ev) (p : Option (Bytes × Bytes)), cbRun h p l = some (some (k, v)) →
      (l = [] ∧ p = some (k, v)) ∨ (l.getLast? = some (.evict k v) ∧ h = true) := by
  intro l
  induction l with
  | nil => intro p hs; exact .inl ⟨rfl, Option.some.inj hs⟩
  | cons x rest ih =>
    intro p hs
    obtain ⟨q, hq, hs⟩ := Option.bind_eq_some_iff.1 hs
    rcases ih q hs with ⟨rfl, rfl⟩ | ⟨hl, hh⟩
    · obtain ⟨rfl, hh⟩ := cbNext_to_some hq
      exact .inr ⟨rfl, hh⟩
    · refine .inr ⟨?_, hh⟩
      rw [List.getLast?_cons, hl]; rfl

/-- frames keep their key and value; a frame of the final state was there at the start or was
created by a `call` label of the execution carrying its key and value -/
theorem frame_origin_from {c : Conf} {σ0 σ : FSt} {l : List FRec} (ht : FTrace c σ0 l σ) :
    ∀ i f, σ.frames[i]? = some f →
      (∃ f0, σ0.frames[i]? = some f0 ∧ f0.key = f.key ∧ f0.val = f.val) ∨
      ∃ p1 p2 σc, l = p1 ++ ⟨.call i f.key f.val, σc⟩ :: p2 := by
  induction ht with
  | nil σ => intro i f h; exact .inl ⟨f, h, rfl, rfl⟩
  | @cons σa σb σc ev rest hstep _ ih =>
    intro i f h
    rcases ih i f h with ⟨f1, h1, hk, hv⟩ | ⟨p1, p2, σd, rfl⟩
    · rcases fstep_shape hstep with ⟨k, v, rfl, rfl⟩ | ⟨e, rfl, hfr⟩ | ⟨j, g, p, s, e, hg, rfl, rfl, _⟩
      · rw [List.getElem?_snoc] at h1
        split at h1
        · next hi =>
          cases h1
          exact .inr ⟨[], rest, _, by rw [← hk, ← hv, hi]; rfl⟩
        · exact .inl ⟨f1, h1, hk, hv⟩
      · exact .inl ⟨f1, hfr ▸ h1, hk, hv⟩
      · rw [move_frames _ _ hg] at h1
        split at h1
        · next hi =>
          cases h1
          exact .inl ⟨g, hi ▸ hg, hk, hv⟩
        · exact .inl ⟨f1, h1, hk, hv⟩
    · exact .inr ⟨_ :: p1, p2, σd, rfl⟩

theorem frame_origin {c : Conf} {l : List FRec} {σ : FSt} (ht : FTrace c FSt.init l σ) :
    ∀ i f, σ.frames[i]? = some f →
      ∃ p1 p2 σc, l = p1 ++ ⟨.call i f.key f.val, σc⟩ :: p2 := by
  intro i f h
  rcases frame_origin_from ht i f h with ⟨f0, h0, _⟩ | h
  · simp [FSt.init] at h0
  · exact h

end GolibsVerif.C09
