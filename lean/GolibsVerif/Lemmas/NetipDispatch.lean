/-
`netip.ParseAddr` chooses its parser by the first of `'.'`, `':'`, `'%'`: bytes before it are
skipped (`dispatch_skip`, for running the dispatch on a given text), and an address
returned is that of `parseIPv4` or of `parseIPv6` on the whole text (`dispatch_cases`, for reading a result back).
-/
import GolibsVerif.Go.Netip

namespace GolibsVerif.Netip
open GolibsVerif.Str

theorem dispatch_skip (whole r : Bytes) : ∀ l : Bytes, (∀ c ∈ l, c ≠ 46 ∧ c ≠ 58 ∧ c ≠ 37) →
    parseAddrDispatch (l ++ r) whole = parseAddrDispatch r whole := by
  intro l
  induction l with
  | nil => intro _; rfl
  | cons c l ih =>
    intro hl
    obtain ⟨h1, h2, h3⟩ := hl c List.mem_cons_self
    rw [List.cons_append, parseAddrDispatch, if_neg h1, if_neg h2, if_neg h3]
    exact ih (fun x hx => hl x (List.mem_cons_of_mem _ hx))

theorem dispatch_cases {whole : Bytes} {a : Addr} : ∀ {rest : Bytes}, parseAddrDispatch rest whole = some a →
    (46 ∈ rest ∧ parseIPv4 whole = some a) ∨ (58 ∈ rest ∧ parseIPv6 whole = some a) := by
  intro rest
  induction rest with
  | nil => intro h; cases h
  | cons c r ih =>
    intro h
    rw [parseAddrDispatch] at h
    by_cases h46 : c = 46
    · rw [if_pos h46] at h; exact Or.inl ⟨h46 ▸ List.mem_cons_self, h⟩
    · rw [if_neg h46] at h
      by_cases h58 : c = 58
      · rw [if_pos h58] at h; exact Or.inr ⟨h58 ▸ List.mem_cons_self, h⟩
      · rw [if_neg h58] at h
        by_cases h37 : c = 37
        · rw [if_pos h37] at h; cases h
        · rw [if_neg h37] at h
          exact (ih h).imp (And.imp_left (List.mem_cons_of_mem _)) (And.imp_left (List.mem_cons_of_mem _))

end GolibsVerif.Netip
