/-
`partitionCmpFunc` and `partitionEqualCmpFunc` of `Go/Sort.lean` (`partition_spec`,
`partitionEqual_spec`): a `Frame` of `[a, b)` whose result is `Parted` around the pivot.  Both
rest on the two generic scans (`scanUp_spec`, `scanDown_spec`) and on `crossLoop_spec`, the loop
that alternates them.  Nothing is assumed about the comparator: the postconditions are what the
tests performed by the loops establish.
-/
import GolibsVerif.Lemmas.SortBasic
import GolibsVerif.Lemmas.GoM

namespace GolibsVerif.Slices

variable {α : Type} {cmp : α → α → Int}

theorem AllOn.single {P : α → Prop} {d : Array α} {i : Int} {x : α} (hx : at? d i = some x) (h : P x) :
    AllOn P d i (i + 1) := by
  intro k y hk1 hk2 hy
  obtain rfl : k = i := by omega
  rw [hx] at hy; cases hy
  exact h

theorem AllOn.append {P : α → Prop} {d : Array α} {a b c : Int} (h1 : AllOn P d a b) (h2 : AllOn P d b c) :
    AllOn P d a c := by
  intro k x hk1 hk2 hx
  by_cases hk : k < b
  · exact h1 k x hk1 hk hx
  · exact h2 k x (by omega) hk2 hx

/-- a loop `for i <= j && test(data[i]) { i++ }`, given by its equation as a function `f` of `i`: it goes on
at an element with `T` and stops at one with `S` -/
theorem scanUp_spec {T S : α → Prop} {d : Array α} {j : Int} {f : Int → GoM Int} (hTS : ∀ x, T x ∨ S x)
    (step : ∀ i x, i ≤ j → at? d i = some x → (T x → f i = f (i + 1)) ∧ (S x → f i = .ok i))
    (stop : ∀ i, j < i → f i = .ok i) (hj : j < d.size) : ∀ (n : Nat) (i : Int),
    (j + 1 - i).toNat < n → 0 ≤ i → i ≤ j + 1 →
    ∃ i', f i = .ok i' ∧ i ≤ i' ∧ i' ≤ j + 1 ∧ AllOn T d i i' ∧
      (i' ≤ j → ∀ x, at? d i' = some x → S x) := by
  intro n
  induction n with
  | zero => intro i hn; omega
  | succ n ih =>
    intro i hn hi hij
    by_cases hgo : i ≤ j
    case neg => exact ⟨i, stop i (by omega), Int.le_refl _, hij, .empty (Int.le_refl _), by intro h; omega⟩
    obtain ⟨x, hx⟩ := at?_eq_some d i ⟨hi, by omega⟩
    obtain ⟨hpos, hneg⟩ := step i x (by omega) hx
    rcases hTS x with hT | hS
    · obtain ⟨i', h1, h2, h3, h4, h5⟩ := ih (i + 1) (by omega) (by omega) (by omega)
      exact ⟨i', (hpos hT).trans h1, by omega, h3, (AllOn.single hx hT).append h4, h5⟩
    · refine ⟨i, hneg hS, Int.le_refl _, by omega, .empty (Int.le_refl _), ?_⟩
      intro _ y hy
      rw [hx] at hy; cases hy; exact hS

/-- a loop `for i <= j && test(data[j]) { j-- }`, given by its equation as a function `f` of `j` -/
theorem scanDown_spec {T S : α → Prop} {d : Array α} {i : Int} {f : Int → GoM Int} (hTS : ∀ x, T x ∨ S x)
    (step : ∀ j x, i ≤ j → at? d j = some x → (T x → f j = f (j - 1)) ∧ (S x → f j = .ok j))
    (stop : ∀ j, j < i → f j = .ok j) (hi : 0 ≤ i) : ∀ (n : Nat) (j : Int),
    (j + 1 - i).toNat < n → i ≤ j + 1 → j < d.size →
    ∃ j', f j = .ok j' ∧ j' ≤ j ∧ i ≤ j' + 1 ∧ AllOn T d (j' + 1) (j + 1) ∧
      (i ≤ j' → ∀ x, at? d j' = some x → S x) := by
  intro n
  induction n with
  | zero => intro j hn; omega
  | succ n ih =>
    intro j hn hij hj
    by_cases hgo : i ≤ j
    case neg => exact ⟨j, stop j (by omega), Int.le_refl _, hij, .empty (Int.le_refl _), by intro h; omega⟩
    obtain ⟨x, hx⟩ := at?_eq_some d j ⟨by omega, hj⟩
    obtain ⟨hpos, hneg⟩ := step j x (by omega) hx
    rcases hTS x with hT | hS
    · obtain ⟨j', h1, h2, h3, h4, h5⟩ := ih (j - 1) (by omega) (by omega) (by omega)
      rw [show j - 1 + 1 = j by omega] at h4
      exact ⟨j', (hpos hT).trans h1, by omega, h3, h4.append (AllOn.single hx hT), h5⟩
    · refine ⟨j, hneg hS, Int.le_refl _, by omega, .empty (Int.le_refl _), ?_⟩
      intro _ y hy
      rw [hx] at hy; cases hy; exact hS

theorem scanLess_spec (cmp : α → α → Int) {p : α} {d : Array α} {a i j : Int} (hp : at? d a = some p)
    (hi : 0 ≤ i) (hij : i ≤ j + 1) (hj : j < d.size) :
    ∃ i', scanLess cmp d a i j = .ok i' ∧ i ≤ i' ∧ i' ≤ j + 1 ∧ AllOn (fun x => cmp x p < 0) d i i' ∧
      (i' ≤ j → ∀ x, at? d i' = some x → ¬ cmp x p < 0) := by
  refine scanUp_spec (f := fun i => scanLess cmp d a i j) (fun _ => Decidable.em _) (fun i x hle hx => ?_)
    (fun i hlt => ?_) hj _ i (Nat.lt_succ_self _) hi hij
  · simp only [scanLess.eq_1 cmp d a i j, hle, if_true, get_ok hx, get_ok hp, GoM.ok_bind]
    exact ⟨fun h => if_pos h, fun h => if_neg h⟩
  · simp only [scanLess.eq_1 cmp d a i j, Int.not_le.mpr hlt, if_false, GoM.pure_eq_ok]

theorem scanNotLess_spec (cmp : α → α → Int) {p : α} {d : Array α} {a i j : Int} (hp : at? d a = some p)
    (hi : 0 ≤ i) (hij : i ≤ j + 1) (hj : j < d.size) :
    ∃ j', scanNotLess cmp d a i j = .ok j' ∧ j' ≤ j ∧ i ≤ j' + 1 ∧
      AllOn (fun x => ¬ cmp x p < 0) d (j' + 1) (j + 1) ∧
      (i ≤ j' → ∀ x, at? d j' = some x → cmp x p < 0) := by
  refine scanDown_spec (f := fun j => scanNotLess cmp d a i j) (fun _ => (Decidable.em _).symm)
    (fun j x hle hx => ?_) (fun j hlt => ?_) hi _ j (Nat.lt_succ_self _) hij hj
  · simp only [scanNotLess.eq_1 cmp d a i j, hle, if_true, get_ok hx, get_ok hp, GoM.ok_bind]
    exact ⟨fun h => if_pos (by simpa using h), fun h => if_neg (by simpa using h)⟩
  · simp only [scanNotLess.eq_1 cmp d a i j, Int.not_le.mpr hlt, if_false, GoM.pure_eq_ok]

theorem scanEqUp_spec (cmp : α → α → Int) {p : α} {d : Array α} {a i j : Int} (hp : at? d a = some p)
    (hi : 0 ≤ i) (hij : i ≤ j + 1) (hj : j < d.size) :
    ∃ i', scanEqUp cmp d a i j = .ok i' ∧ i ≤ i' ∧ i' ≤ j + 1 ∧ AllOn (fun x => ¬ cmp p x < 0) d i i' ∧
      (i' ≤ j → ∀ x, at? d i' = some x → cmp p x < 0) := by
  refine scanUp_spec (f := fun i => scanEqUp cmp d a i j) (fun _ => (Decidable.em _).symm)
    (fun i x hle hx => ?_) (fun i hlt => ?_) hj _ i (Nat.lt_succ_self _) hi hij
  · simp only [scanEqUp.eq_1 cmp d a i j, hle, if_true, get_ok hx, get_ok hp, GoM.ok_bind]
    exact ⟨fun h => if_pos (by simpa using h), fun h => if_neg (by simpa using h)⟩
  · simp only [scanEqUp.eq_1 cmp d a i j, Int.not_le.mpr hlt, if_false, GoM.pure_eq_ok]

theorem scanEqDown_spec (cmp : α → α → Int) {p : α} {d : Array α} {a i j : Int} (hp : at? d a = some p)
    (hi : 0 ≤ i) (hij : i ≤ j + 1) (hj : j < d.size) :
    ∃ j', scanEqDown cmp d a i j = .ok j' ∧ j' ≤ j ∧ i ≤ j' + 1 ∧
      AllOn (fun x => cmp p x < 0) d (j' + 1) (j + 1) ∧
      (i ≤ j' → ∀ x, at? d j' = some x → ¬ cmp p x < 0) := by
  refine scanDown_spec (f := fun j => scanEqDown cmp d a i j) (fun _ => Decidable.em _) (fun j x hle hx => ?_)
    (fun j hlt => ?_) hi _ j (Nat.lt_succ_self _) hij hj
  · simp only [scanEqDown.eq_1 cmp d a i j, hle, if_true, get_ok hx, get_ok hp, GoM.ok_bind]
    exact ⟨fun h => if_pos h, fun h => if_neg h⟩
  · simp only [scanEqDown.eq_1 cmp d a i j, Int.not_le.mpr hlt, if_false, GoM.pure_eq_ok]

/-- `up` passes the elements with `L` and stops at one with `R`, `down` passes those with `R` and stops
at one with `L`; the two elements at which they stop are exchanged, until the scans cross at
`i' = j' + 1`.  `L` and `R` are exclusive tests against the pivot `p`, which lies at `a` outside the
range of the loop; `ret` says which of `i'`, `j'` the loop returns. -/
theorem crossLoop_spec {L R : α → Prop} (hLR : ∀ x, L x → ¬ R x) {a : Int} {p : α}
    {loop : Nat → Array α → Int → Int → GoM (Array α × Int)} {up down : Array α → Int → Int → GoM Int}
    {ret : Int → Int → Int}
    (hloop : ∀ fuel d i j, loop (fuel + 1) d i j = do
      let i ← up d i j
      let j ← down d i j
      if i > j then pure (d, ret i j)
      else do
        let d ← swap d i j
        loop fuel d (i + 1) (j - 1))
    (hup : ∀ (d : Array α) (i j : Int), at? d a = some p → 0 ≤ i → i ≤ j + 1 → j < d.size →
      ∃ i', up d i j = .ok i' ∧ i ≤ i' ∧ i' ≤ j + 1 ∧ AllOn L d i i' ∧
        (i' ≤ j → ∀ x, at? d i' = some x → R x))
    (hdown : ∀ (d : Array α) (i j : Int), at? d a = some p → 0 ≤ i → i ≤ j + 1 → j < d.size →
      ∃ j', down d i j = .ok j' ∧ j' ≤ j ∧ i ≤ j' + 1 ∧ AllOn R d (j' + 1) (j + 1) ∧
        (i ≤ j' → ∀ x, at? d j' = some x → L x))
    (b : Int) : ∀ (fuel : Nat) (d : Array α) (i j : Int),
    j + 1 - i < fuel → at? d a = some p → 0 ≤ a → a < i → i ≤ j + 1 → j < b → b ≤ d.size →
    AllOn L d (a + 1) i → AllOn R d (j + 1) b →
    ∃ d' i' j', loop fuel d i j = .ok (d', ret i' j') ∧ i' = j' + 1 ∧ Frame d d' (a + 1) b ∧ a ≤ j' ∧ j' < b ∧
      AllOn L d' (a + 1) i' ∧ AllOn R d' (j' + 1) b := by
  intro fuel
  induction fuel with
  | zero => intro d i j hf; omega
  | succ fuel ih =>
    intro d i j hf hp ha hai hij hjb hb hL hR
    obtain ⟨i', h1, hi1, hi2, hi3, hi4⟩ := hup d i j hp (by omega) hij (by omega)
    obtain ⟨j', h2, hj1, hj2, hj3, hj4⟩ := hdown d i' j hp (by omega) hi2 (by omega)
    have hL' := hL.append hi3
    have hR' := hj3.append hR
    simp only [hloop, h1, h2, GoM.ok_bind]
    split
    · exact ⟨d, i', j', rfl, by omega, Frame.refl .., by omega, by omega, hL', hR'⟩
    · -- no element passes both tests: the scans have stopped at different elements
      have hlt : i' < j' := by
        obtain ⟨x, hx⟩ := at?_eq_some d i' (by omega)
        by_cases e : i' = j'
        · subst e; exact absurd (hi4 (by omega) x hx) (hLR x (hj4 (Int.le_refl _) x hx))
        · omega
      obtain ⟨d1, hs, hf1, hat⟩ := swap_frame d i' j' (a + 1) b (by omega) hb (by omega) (by omega)
      obtain ⟨d2, i2, j2, h3, he, hf2, hj2a, hj2b, hL2, hR2⟩ := ih d1 (i' + 1) (j' - 1) (by omega)
        ((hf1.out a (by omega)).trans hp) ha (by omega) (by omega) (by omega) (hf1.size_le hb)
        (fun k x hk1 hk2 hx => by
          by_cases hk : k = i'
          · subst hk
            exact hj4 (by omega) x (hat.fst ▸ hx)
          · exact hL' k x hk1 (by omega) (hat.other k ⟨hk, by omega⟩ ▸ hx))
        (fun k x hk1 hk2 hx => by
          by_cases hk : k = j'
          · subst hk
            exact hi4 (by omega) x (hat.snd ▸ hx)
          · exact hR' k x (by omega) hk2 (hat.other k ⟨by omega, hk⟩ ▸ hx))
      simp only [hs, GoM.ok_bind]
      exact ⟨d2, i2, j2, h3, he, hf1.trans hf2, hj2a, hj2b, hL2, hR2⟩

structure Parted (cmp : α → α → Int) (d : Array α) (a mid b : Int) (p : α) : Prop where
  pivot : at? d mid = some p
  less : AllOn (fun x => cmp x p < 0) d a mid
  notLess : AllOn (fun x => ¬ cmp x p < 0) d (mid + 1) b

theorem Parted.frame_left {d d' : Array α} {a mid b : Int} {p : α}
    (h : Parted cmp d a mid b p) (hf : Frame d d' a mid) (ha : 0 ≤ a) : Parted cmp d' a mid b p :=
  ⟨(hf.out mid (by omega)).trans h.pivot, hf.allOn ha h.less, h.notLess.frame_out hf (Or.inr (by omega))⟩

theorem Parted.frame_right {d d' : Array α} {a mid b : Int} {p : α}
    (h : Parted cmp d a mid b p) (hf : Frame d d' (mid + 1) b) (hm : 0 ≤ mid) : Parted cmp d' a mid b p :=
  ⟨(hf.out mid (by omega)).trans h.pivot, h.less.frame_out hf (Or.inl (by omega)), hf.allOn (by omega) h.notLess⟩

theorem partition_spec (cmp : α → α → Int) (d : Array α) (a b pivot : Int) (p : α)
    (ha : 0 ≤ a) (hap : a ≤ pivot) (hpb : pivot < b) (hb : b ≤ d.size) (hp : at? d pivot = some p) :
    ∃ d' mid ap, partition cmp d a b pivot = .ok (d', mid, ap) ∧ Frame d d' a b ∧ a ≤ mid ∧ mid < b ∧
      Parted cmp d' a mid b p := by
  obtain ⟨d0, hs0, hf0, hat0⟩ := swap_frame d a pivot a b ha hb (by omega) (by omega)
  have hp0 : at? d0 a = some p := hat0.fst.trans hp
  have hb0 := hf0.size_le hb
  -- `partition` is the loop with one more round, which the source spells out to learn
  -- `alreadyPartitioned`, between the two moves of the pivot
  obtain ⟨d1, _, j1, hloop, rfl, hf1, hj1a, hj1b, hL, hR⟩ :=
    crossLoop_spec (L := fun x => cmp x p < 0) (R := fun x => ¬ cmp x p < 0) (hLR := fun _ h hn => hn h)
      (loop := fun fuel d i j => partitionLoop cmp fuel d a i j) (ret := fun _ j => j)
      (hloop := fun _ _ _ _ => rfl) (hup := fun _ _ _ hp => scanLess_spec cmp hp)
      (hdown := fun _ _ _ hp => scanNotLess_spec cmp hp) b ((b - a).toNat.succ + 1) d0 (a + 1) (b - 1)
      (by omega) hp0 ha (by omega) (by omega) (by omega) hb0 (.empty (Int.le_refl _)) (.empty (by omega))
  -- the pivot goes from `a` to the end `j1` of the smaller elements
  obtain ⟨d2, hs2, hf2, hat2⟩ := swap_frame d1 j1 a a b ha (hf1.size_le hb0) (by omega) (by omega)
  have hP : Parted cmp d2 a j1 b p := by
    refine ⟨hat2.fst.trans ((hf1.out a (by omega)).trans hp0), fun k x hk1 hk2 hx => ?_,
      fun k x hk1 hk2 hx => hR k x hk1 hk2 (hat2.other k (by omega) ▸ hx)⟩
    by_cases hk : k = a
    · subst hk
      exact hL j1 x (by omega) (by omega) (hat2.snd ▸ hx)
    · exact hL k x (by omega) (by omega) (hat2.other k ⟨by omega, hk⟩ ▸ hx)
  obtain ⟨i, h1, hi1, hi2, _⟩ := scanLess_spec cmp (i := a + 1) (j := b - 1) hp0 (by omega) (by omega) (by omega)
  obtain ⟨j, h2, hj1, hj2, _⟩ := scanNotLess_spec cmp (i := i) (j := b - 1) hp0 (by omega) hi2 (by omega)
  rw [partitionLoop] at hloop
  simp only [h1, h2, GoM.ok_bind] at hloop
  refine ⟨d2, j1, decide (i > j), ?_, hf0.trans ((hf1.mono (by omega) (Int.le_refl _)).trans hf2), hj1a, hj1b, hP⟩
  simp only [partition, hs0, h1, h2, GoM.ok_bind]
  by_cases hij : i > j
  · rw [if_pos hij] at hloop ⊢
    cases hloop
    simp only [hs2, GoM.ok_bind, GoM.pure_eq_ok, decide_eq_true hij]
  · obtain ⟨d', hs', _⟩ := swap_frame d0 i j a b ha hb0 (by omega) (by omega)
    rw [if_neg hij] at hloop ⊢
    simp only [hs', GoM.ok_bind] at hloop ⊢
    simp only [hloop, hs2, GoM.ok_bind, GoM.pure_eq_ok, decide_eq_false hij]

theorem partitionEqual_spec (cmp : α → α → Int) (d : Array α) (a b pivot : Int) (p : α)
    (ha : 0 ≤ a) (hap : a ≤ pivot) (hpb : pivot < b) (hb : b ≤ d.size) (hp : at? d pivot = some p) :
    ∃ d' mid, partitionEqual cmp d a b pivot = .ok (d', mid) ∧ Frame d d' a b ∧ a < mid ∧ mid ≤ b ∧
      at? d' a = some p ∧ AllOn (fun x => ¬ cmp p x < 0) d' (a + 1) mid ∧
      AllOn (fun x => cmp p x < 0) d' mid b := by
  obtain ⟨d0, hs0, hf0, hat0⟩ := swap_frame d a pivot a b ha hb
    (by omega) (by omega)
  have hp0 : at? d0 a = some p := hat0.fst.trans hp
  obtain ⟨d1, _, j, h1, rfl, hf1, hm1, hm2, hL, hR⟩ :=
    crossLoop_spec (L := fun x => ¬ cmp p x < 0) (R := fun x => cmp p x < 0) (hLR := fun _ h => h)
      (loop := fun fuel d i j => partitionEqualLoop cmp fuel d a i j) (ret := fun i _ => i)
      (hloop := fun _ _ _ _ => rfl) (hup := fun _ _ _ hp => scanEqUp_spec cmp hp)
      (hdown := fun _ _ _ hp => scanEqDown_spec cmp hp) b (b - a).toNat.succ d0 (a + 1) (b - 1)
      (by omega) hp0 ha (by omega) (by omega) (by omega) (hf0.size_le hb) (.empty (Int.le_refl _))
      (.empty (by omega))
  simp only [partitionEqual, hs0, h1, GoM.ok_bind]
  exact ⟨d1, j + 1, rfl, hf0.trans (hf1.mono (by omega) (Int.le_refl _)), by omega, by omega,
    (hf1.out a (by omega)).trans hp0, hL, hR⟩

end GolibsVerif.Slices
