import GolibsVerif.Lemmas.C02IPv4

/-! C02, IPv6 part: what can follow a complete hex field (`Sep`, `sepOf`); one iteration of the
netip scanner (`v6Step_sep`, `accN_sep`) and of the golibs scanner (`v6FieldsLoop_sep`) by its five
cases; the simulation (`sim`); `parseIPv6` in terms of its zone split (`parseIPv6Split`). -/
namespace GolibsVerif.C02
open GolibsVerif.Netutil GolibsVerif.Str GolibsVerif.Netip GolibsVerif

abbrev hexP : Nat → Bool := fun c => (hexVal c).isSome

/-- `d` is a complete hex field in front of `r`: 1..4 hex digits, and `r` does not go on with
a hex digit -/
structure FieldOK (d r : Bytes) : Prop where
  hex : ∀ c ∈ d, (hexVal c).isSome = true
  pos : 1 ≤ d.length
  le4 : d.length ≤ 4
  stop : ∀ c, r.head? = some c → hexVal c = none

theorem FieldOK.takeWhile {d r : Bytes} (h : FieldOK d r) : (d ++ r).takeWhile hexP = d :=
  (List.span_run hexP d r h.hex fun c t e => by simp [hexP, h.stop c (e ▸ rfl)]).1

theorem FieldOK.ne_nil {d r : Bytes} (h : FieldOK d r) : d ≠ [] := by
  intro hd; have := h.pos; simp [hd] at this

theorem field_cases (s : Bytes) :
    ((s.takeWhile hexP).length = 0 ∨ (s.takeWhile hexP).length > 4) ∨
    ∃ d r, s = d ++ r ∧ FieldOK d r := by
  by_cases h : (s.takeWhile hexP).length = 0 ∨ (s.takeWhile hexP).length > 4
  · exact Or.inl h
  · right
    refine ⟨s.takeWhile hexP, s.dropWhile hexP, (List.takeWhile_append_dropWhile).symm, ?_, by omega, by omega, ?_⟩
    · exact fun _ => List.mem_takeWhile
    · intro c hc
      simpa using List.head?_dropWhile hc

/-! ### netip side -/

/-- the checks of `parseIPv6` after its loop -/
def fin6 (st : V6State) : Bool :=
  st.s.isEmpty && (if st.ip.length < 16 then st.ellipsis.isSome else st.ellipsis.isNone)

/-- "netip accepts from loop state `st`" -/
def accN (fuel : Nat) (st : V6State) : Bool :=
  match v6Loop fuel st with
  | none => false
  | some st' => fin6 st'

theorem accN_succ (k : Nat) (st : V6State) (h : st.ip.length < 16) :
    accN (k + 1) st = match v6Step st with
      | .inl none => false
      | .inl (some st') => fin6 st'
      | .inr st' => accN k st' := by
  simp only [accN, v6Loop, h, if_true]
  rcases v6Step st with (_ | _) | _ <;> rfl

theorem accN_bad (k : Nat) (s : Bytes) (ip : List Nat) (el : Option Nat) (hlen : ip.length < 16)
    (h : (s.takeWhile hexP).length = 0 ∨ (s.takeWhile hexP).length > 4) :
    accN (k + 1) ⟨s, ip, el⟩ = false := by
  rw [accN_succ _ _ hlen]
  unfold v6Step
  rcases h with h | h
  · simp [h]
  · simp only [h, if_true]

theorem fin6_nil (ip : List Nat) (el : Option Nat) (n : Nat) (hip : ip.length = 2 * n) :
    fin6 ⟨[], ip, el⟩ = (el.isSome == decide (n < 8)) := by
  cases el <;> by_cases h : n < 8 <;> simp [fin6, hip, h] <;> omega

/-- netip's three conditions on an embedded IPv4 address after `n` fields — it starts at byte
12 unless there was a `::`, it fits, and the final check for `n + 2` fields — are golibs' two
(sixteen cases) -/
theorem v4tail_cond (e : Bool) (n : Nat) (hn : n < 8) :
    (if (!e) = true ∧ 2 * n ≠ 12 then false
     else if 2 * n + 4 > 16 then false else (e == decide (n + 2 < 8))) =
    (decide (n ≤ 6) && (e == decide (n < 6))) := by
  revert e n; decide

/-- the field value netip accumulates (irrelevant for acceptance) -/
def accOf (d : Bytes) : Nat := d.foldl (fun a c => a * 16 + (hexVal c).getD 0) 0

/-- what follows a complete hex field: the end of the text, an embedded IPv4 address (the field
was its first octet), `:` and more text, `::` and the rest, or anything else -/
inductive Sep where
  | eos
  | dot
  | one (t : Bytes)
  | two (t : Bytes)
  | bad

def sepOf : Bytes → Sep
  | [] => .eos
  | c :: r1 =>
    if c = 46 then .dot
    else if c ≠ 58 then .bad
    else match r1 with
      | [] => .bad
      | c2 :: r2 => if c2 = 58 then .two r2 else .one (c2 :: r2)

/-- the text behind a field, recovered from its class -/
theorem sepOf_inv (r : Bytes) :
    match sepOf r with
    | .eos => r = []
    | .dot => ∃ t, r = 46 :: t
    | .one t => r = 58 :: t ∧ t ≠ []
    | .two t => r = 58 :: 58 :: t
    | .bad => True := by
  rcases r with _ | ⟨c, _ | ⟨c2, r2⟩⟩
  · rfl
  · by_cases h46 : c = 46 <;> by_cases h58 : c = 58 <;> simp [sepOf, h46, h58]
  · by_cases h46 : c = 46 <;> by_cases h58 : c = 58 <;> by_cases hc2 : c2 = 58 <;>
      simp [sepOf, h46, h58, hc2]

/-- One iteration of netip's loop on a complete field `d` followed by `r`. -/
theorem v6Step_sep {d r : Bytes} (h : FieldOK d r) (ip : List Nat) (el : Option Nat) :
    v6Step ⟨d ++ r, ip, el⟩ =
      let ip' := ip ++ [accOf d / 256, accOf d % 256]
      match sepOf r with
      | .eos => .inl (some ⟨[], ip', el⟩)
      | .dot =>
        if el.isNone ∧ ip.length ≠ 12 then .inl none
        else if ip.length + 4 > 16 then .inl none
        else match parseIPv4Fields (d ++ r) with
          | none => .inl none
          | some f => .inl (some ⟨[], ip ++ f, el⟩)
      | .one t => .inr ⟨t, ip', el⟩
      | .two t =>
        if el.isSome then .inl none
        else if t = [] then .inl (some ⟨[], ip', some (ip.length + 2)⟩)
        else .inr ⟨t, ip', some (ip.length + 2)⟩
      | .bad => .inl none := by
  have h4 : ¬ d.length > 4 := by have := h.le4; omega
  have h0 : ¬ d.length = 0 := by have := h.pos; omega
  unfold v6Step
  simp only [h.takeWhile, h4, h0, if_false, List.drop_left, accOf]
  rcases r with _ | ⟨c, r1⟩
  · rfl
  · by_cases h46 : c = 46
    · subst h46; simp only [sepOf, List.head?_cons, if_true]; rfl
    · rcases r1 with _ | ⟨c2, r2⟩
      · by_cases h58 : c = 58 <;> simp [sepOf, h46, h58]
      · by_cases h58 : c = 58 <;> by_cases hc2 : c2 = 58 <;> simp [sepOf, h46, h58, hc2]

/-- One iteration of netip's loop on a complete field, as acceptance (`fieldsNum = n` on the
golibs side is `i = 2·n` here). -/
theorem accN_sep (k n : Nat) {d r : Bytes} (h : FieldOK d r) (ip : List Nat) (el : Option Nat)
    (hip : ip.length = 2 * n) (hn : n < 8) :
    ∃ ip', ip'.length = 2 * (n + 1) ∧
    accN (k + 1) ⟨d ++ r, ip, el⟩ =
      match sepOf r with
      | .eos => el.isSome == decide (n + 1 < 8)
      | .dot => decide (n ≤ 6) && (el.isSome == decide (n < 6)) && (parseIPv4Fields (d ++ r)).isSome
      | .one t => accN k ⟨t, ip', el⟩
      | .two t => !el.isSome && (if t = [] then decide (n + 1 < 8) else accN k ⟨t, ip', some (ip.length + 2)⟩)
      | .bad => false := by
  refine ⟨ip ++ [accOf d / 256, accOf d % 256], by simp; omega, ?_⟩
  have hfin : ∀ el', fin6 ⟨[], ip ++ [accOf d / 256, accOf d % 256], el'⟩ = (el'.isSome == decide (n + 1 < 8)) :=
    fun el' => fin6_nil _ el' (n + 1) (by simp; omega)
  rw [accN_succ _ _ (by simp; omega), v6Step_sep h]
  cases sepOf r with
  | eos => exact hfin el
  | one t => rfl
  | bad => rfl
  | two t => cases he : el.isSome <;> by_cases ht : t = [] <;> simp [ht, hfin]
  | dot =>
    -- netip's three conditions on the position of the IPv4 tail are golibs' two
    simp only [hip]
    rw [← v4tail_cond el.isSome n hn, Option.not_isSome]
    by_cases h1 : el.isNone = true ∧ 2 * n ≠ 12
    · rw [if_pos h1, if_pos h1]; rfl
    · rw [if_neg h1, if_neg h1]
      by_cases h2 : 2 * n + 4 > 16
      · rw [if_pos h2, if_pos h2]; rfl
      · rw [if_neg h2, if_neg h2]
        cases hp : parseIPv4Fields (d ++ r) with
        | none => simp
        | some f =>
          simp only [Option.isSome_some, Bool.and_true]
          exact fin6_nil (ip ++ f) el (n + 2) (by simp [parseIPv4Fields_len _ _ hp, hip]; omega)

/-! ### golibs side -/

theorem countAux_eq (s : Bytes) (k : Nat) (hk : k ≤ 4) :
    countIPv6FieldRunesAux s k =
      if k + (s.takeWhile hexP).length > 4 then 0 else k + (s.takeWhile hexP).length := by
  induction s generalizing k with
  | nil => simp [countIPv6FieldRunesAux]; omega
  | cons c t ih =>
    unfold countIPv6FieldRunesAux
    cases hv : hexVal c with
    | none => simp [hv]; omega
    | some v =>
      have hp : hexP c = true := by simp [hexP, hv]
      simp only [Option.isNone_some, Bool.false_eq_true, if_false, List.takeWhile_cons,
        hp, if_true, List.length_cons]
      by_cases h3 : k > 3
      · have : k + ((t.takeWhile hexP).length + 1) > 4 := by omega
        simp [h3, this]
      · simp only [h3, if_false]
        rw [ih (k + 1) (by omega)]
        simp only [Nat.add_assoc, Nat.add_comm 1]

theorem count_bad (s : Bytes) (h : (s.takeWhile hexP).length = 0 ∨ (s.takeWhile hexP).length > 4) :
    countIPv6FieldRunes s = 0 := by
  unfold countIPv6FieldRunes
  rw [countAux_eq _ _ (by omega)]
  rcases h with h | h
  · simp [h]
  · simp [h]

theorem count_field {d r : Bytes} (h : FieldOK d r) : countIPv6FieldRunes (d ++ r) = d.length := by
  unfold countIPv6FieldRunes
  rw [countAux_eq _ _ (by omega), h.takeWhile]
  have := h.le4
  simp; omega

theorem trim_bad (s : Bytes) (n : Nat) (e : Bool)
    (h : (s.takeWhile hexP).length = 0 ∨ (s.takeWhile hexP).length > 4) :
    trimValidIPv6Field s n e = .ok ([], false) := by
  simp [trimValidIPv6Field, count_bad s h, pure, Except.pure]

theorem trim_field {d r : Bytes} (h : FieldOK d r) (n : Nat) (e : Bool) :
    trimValidIPv6Field (d ++ r) n e = .ok (match r with
      | [] => ([], e == decide (n + 1 < 8))
      | c :: _ =>
        if c = 46 then
          ([], decide (n ≤ 6) && (e == decide (n < 6)) && (parseIPv4Fields (d ++ r)).isSome)
        else (r, true)) := by
  have hc := count_field h
  have h0 : d.length ≠ 0 := by have := h.pos; omega
  unfold trimValidIPv6Field
  match r, h with
  | [], _ =>
    simp only [List.append_nil] at hc ⊢
    simp [hc, h0, maxIPv6FieldsNum, pure, Except.pure]
    rfl
  | c :: r1, _ =>
    have hl : ¬ d.length = (d ++ c :: r1).length := by simp
    simp only [hc, h0, hl, if_false, bind, Except.bind, pure, Except.pure, GoM.idx_append_len]
    by_cases h46 : c = 46
    · subst h46
      simp only [if_true, isValidIPv4String_eq]
      rw [show maxIPv6FieldsNum - 2 = 6 from rfl]
      cases (decide (n ≤ 6) && (e == decide (n < 6))) <;> rfl
    · simp only [h46, if_false, GoM.sliceFrom_append_len]

/-- `countIPv6SepRunes` on non-empty input: 0 for "no separator here" (also a `:` at the very
end and a second `::`), else the length of `:` or `::` -/
theorem countSep_cons (c : Nat) (rest : Bytes) (e : Bool) :
    countIPv6SepRunes (c :: rest) e = .ok (
      if c ≠ 58 ∨ rest = [] then (0, e)
      else if rest.head? = some 58 then (if e then (0, false) else (2, true))
      else (1, e)) := by
  match rest with
  | [] => by_cases h : c = 58 <;> simp [countIPv6SepRunes, h, bind, Except.bind, pure, Except.pure]
  | c2 :: t =>
    by_cases h : c = 58 <;> by_cases h2 : c2 = 58 <;> cases e <;>
      simp [countIPv6SepRunes, h, h2, GoM.idx_one_cons, bind, Except.bind, pure, Except.pure]

theorem v6FieldsLoop_nil (f n : Nat) (e : Bool) :
    v6FieldsLoop f [] n e = .ok (e == decide (n < 8)) := by
  cases f <;> simp [v6FieldsLoop, maxIPv6FieldsNum, pure, Except.pure] <;> rfl

theorem v6FieldsLoop_bad (f n : Nat) (e : Bool) (s : Bytes) (hs : s ≠ [])
    (h : (s.takeWhile hexP).length = 0 ∨ (s.takeWhile hexP).length > 4) :
    v6FieldsLoop (f + 1) s n e = .ok false := by
  simp [v6FieldsLoop, hs, trim_bad s n e h, bind, Except.bind, pure, Except.pure]

/-- One iteration of the golibs loop on a complete field `d` followed by `r`. -/
theorem v6FieldsLoop_sep (f n : Nat) (e : Bool) {d r : Bytes} (h : FieldOK d r) :
    v6FieldsLoop (f + 1) (d ++ r) n e =
      match sepOf r with
      | .eos => .ok (e == decide (n + 1 < 8))
      | .dot => .ok (decide (n ≤ 6) && (e == decide (n < 6)) && (parseIPv4Fields (d ++ r)).isSome)
      | .one t => v6FieldsLoop f t (n + 1) e
      | .two t => if e then .ok false else v6FieldsLoop f t (n + 1) true
      | .bad => .ok false := by
  have hne : d ++ r ≠ [] := by simp [h.ne_nil]
  simp only [v6FieldsLoop, hne, if_false, trim_field h, bind, Except.bind, pure, Except.pure]
  rcases r with _ | ⟨c, _ | ⟨c2, r2⟩⟩
  · cases (e == decide (n + 1 < 8)) <;> rfl
  · by_cases h46 : c = 46
    · subst h46
      cases hv : (decide (n ≤ 6) && (e == decide (n < 6)) && (parseIPv4Fields (d ++ [46])).isSome) <;>
        simp [sepOf]
    · by_cases h58 : c = 58 <;> simp [sepOf, h46, h58, countSep_cons]
  · by_cases h46 : c = 46
    · subst h46
      cases hv : (decide (n ≤ 6) && (e == decide (n < 6)) && (parseIPv4Fields (d ++ 46 :: c2 :: r2)).isSome) <;>
        simp [sepOf]
    · by_cases h58 : c = 58
      · by_cases hc2 : c2 = 58 <;> cases e <;>
          simp [sepOf, h58, hc2, countSep_cons, GoM.sliceFrom_two_cons, GoM.sliceFrom_one_cons]
      · simp [sepOf, h46, h58, countSep_cons]

/-! ### the simulation -/

/-- From any pair of related loop states — same remaining input `s ≠ ""`, golibs
`fieldsNum = n` ↔ netip `i = 2·n`, golibs `hasEllipsis` ↔ netip `ellipsis >= 0` — golibs
returns exactly "netip's loop and final checks succeed". -/
theorem sim (f : Nat) : ∀ (s : Bytes) (n : Nat) (ip : List Nat) (el : Option Nat),
    s ≠ [] → ip.length = 2 * n → n + f = 8 →
    v6FieldsLoop f s n el.isSome = .ok (accN (f + 1) ⟨s, ip, el⟩) := by
  induction f with
  | zero =>
    intro s n ip el hs hip hn
    have h16 : ¬ ip.length < 16 := by omega
    simp [v6FieldsLoop, accN, v6Loop, h16, fin6, hs, pure, Except.pure]
  | succ f ih =>
    intro s n ip el hs hip hn
    rcases field_cases s with hbad | ⟨d, r, rfl, h⟩
    · rw [v6FieldsLoop_bad f n _ s hs hbad, accN_bad _ s ip el (by omega) hbad]
    · obtain ⟨ip', hip', hacc⟩ := accN_sep (f + 1) n h ip el hip (by omega)
      rw [v6FieldsLoop_sep f n _ h, hacc]
      have hinv := sepOf_inv r
      cases hs : sepOf r with
      | eos | dot | bad => rfl
      | one t => rw [hs] at hinv; exact ih t (n + 1) ip' el hinv.2 hip' (by omega)
      | two t =>
        cases he : el.isSome with
        | true => rfl
        | false =>
          by_cases ht : t = []
          · simp [ht, v6FieldsLoop_nil]
          · simpa [ht] using ih t (n + 1) ip' (some _) ht hip' (by omega)

/-- `parseIPv6` after the zone has been split off: does the zone-free part parse? -/
def v6core (s : Bytes) : Bool :=
  let lead : Bool := match s with | 58 :: 58 :: _ => true | _ => false
  let s' := if lead then s.drop 2 else s
  if lead ∧ s' = [] then true
  else accN 9 ⟨s', [], if lead then some 0 else none⟩

theorem hasPrefix_cc (s : Bytes) :
    hasPrefix s [58, 58] = true ↔ ∃ t, s = 58 :: 58 :: t := by
  rw [hasPrefix_iff]
  exact ⟨fun ⟨t, h⟩ => ⟨t, h.symm⟩, fun ⟨t, h⟩ => ⟨t, h.symm⟩⟩

theorem lead_eq (s : Bytes) :
    (match s with | 58 :: 58 :: _ => true | _ => false) = hasPrefix s [58, 58] := by
  by_cases hp : hasPrefix s [58, 58] = true
  · obtain ⟨t, rfl⟩ := (hasPrefix_cc s).1 hp
    rw [hp]; rfl
  · have hp' : hasPrefix s [58, 58] = false := by simpa using hp
    rw [hp']
    split
    · exact absurd ((hasPrefix_cc _).2 ⟨_, rfl⟩) hp
    · rfl

theorem isValidIPv6String_eq_core (s : Bytes) : isValidIPv6String s = .ok (v6core s) := by
  unfold isValidIPv6String v6core
  rw [lead_eq]
  by_cases hp : hasPrefix s [58, 58] = true
  · obtain ⟨t, rfl⟩ := (hasPrefix_cc s).1 hp
    simp only [hp, if_true, GoM.sliceFrom_two_cons, bind, Except.bind, maxIPv6FieldsNum, List.drop_succ_cons,
      List.drop_zero, true_and]
    by_cases ht : t = []
    · subst ht; simp [v6FieldsLoop_nil]
    · simp only [ht, if_false]
      exact sim 8 t 0 [] (some 0) ht rfl rfl
  · simp only [hp, Bool.false_eq_true, if_false, bind, Except.bind, pure, Except.pure, maxIPv6FieldsNum, false_and]
    by_cases hs : s = []
    · subst hs
      rw [v6FieldsLoop_nil, accN_bad _ _ _ _ (by simp) (by simp)]
      simp
    · exact sim 8 s 0 [] none hs rfl rfl

/-! ### `parseIPv6` in terms of `v6core` and the zone split -/

/-- the part of `parseIPv6` after the zone split (a copy of the model text, tied by `rfl`) -/
def parseIPv6Split (sz : Option (Bytes × Bytes)) : Option Addr :=
  match sz with
  | none => none
  | some (s, zone) =>
    let lead : Bool := match s with | 58 :: 58 :: _ => true | _ => false
    let s' := if lead then s.drop 2 else s
    if lead ∧ s' = [] then some (.v6 (List.replicate 16 0) zone)
    else
      match v6Loop 9 { s := s', ip := [], ellipsis := if lead then some 0 else none } with
      | none => none
      | some st =>
        if st.s ≠ [] then none
        else
          let i := st.ip.length
          if i < 16 then
            match st.ellipsis with
            | none => none
            | some e => some (.v6 (st.ip.take e ++ List.replicate (16 - i) 0 ++ st.ip.drop e) zone)
          else if st.ellipsis.isSome then none
          else some (.v6 st.ip zone)

theorem parseIPv6_eq_split (input : Bytes) :
    parseIPv6 input = parseIPv6Split
      (if indexByte input 37 = -1 then some (input, [])
       else if input.drop ((indexByte input 37).toNat + 1) = [] then none
       else some (input.take (indexByte input 37).toNat, input.drop ((indexByte input 37).toNat + 1))) := rfl

/-- the zone split of `parseIPv6` on text without `%` -/
theorem parseIPv6_nozone_eq (core : Bytes) (h : 37 ∉ core) :
    parseIPv6 core = parseIPv6Split (some (core, [])) := by
  rw [parseIPv6_eq_split, indexByte_not_mem 37 core h]
  rfl

/-- the zone split of `parseIPv6` at the first `%`: the zone must not be empty -/
theorem parseIPv6_zone_eq (core z : Bytes) (h : 37 ∉ core) :
    parseIPv6 (core ++ 37 :: z) = if z = [] then none else parseIPv6Split (some (core, z)) := by
  rw [parseIPv6_eq_split, indexByte_append_sep 37 core z h]
  have hne : ¬ ((core.length : Int) = -1) := by omega
  simp only [hne, if_false, Int.toNat_natCast, drop_succ_append_cons, List.take_left]
  by_cases hz : z = [] <;> simp [hz, parseIPv6Split]

theorem parseIPv6Split_cases (s zone : Bytes) :
    (parseIPv6Split (some (s, zone)) = none ∧ v6core s = false) ∨
    ∃ b, parseIPv6Split (some (s, zone)) = some (.v6 b zone) ∧ v6core s = true := by
  unfold parseIPv6Split v6core
  simp only []
  generalize (match s with | 58 :: 58 :: _ => true | _ => false) = lead
  by_cases h1 : lead = true ∧ (if lead = true then s.drop 2 else s) = []
  · exact Or.inr ⟨_, by rw [if_pos h1], by rw [if_pos h1]⟩
  · rw [if_neg h1, if_neg h1]
    simp only [accN]
    cases v6Loop 9 { s := if lead = true then s.drop 2 else s, ip := [], ellipsis := if lead = true then some 0 else none } with
    | none => exact Or.inl ⟨rfl, rfl⟩
    | some st =>
      simp only [fin6]
      by_cases hs : st.s = []
      · by_cases hl : st.ip.length < 16
        · cases he : st.ellipsis with
          | none => exact Or.inl (by simp [hs, hl])
          | some e => exact Or.inr ⟨_, by rw [if_neg (fun h => h hs), if_pos hl], by simp [hs, hl]⟩
        · cases he : st.ellipsis with
          | none => exact Or.inr ⟨_, by rw [if_neg (fun h => h hs), if_neg hl]; rfl, by simp [hs, hl]⟩
          | some e => exact Or.inl (by simp [hs, hl])
      · exact Or.inl (by simp [hs])

theorem parseIPv6Split_isSome (s zone : Bytes) :
    (parseIPv6Split (some (s, zone))).isSome = v6core s := by
  rcases parseIPv6Split_cases s zone with ⟨h1, h2⟩ | ⟨b, h1, h2⟩ <;> rw [h1, h2] <;> rfl

theorem parseIPv6Split_is6 (sz : Option (Bytes × Bytes)) (a : Addr) (h : parseIPv6Split sz = some a) :
    a.is6 = true := by
  match sz with
  | none => cases h
  | some (s, zone) =>
    rcases parseIPv6Split_cases s zone with ⟨h1, _⟩ | ⟨b, h1, _⟩
    · rw [h1] at h; cases h
    · rw [h1] at h; cases h; rfl

end GolibsVerif.C02
