/-
C18 — observation functions on traces of the fine-grained RefreshWorker system
(`Model/C18Fine.lean`) and the helper lemmas for `Theorems/C18Fine.lean`: the transitions
as a relation (`FStep`), generic "balance" inductions over ALL action sequences, the
reachable-state invariant, the ranking of the loop goroutine after `close(done)`.
-/
import GolibsVerif.Model.C18Fine


namespace GolibsVerif.C18
open Fine

/-- a scheduled refresh: `w.refr.Refresh` entered by the loop goroutine -/
def isLoopRefreshCall : FEv → Bool
  | .refreshCall .loop _ => true
  | _ => false

/-- the final refresh: `w.refr.Refresh` entered from `Shutdown` -/
def isFinalRefreshCall : FEv → Bool
  | .refreshCall .shutdown _ => true
  | _ => false

def isAfterEv : FEv → Bool
  | .after _ _ => true
  | _ => false

/-- a timer channel becomes ready: the pending timer delivers, or `After` returned a channel
that is ready at once -/
def isFired : FEv → Bool
  | .fire => true
  | .after _ imm => imm
  | _ => false

def isRecheckOpen : FEv → Bool
  | .recheckOpen => true
  | _ => false

def isRecheckClosed : FEv → Bool
  | .recheckClosed => true
  | _ => false

/-- a fired timer is used up: by a scheduled refresh, or by a re-check that saw `done` closed -/
def isRefreshOrStop : FEv → Bool
  | .refreshCall .loop _ => true
  | .recheckClosed => true
  | _ => false

def isCloseDone : FEv → Bool
  | .closeDone => true
  | _ => false

def isShutRet : FEv → Bool
  | .shutRet _ => true
  | _ => false

def isUntilCall : FEv → Bool
  | .untilCall => true
  | _ => false

def isLoopRefreshRet : FEv → Bool
  | .refreshRet .loop _ => true
  | _ => false

/-- events of the loop goroutine: its own statements and the returns of its callbacks -/
def isLoopEv : FEv → Bool
  | .untilCall | .untilRet _ | .after _ _ | .selTimer | .selDone | .recheckOpen | .recheckClosed => true
  | .newCall .loop | .newRet .loop | .refreshCall .loop _ | .refreshRet .loop _ => true
  | .handleCall _ | .handleRet => true
  | _ => false

def loopErrOf : FEv → Option Nat
  | .refreshRet .loop e => if e ≠ 0 then some e else none
  | _ => none

def handledOf : FEv → Option Nat
  | .handleCall e => some e
  | _ => none

def untilValOf : FEv → Option Nat
  | .untilRet d => some d
  | _ => none

def afterValOf : FEv → Option Nat
  | .after d _ => some d
  | _ => none

def finalRetOf : FEv → Option Nat
  | .refreshRet .shutdown e => some e
  | _ => none

def shutRetOf : FEv → Option Nat
  | .shutRet e => some e
  | _ => none

/-- non-nil errors returned by scheduled refreshes, in order -/
def loopErrs (tr : List FEv) : List Nat := tr.filterMap loopErrOf

def handledErrs (tr : List FEv) : List Nat := tr.filterMap handledOf

def untilVals (tr : List FEv) : List Nat := tr.filterMap untilValOf

def afterVals (tr : List FEv) : List Nat := tr.filterMap afterValOf

def finalRets (tr : List FEv) : List Nat := tr.filterMap finalRetOf

def shutRets (tr : List FEv) : List Nat := tr.filterMap shutRetOf

/-- the part of a trace after the first event satisfying `p` (empty if there is none) -/
def afterFirst (p : FEv → Bool) (tr : List FEv) : List FEv := (tr.dropWhile (fun e => !p e)).drop 1

/-- The loop goroutine is inside the window: past a re-check that saw `done` open, `Refresh`
not entered yet. -/
def winL : LPc → Nat
  | .newCall => 1
  | .inNew => 1
  | .refreshCall => 1
  | .untilCall => 0
  | .inUntil => 0
  | .afterCall _ => 0
  | .select => 0
  | .recheck => 0
  | .inRefresh => 0
  | .gotErr _ => 0
  | .inHandle => 0
  | .exited => 0

def win (s : FSt) : Nat := winL s.lpc

def inWindow (s : FSt) : Prop := win s = 1

def pendTL : LPc → Nat
  | .select => 1
  | .recheck => 1
  | .newCall => 1
  | .inNew => 1
  | .refreshCall => 1
  | .exited => 1
  | .untilCall => 0
  | .inUntil => 0
  | .afterCall _ => 0
  | .inRefresh => 0
  | .gotErr _ => 0
  | .inHandle => 0

/-- `1` when the last armed timer has not led to a refresh (yet): pending, being processed, or
abandoned because the loop returned -/
def pendT (s : FSt) : Nat := pendTL s.lpc

def pendRL : LPc → Nat
  | .recheck => 1
  | .newCall => 1
  | .inNew => 1
  | .refreshCall => 1
  | .select => 0
  | .exited => 0
  | .untilCall => 0
  | .inUntil => 0
  | .afterCall _ => 0
  | .inRefresh => 0
  | .gotErr _ => 0
  | .inHandle => 0

/-- fired timers not used up yet: a value sitting in the channel, plus the one the loop has
received and is acting upon -/
def pendR (s : FSt) : Nat := (if s.ready then 1 else 0) + pendRL s.lpc

def pendUL : LPc → Nat
  | .untilCall => 1
  | .gotErr _ => 1
  | .inHandle => 1
  | .recheck => 0
  | .newCall => 0
  | .inNew => 0
  | .refreshCall => 0
  | .select => 0
  | .exited => 0
  | .inUntil => 0
  | .afterCall _ => 0
  | .inRefresh => 0

/-- `1` while a consultation of the schedule is due (initially, and after each completed
scheduled refresh until `UntilNext` is called) -/
def pendU (s : FSt) : Nat := pendUL s.lpc

def pendEL : LPc → List Nat
  | .gotErr e => if e ≠ 0 then [e] else []
  | .untilCall => []
  | .inHandle => []
  | .recheck => []
  | .newCall => []
  | .inNew => []
  | .refreshCall => []
  | .select => []
  | .exited => []
  | .inUntil => []
  | .afterCall _ => []
  | .inRefresh => []

/-- the refresh error that is about to be handed to the error handler -/
def pendE (s : FSt) : List Nat := pendEL s.lpc

def pendDL : LPc → List Nat
  | .afterCall d => [d]
  | .gotErr _ => []
  | .untilCall => []
  | .inHandle => []
  | .recheck => []
  | .newCall => []
  | .inNew => []
  | .refreshCall => []
  | .select => []
  | .exited => []
  | .inUntil => []
  | .inRefresh => []

/-- the schedule answer that is about to be handed to `clock.After` -/
def pendD (s : FSt) : List Nat := pendDL s.lpc

/-- how many more events the loop goroutine can produce once `done` is closed -/
def rank : LPc → Nat
  | .exited => 0
  | .recheck => 1
  | .select => 2
  | .afterCall _ => 3
  | .inUntil => 4
  | .untilCall => 5
  | .inHandle => 6
  | .gotErr _ => 7
  | .inRefresh => 8
  | .refreshCall => 9
  | .inNew => 10
  | .newCall => 11

/-- Reachable states: a value can sit in the timer channel only while the loop is at the
outer select (or gone); `done` is closed exactly when `Shutdown` got past its first
statement. -/
def FInv (s : FSt) : Prop :=
  ((s.lpc ≠ .select ∧ s.lpc ≠ .exited) → s.ready = false) ∧
  (s.closed = true ↔ (s.spc ≠ .idle ∧ s.spc ≠ .closeDone))

/-- The transitions of the system, on states written out as `⟨lpc, spc, closed, ready⟩` so that
every observation of the two states and of the event computes.  The outer `select` may take any
case that is ready; `gotErr (e + 1)` is a non-nil error. -/
inductive FStep : Bool → FSt → FSt → Option FEv → Prop
  | stutter : FStep ros s s none
  | untilCall : FStep ros ⟨.untilCall, sp, c, r⟩ ⟨.inUntil, sp, c, r⟩ (some .untilCall)
  | untilRet (d : Nat) : FStep ros ⟨.inUntil, sp, c, r⟩ ⟨.afterCall d, sp, c, r⟩ (some (.untilRet d))
  | after (d : Nat) (b : Bool) : FStep ros ⟨.afterCall d, sp, c, r⟩ ⟨.select, sp, c, b⟩ (some (.after d b))
  | fire : FStep ros ⟨.select, sp, c, false⟩ ⟨.select, sp, c, true⟩ (some .fire)
  | selDone : FStep ros ⟨.select, sp, true, r⟩ ⟨.exited, sp, true, r⟩ (some .selDone)
  | selTimer : FStep ros ⟨.select, sp, c, true⟩ ⟨.recheck, sp, c, false⟩ (some .selTimer)
  | recheckClosed : FStep ros ⟨.recheck, sp, true, r⟩ ⟨.exited, sp, true, r⟩ (some .recheckClosed)
  | recheckOpen : FStep ros ⟨.recheck, sp, false, r⟩ ⟨.newCall, sp, false, r⟩ (some .recheckOpen)
  | newCallL : FStep ros ⟨.newCall, sp, c, r⟩ ⟨.inNew, sp, c, r⟩ (some (.newCall .loop))
  | newRetL : FStep ros ⟨.inNew, sp, c, r⟩ ⟨.refreshCall, sp, c, r⟩ (some (.newRet .loop))
  | refreshCallL :
    FStep ros ⟨.refreshCall, sp, c, r⟩ ⟨.inRefresh, sp, c, r⟩ (some (.refreshCall .loop (.cons .start)))
  | refreshRetL (e : Nat) :
    FStep ros ⟨.inRefresh, sp, c, r⟩ ⟨.gotErr e, sp, c, r⟩ (some (.refreshRet .loop e))
  | errNil : FStep ros ⟨.gotErr 0, sp, c, r⟩ ⟨.untilCall, sp, c, r⟩ none
  | handleCall (e : Nat) :
    FStep ros ⟨.gotErr (e + 1), sp, c, r⟩ ⟨.inHandle, sp, c, r⟩ (some (.handleCall (e + 1)))
  | handleRet : FStep ros ⟨.inHandle, sp, c, r⟩ ⟨.untilCall, sp, c, r⟩ (some .handleRet)
  | shutCall : FStep ros ⟨l, .idle, c, r⟩ ⟨l, .closeDone, c, r⟩ (some .shutCall)
  | closeDone : FStep ros ⟨l, .closeDone, c, r⟩ ⟨l, .branch, true, r⟩ (some .closeDone)
  | noFinal : FStep false ⟨l, .branch, c, r⟩ ⟨l, .returned 0, c, r⟩ (some (.shutRet 0))
  | final : FStep true ⟨l, .branch, c, r⟩ ⟨l, .newCall, c, r⟩ none
  | newCallS : FStep ros ⟨l, .newCall, c, r⟩ ⟨l, .inNew, c, r⟩ (some (.newCall .shutdown))
  | newRetS : FStep ros ⟨l, .inNew, c, r⟩ ⟨l, .refreshCall, c, r⟩ (some (.newRet .shutdown))
  | refreshCallS :
    FStep ros ⟨l, .refreshCall, c, r⟩ ⟨l, .inRefresh, c, r⟩
      (some (.refreshCall .shutdown (.cons .shutdown)))
  | refreshRetS (e : Nat) :
    FStep ros ⟨l, .inRefresh, c, r⟩ ⟨l, .gotErr e, c, r⟩ (some (.refreshRet .shutdown e))
  | shutRet (e : Nat) : FStep ros ⟨l, .gotErr e, c, r⟩ ⟨l, .returned e, c, r⟩ (some (.shutRet e))

theorem fstep_spec (ros : Bool) (s : FSt) (a : Act) : FStep ros s (fstep ros s a).1 (fstep ros s a).2 := by
  obtain ⟨l, sp, c, r⟩ := s
  cases a with
  | loop b =>
    cases l with
    | select => cases c <;> cases r <;> cases b <;> constructor
    | recheck => cases c <;> constructor
    | gotErr e => cases e <;> constructor
    | _ => constructor
  | shut =>
    cases sp with
    | branch => cases ros <;> constructor
    | _ => constructor
  | tick =>
    cases l with
    | select => cases r <;> constructor
    | _ => constructor
  | callShutdown => cases sp <;> constructor
  | untilRet d | handleRet => cases l <;> constructor
  | newRet who | refreshRet who e =>
    cases who with
    | loop => cases l <;> constructor
    | shutdown => cases sp <;> constructor

set_option hygiene false in
/-- `step_cases s a => tac`: split on the action and on the program counter it looks at, then
run `tac` in every case (`hpc : s.lpc = …` or `hpc : s.spc = …` is in the context). -/
macro "step_cases " s:ident a:ident " => " t:tacticSeq : tactic =>
  `(tactic|
    (cases $a:ident with
     | loop b => cases hpc : ($s:ident).lpc <;> ($t)
     | shut => cases hpc : ($s:ident).spc <;> ($t)
     | callShutdown => cases hpc : ($s:ident).spc <;> ($t)
     | tick => cases hpc : ($s:ident).lpc <;> ($t)
     | untilRet d => cases hpc : ($s:ident).lpc <;> ($t)
     | newRet c =>
       cases c with
       | loop => cases hpc : ($s:ident).lpc <;> ($t)
       | shutdown => cases hpc : ($s:ident).spc <;> ($t)
     | refreshRet c e =>
       cases c with
       | loop => cases hpc : ($s:ident).lpc <;> ($t)
       | shutdown => cases hpc : ($s:ident).spc <;> ($t)
     | handleRet => cases hpc : ($s:ident).lpc <;> ($t)))

theorem frun_append (ros : Bool) (xs ys : List Act) :
    ∀ s, frun ros s (xs ++ ys) = frun ros (frun ros s xs) ys := by
  induction xs with
  | nil => intro s; rfl
  | cons a as ih => intro s; simp [frun, ih]

theorem ftrace_append (ros : Bool) (xs ys : List Act) :
    ∀ s, ftrace ros s (xs ++ ys) = ftrace ros s xs ++ ftrace ros (frun ros s xs) ys := by
  induction xs with
  | nil => intro s; rfl
  | cons a as ih => intro s; simp [frun, ftrace, ih]

def Stable (ros : Bool) (I : FSt → Prop) : Prop := ∀ {s s' e}, FStep ros s s' e → I s → I s'

theorem stable_true (ros : Bool) : Stable ros fun _ => True := fun _ _ => trivial

/-- `frun`/`ftrace` as a relation: a run from `s` ends in `s'` with trace `tr` -/
inductive FRun (ros : Bool) : FSt → FSt → List FEv → Prop
  | nil : FRun ros s s []
  | cons : FStep ros s s₁ e → FRun ros s₁ s' tr → FRun ros s s' (e.toList ++ tr)

theorem frun_spec (ros : Bool) : ∀ acts s, FRun ros s (frun ros s acts) (ftrace ros s acts)
  | [], _ => .nil
  | a :: as, s => .cons (fstep_spec ros s a) (frun_spec ros as _)

theorem run_inv {ros I s s' tr} (hI : Stable ros I) (hr : FRun ros s s' tr) (hs : I s) : I s' := by
  induction hr with
  | nil => exact hs
  | cons h _ ih => exact ih (hI h hs)

/-- a per-step balance `#p + m(after) = #q + m(before)` sums up along every run -/
theorem run_balance {ros I s s' tr} (hI : Stable ros I) (p q : FEv → Bool) (m : FSt → Nat)
    (h : ∀ {s s' e}, FStep ros s s' e → I s → e.toList.countP p + m s' = e.toList.countP q + m s)
    (hr : FRun ros s s' tr) (hs : I s) : tr.countP p + m s' = tr.countP q + m s := by
  induction hr with
  | nil => rfl
  | cons h' _ ih =>
    have h1 := h h' hs
    have h2 := ih (hI h' hs)
    rw [List.countP_append, List.countP_append]
    omega

theorem run_le {ros I s s' tr} (hI : Stable ros I) (p : FEv → Bool) (m : FSt → Nat)
    (h : ∀ {s s' e}, FStep ros s s' e → I s → e.toList.countP p + m s' ≤ m s)
    (hr : FRun ros s s' tr) (hs : I s) : tr.countP p + m s' ≤ m s := by
  induction hr with
  | nil => exact Nat.le_of_eq (Nat.zero_add _)
  | cons h' _ ih =>
    have h1 := h h' hs
    have h2 := ih (hI h' hs)
    rw [List.countP_append]
    omega

/-- list version: what is produced (`R`) is consumed (`H`) in order, with `pend` in flight -/
theorem run_balance_list {α : Type} {ros s s' tr} (H R : FEv → Option α) (pend : FSt → List α)
    (h : ∀ {s s' e}, FStep ros s s' e → pend s ++ e.toList.filterMap R = e.toList.filterMap H ++ pend s')
    (hr : FRun ros s s' tr) : pend s ++ tr.filterMap R = tr.filterMap H ++ pend s' := by
  induction hr with
  | nil => exact List.append_nil _
  | cons h' _ ih =>
    rw [List.filterMap_append, List.filterMap_append, ← List.append_assoc, h h', List.append_assoc, ih,
      List.append_assoc]

theorem run_all {ros I s s' tr} (hI : Stable ros I) (P : FEv → Prop)
    (h : ∀ {s s' e}, FStep ros s s' (some e) → I s → P e) (hr : FRun ros s s' tr) (hs : I s) :
    ∀ e ∈ tr, P e := by
  induction hr with
  | nil => exact fun _ he => nomatch he
  | @cons _ _ e' _ _ h' _ ih =>
    intro e he
    rcases List.mem_append.1 he with he | he
    · obtain rfl : e' = some e := by simpa using he
      exact h h' hs
    · exact ih (hI h' hs) e he

/-- The part of a run's trace after the first event satisfying `p` is itself the trace of a
run, started in the state right after the transition that emitted that event. -/
theorem afterFirst_run {ros I s s' tr} (hI : Stable ros I) (p : FEv → Bool) (hr : FRun ros s s' tr) (hs : I s) :
    afterFirst p tr = [] ∨
    ∃ s0 s1 e, I s0 ∧ FStep ros s0 s1 (some e) ∧ p e = true ∧ FRun ros s1 s' (afterFirst p tr) := by
  induction hr with
  | nil => exact .inl rfl
  | @cons s s₁ e _ tr h' hr' ih =>
    cases e with
    | none => exact ih (hI h' hs)
    | some e =>
      by_cases hp : p e = true
      · exact .inr ⟨s, s₁, e, hs, h', hp, by simpa [afterFirst, hp] using hr'⟩
      · have : afterFirst p ((some e).toList ++ tr) = afterFirst p tr := by simp [afterFirst, hp]
        rw [this]
        exact ih (hI h' hs)

theorem finv_init : FInv finit := by simp [FInv, finit]

theorem finv_stable (ros : Bool) : Stable ros FInv := by
  intro s s' e h hi
  cases h <;> simp_all [FInv]

theorem finv_run (ros : Bool) (acts : List Act) : FInv (frun ros finit acts) :=
  run_inv (finv_stable ros) (frun_spec ros acts _) finv_init

theorem pendT_step {ros s s' e} (h : FStep ros s s' e) :
    e.toList.countP isLoopRefreshCall + pendT s' = e.toList.countP isAfterEv + pendT s := by
  cases h <;> rfl

/-- the invariant is needed where the loop's share of `pendR` changes: the channel is empty
there -/
theorem pendR_step {ros s s' e} (h : FStep ros s s' e) (hi : FInv s) :
    e.toList.countP isRefreshOrStop + pendR s' = e.toList.countP isFired + pendR s := by
  cases h with
  | after d b => cases b <;> cases hi.1 ⟨nofun, nofun⟩ <;> rfl
  | recheckClosed | refreshCallL => cases hi.1 ⟨nofun, nofun⟩; rfl
  | _ => rfl

theorem win_step {ros s s' e} (h : FStep ros s s' e) :
    e.toList.countP isLoopRefreshCall + win s' = e.toList.countP isRecheckOpen + win s := by
  cases h <;> rfl

theorem pendU_step {ros s s' e} (h : FStep ros s s' e) :
    e.toList.countP isUntilCall + pendU s' = e.toList.countP isLoopRefreshRet + pendU s := by
  cases h <;> rfl

theorem pendE_step {ros s s' e} (h : FStep ros s s' e) :
    pendE s ++ e.toList.filterMap loopErrOf = e.toList.filterMap handledOf ++ pendE s' := by
  cases h with
  | refreshRetL e => cases e <;> rfl
  -- a transition that leaves `pendE` alone and emits nothing counted, or one whose two sides compute
  | _ => first | exact List.append_nil _ | rfl

theorem pendD_step {ros s s' e} (h : FStep ros s s' e) :
    pendD s ++ e.toList.filterMap untilValOf = e.toList.filterMap afterValOf ++ pendD s' := by
  cases h <;> first | exact List.append_nil _ | rfl

theorem closed_stable (ros : Bool) : Stable ros fun s => s.closed = true := by
  intro s s' e h hc
  cases h with
  | closeDone => rfl
  | _ => exact hc

theorem closeDone_step {ros s s' e} (h : FStep ros s s' (some e)) (he : isCloseDone e = true) :
    s'.closed = true ∧ s'.lpc = s.lpc := by
  cases h <;> cases he; exact ⟨rfl, rfl⟩

/-- `Shutdown` returns only after `done` was closed -/
theorem shutRet_closed {ros s s' e} (h : FStep ros s s' (some e)) (he : isShutRet e = true) (hi : FInv s) :
    s'.closed = true := by
  cases h <;> cases he <;> simp_all [FInv]

theorem recheckClosed_step {ros s s' e} (h : FStep ros s s' (some e)) (he : isRecheckClosed e = true) :
    s'.closed = true ∧ s'.lpc = .exited := by
  cases h <;> cases he; exact ⟨rfl, rfl⟩

theorem closed_recheck_step {ros s s' e} (h : FStep ros s s' (some e)) (hc : s.closed = true) :
    isRecheckOpen e = false := by
  cases h with
  | recheckOpen => exact absurd hc Bool.false_ne_true
  | _ => rfl

/-- with `done` closed, every event of the loop goroutine lowers its rank -/
theorem closed_rank_step {ros s s' e} (h : FStep ros s s' e) (hc : s.closed = true) :
    e.toList.countP isLoopEv + rank s'.lpc ≤ rank s.lpc := by
  cases h with
  | recheckOpen => exact absurd hc Bool.false_ne_true
  | _ => simp [rank, isLoopEv]

theorem win_le_one (s : FSt) : win s ≤ 1 := by
  simp only [win]; cases s.lpc <;> simp [winL]

theorem rank_le (l : LPc) : rank l ≤ 11 := by
  cases l <;> simp [rank]

theorem after_close {ros s s' tr} (hr : FRun ros s s' tr) (hc : s.closed = true) :
    tr.countP isLoopRefreshCall ≤ win s ∧ tr.countP isRecheckOpen = 0 ∧ tr.countP isLoopEv ≤ rank s.lpc := by
  have hw := run_balance (stable_true ros) isLoopRefreshCall isRecheckOpen win (fun h _ => win_step h) hr trivial
  have h0 : tr.countP isRecheckOpen = 0 :=
    List.countP_eq_zero.2 fun e he => by
      simp [run_all (closed_stable ros) (isRecheckOpen · = false) closed_recheck_step hr hc e he]
  have hk := run_le (closed_stable ros) isLoopEv (fun s => rank s.lpc) closed_rank_step hr hc
  omega

theorem closed_loop_not_stuck (s : FSt) (h : s.closed = true) :
    s.lpc = .exited ∨ s.lpc = .inUntil ∨ s.lpc = .inNew ∨ s.lpc = .inRefresh ∨ s.lpc = .inHandle ∨
      loopRunnable s = true := by
  cases hpc : s.lpc <;> simp [loopRunnable, hpc, h]

/-- what the trace must show when the Shutdown goroutine is at a given point:
(number of `close(done)`, number of final `Refresh` calls, errors the final refresh returned,
what `Shutdown` returned) -/
def finalObs (ros : Bool) : SPc → Nat × Nat × List Nat × List Nat
  | .idle => (0, 0, [], [])
  | .closeDone => (0, 0, [], [])
  | .branch => (1, 0, [], [])
  | .newCall => (1, 0, [], [])
  | .inNew => (1, 0, [], [])
  | .refreshCall => (1, 0, [], [])
  | .inRefresh => (1, 1, [], [])
  | .gotErr e => (1, 1, [e], [])
  | .returned e => if ros then (1, 1, [e], [e]) else (1, 0, [], [0])

/-- the final refresh is only attempted with `RefreshOnShutdown` -/
def finalOk (ros : Bool) : SPc → Prop
  | .newCall | .inNew | .refreshCall | .inRefresh | .gotErr _ => ros = true
  | .returned e => ros = true ∨ e = 0
  | _ => True

theorem finalOk_stable (ros : Bool) : Stable ros fun s => finalOk ros s.spc := by
  intro s s' e h ok
  cases h <;> simp_all [finalOk]

def FinalInv (ros : Bool) (s : FSt) (tr : List FEv) : Prop :=
  (tr.countP isCloseDone = (finalObs ros s.spc).1 ∧
   tr.countP isFinalRefreshCall = (finalObs ros s.spc).2.1 ∧
   finalRets tr = (finalObs ros s.spc).2.2.1 ∧
   shutRets tr = (finalObs ros s.spc).2.2.2) ∧
  finalOk ros s.spc

theorem finalInv_step {ros s s' e} (tr : List FEv) (h : FStep ros s s' e) (hi : FinalInv ros s tr) :
    FinalInv ros s' (tr ++ e.toList) := by
  obtain ⟨⟨c1, c2, c3, c4⟩, ok⟩ := hi
  refine ⟨?_, finalOk_stable ros h ok⟩
  simp only [finalRets, shutRets, List.countP_append, List.filterMap_append] at c3 c4 ⊢
  rw [c1, c2, c3, c4]
  cases h with
  | shutRet e =>
    obtain rfl : ros = true := ok
    exact ⟨rfl, rfl, rfl, rfl⟩
  | _ => first | exact ⟨rfl, rfl, List.append_nil _, List.append_nil _⟩ | exact ⟨rfl, rfl, rfl, rfl⟩

theorem finalInv_run {ros s s' tr'} (hr : FRun ros s s' tr') :
    ∀ tr, FinalInv ros s tr → FinalInv ros s' (tr ++ tr') := by
  induction hr with
  | nil => exact fun tr hj => by rwa [List.append_nil]
  | cons h _ ih => exact fun tr hj => by rw [← List.append_assoc]; exact ih _ (finalInv_step tr h hj)

theorem isRefreshOrStop_of_isLoopRefreshCall : ∀ e, isLoopRefreshCall e = true → isRefreshOrStop e = true
  | .refreshCall .loop _, _ => rfl

theorem pendT_le_one (s : FSt) : pendT s ≤ 1 := by
  simp only [pendT]; cases s.lpc <;> simp [pendTL]

theorem pendE_len (s : FSt) : (pendE s).length ≤ 1 := by
  simp only [pendE]; cases s.lpc <;> simp [pendEL]; split <;> simp

/-- the context each goroutine hands to the context constructor -/
def callerCtx : Caller → Ctx
  | .loop => .start
  | .shutdown => .shutdown

theorem refreshCall_ctx_step {ros s s' c ctx} (h : FStep ros s s' (some (.refreshCall c ctx))) :
    ctx = .cons (callerCtx c) := by
  cases h <;> rfl

end GolibsVerif.C18
