/-
Lemmas for C10, the lock discipline: soundness of the checker with respect to the
path semantics, and the invariant of the thread system.
-/
import GolibsVerif.Model.C10IR

namespace GolibsVerif.C10.Lock

/-- an event statement hands the state after the event to its continuation, so its verdict is
monotone in the continuation -/
theorem contK_mono {k1 k2 : St → Bool} (hk : ∀ s', k1 s' = true → k2 s' = true) (o : Option St) :
    (match o with | some s' => k1 s' | none => false) = true →
    (match o with | some s' => k2 s' | none => false) = true := by
  cases o with
  | none => exact id
  | some s' => exact hk s'

mutual
theorem anaS_mono : ∀ (x : Stmt) (kr1 kr2 k1 k2 : St → Bool) (s : St),
    (∀ s', kr1 s' = true → kr2 s' = true) → (∀ s', k1 s' = true → k2 s' = true) →
    anaS x kr1 k1 s = true → anaS x kr2 k2 s = true
  | .lock, _, _, _, _, s, _, hk, h => contK_mono hk (s.step .lock) h
  | .unlock, _, _, _, _, s, _, hk, h => contK_mono hk (s.step .unlock) h
  | .acc a l, _, _, _, _, s, _, hk, h => contK_mono hk (s.step (.acc a l)) h
  | .publish, _, _, _, _, s, _, hk, h => contK_mono hk (s.step .publish) h
  | .callOnDelete, _, _, _, _, s, _, hk, h => contK_mono hk (s.step .callOnDelete) h
  | .ret, kr1, kr2, k1, k2, s, hr, hk, h => by
    simp only [anaS] at h ⊢; exact hr s h
  | .ite c t e, kr1, kr2, k1, k2, s, hr, hk, h => by
    simp only [anaS] at h ⊢
    refine anaB_mono c _ _ _ _ s hr ?_ h
    intro s' hs'
    simp only [Bool.and_eq_true] at hs' ⊢
    exact ⟨anaB_mono t kr1 kr2 k1 k2 s' hr hk hs'.1, anaB_mono e kr1 kr2 k1 k2 s' hr hk hs'.2⟩
  | .loop c b, kr1, kr2, k1, k2, s, hr, hk, h => by
    simp only [anaS] at h ⊢
    refine anaB_mono c _ _ _ _ s hr ?_ h
    intro s' hs'
    simp only [Bool.and_eq_true] at hs' ⊢
    exact ⟨anaB_mono b kr1 kr2 _ _ s' hr (fun _ h => h) hs'.1, hk s' hs'.2⟩
  | .call _ b, kr1, kr2, k1, k2, s, hr, hk, h => by
    simp only [anaS] at h ⊢
    exact anaB_mono b k1 k2 k1 k2 s hk hk h
theorem anaB_mono : ∀ (b : List Stmt) (kr1 kr2 k1 k2 : St → Bool) (s : St),
    (∀ s', kr1 s' = true → kr2 s' = true) → (∀ s', k1 s' = true → k2 s' = true) →
    anaB b kr1 k1 s = true → anaB b kr2 k2 s = true
  | [], kr1, kr2, k1, k2, s, hr, hk, h => by
    simp only [anaB] at h ⊢; exact hk s h
  | x :: r, kr1, kr2, k1, k2, s, hr, hk, h => by
    simp only [anaB] at h ⊢
    exact anaS_mono x _ _ _ _ s hr (fun s' hs' => anaB_mono r kr1 kr2 k1 k2 s' hr hk hs') h
end

theorem anaB_mono_k (b : List Stmt) (kr k1 k2 : St → Bool) (s : St)
    (hk : ∀ s', k1 s' = true → k2 s' = true) (h : anaB b kr k1 s = true) : anaB b kr k2 s = true :=
  anaB_mono b kr kr k1 k2 s (fun _ h => h) hk h

theorem anaB_append (a b : List Stmt) (kr k : St → Bool) (s : St) :
    anaB (a ++ b) kr k s = anaB a kr (fun s' => anaB b kr k s') s := by
  induction a generalizing s k with
  | nil => simp [anaB]
  | cons x r ih =>
    simp only [List.cons_append, anaB]
    congr 1
    funext s'
    exact ih k s'

/-- The machines of this development (`walk`, `walkH`, `mrun`, `grun`) all run a partial step
function over a list; such a run over `p ++ q` is the run over `p` followed by the run over `q`. -/
theorem run_append {σ α : Type} {run : σ → List α → Option σ} {step : σ → α → Option σ}
    (hnil : ∀ s, run s [] = some s)
    (hcons : ∀ s e p, run s (e :: p) = (step s e).bind fun s' => run s' p) (s : σ) (p q : List α) :
    run s (p ++ q) = (run s p).bind fun s' => run s' q := by
  induction p generalizing s with
  | nil => simp [hnil]
  | cons e p ih =>
    simp only [List.cons_append, hcons]
    cases step s e with
    | none => rfl
    | some s1 => exact ih s1

theorem walk_append (s : St) (p q : List Ev) :
    walk s (p ++ q) = (walk s p).bind fun s' => walk s' q :=
  run_append (fun _ => rfl) (fun _ _ _ => rfl) s p q

/-- an accepted `if`: condition, then a branch `b` that is accepted whenever both branches are -/
theorem anaB_ite {c t e b r : List Stmt} {kr k : St → Bool} {s : St}
    (hb : ∀ k' s1, (anaB t kr k' s1 && anaB e kr k' s1) = true → anaB b kr k' s1 = true)
    (h : anaB (.ite c t e :: r) kr k s = true) : anaB (c ++ (b ++ r)) kr k s = true := by
  simp only [anaB, anaS] at h
  rw [anaB_append]
  refine anaB_mono_k _ _ _ _ s (fun s1 hs1 => ?_) h
  rw [anaB_append]
  exact hb _ s1 hs1

/-- Every path through `b`, from a state the checker accepts with continuations `kr`, `k`: all
events are permitted; a path that ends in a `return` ends in a state satisfying `kr`; a path that
falls off the end of `b` ends in a state satisfying `k`. -/
theorem exec_sound {b : List Stmt} {p : List Ev} {o : Bool} (hx : Exec b p o) :
    ∀ (kr k : St → Bool) (s : St), anaB b kr k s = true →
      ∃ s', walk s p = some s' ∧ (if o then kr s' = true else k s' = true) := by
  induction hx with
  | nil =>
    intro kr k s h
    exact ⟨s, rfl, by simpa [anaB] using h⟩
  | lock _ ih | unlock _ ih | acc _ ih | publish _ ih | callOnDelete _ ih =>
    intro kr k s h
    simp only [anaB, anaS] at h
    split at h
    · rename_i s1 hs1
      obtain ⟨s', hw, hk⟩ := ih kr k s1 h
      exact ⟨s', by simp [walk, hs1, hw], hk⟩
    · cases h
  | ret =>
    intro kr k s h
    simp only [anaB, anaS] at h
    exact ⟨s, rfl, by simpa using h⟩
  | iteThen _ ih =>
    intro kr k s h
    exact ih kr k s (anaB_ite (fun _ _ h => (Bool.and_eq_true_iff.mp h).1) h)
  | iteElse _ ih =>
    intro kr k s h
    exact ih kr k s (anaB_ite (fun _ _ h => (Bool.and_eq_true_iff.mp h).2) h)
  | loopExit _ ih =>
    intro kr k s h
    apply ih kr k s
    simp only [anaB, anaS] at h
    rw [anaB_append]
    refine anaB_mono_k _ _ _ _ s ?_ h
    intro s1 hs1
    simp only [Bool.and_eq_true] at hs1
    exact hs1.2
  | loopIter _ ih =>
    intro kr k s h
    apply ih kr k s
    have h0 := h
    simp only [anaB, anaS] at h
    rw [anaB_append]
    refine anaB_mono_k _ _ _ _ s ?_ h
    intro s1 hs1
    simp only [Bool.and_eq_true] at hs1
    rw [anaB_append]
    refine anaB_mono_k _ _ _ _ s1 ?_ hs1.1
    intro s2 hs2
    have : s2 = s := by simpa using hs2
    subst this
    exact h0
  | @call n b r p q o' o _ _ ih1 ih2 =>
    -- the callee's path, whether it returned or fell off its end, ends in a state from which
    -- the rest of the caller is accepted
    intro kr k s h
    simp only [anaB, anaS] at h
    obtain ⟨s1, hw1, hk1⟩ := ih1 _ _ s h
    have hk1' : anaB r kr k s1 = true := by
      cases o' <;> simpa using hk1
    obtain ⟨s', hw2, hk2⟩ := ih2 kr k s1 hk1'
    exact ⟨s', by simp [walk_append, hw1, hw2], hk2⟩

theorem accOK_unpublished {h pb : Bool} {a : Acc} {l : Loc} (hk : accOK h pb a l = true) :
    accOK h false a l = true := by
  cases l with
  | itemKV f => cases f <;> cases a <;> simp_all [accOK]
  | _ => exact hk

/-- The permission table by class of location, for a thread-level flag `h`: counters only
atomically, `conf` and published items only read, protected locations plainly and under the lock. -/
theorem accOK_modes {h : Bool} {a : Acc} {l : Loc} (hok : accOK h false a l = true) :
    (l = .hit ∨ l = .miss → a = .atomic) ∧
    (l = .conf ∨ l = .itemKV false → a = .read) ∧
    (l.protected = true → a ≠ .atomic ∧ h = true) := by
  refine ⟨?_, ?_, ?_⟩
  · rintro (rfl | rfl) <;> simpa [accOK] using hok
  · rintro (rfl | rfl) <;> simpa [accOK] using hok
  · intro hp
    cases l <;> simp [Loc.protected] at hp <;> simpa [accOK] using hok

theorem step_stepH {s s' : St} {e : Ev} (h : s.step e = some s') : stepH s.held e = some s'.held := by
  cases e with
  | acc a l =>
    simp only [St.step] at h
    split at h
    · rename_i hk
      cases h
      simp [stepH, accOK_unpublished hk]
    · cases h
  | _ =>
    simp only [St.step] at h
    split at h <;> cases h <;> simp_all [stepH]

theorem walk_walkH {s s' : St} {p : List Ev} (h : walk s p = some s') : walkH s.held p = some s'.held := by
  induction p generalizing s with
  | nil => simp only [walk] at h; cases h; rfl
  | cons e p ih =>
    simp only [walk] at h
    cases hs : s.step e with
    | none => simp [hs] at h
    | some s1 =>
      simp only [hs, Option.bind_some] at h
      simp [walkH, step_stepH hs, ih h]

theorem walkH_append (h : Bool) (p q : List Ev) :
    walkH h (p ++ q) = (walkH h p).bind fun h' => walkH h' q :=
  run_append (fun _ => rfl) (fun _ _ _ => rfl) h p q

theorem walkH_prefix {h : Bool} {p q : List Ev} (hs : (walkH h (p ++ q)).isSome = true) :
    (walkH h p).isSome = true := by
  rw [walkH_append] at hs
  cases hp : walkH h p with
  | none => simp [hp] at hs
  | some _ => rfl

theorem analyse_path {m : Method} (hm : analyse m = true) {p : List Ev} (hp : Path m.body p) :
    WellLocked p := by
  rcases hp with hx | ⟨p', hx, rfl⟩
  · obtain ⟨s', hw, hk⟩ := exec_sound hx _ _ init hm
    exact ⟨s', hw, by simpa using hk⟩
  · obtain ⟨s', hw, hk⟩ := exec_sound hx _ _ init hm
    have hh : s'.held = false := by simpa using hk
    refine ⟨s', ?_, hh⟩
    simp [walk_append, hw, walk, St.step, hh]

/-- A thread that only runs analysed methods walks (at thread level) from "not held" back to
"not held" over any whole number of calls. -/
theorem threadTrace_walkH {prog : List Method} (hprog : ∀ m ∈ prog, analyse m = true)
    {evs : List Ev} (ht : ThreadTrace prog evs) : walkH false evs = some false := by
  induction ht with
  | nil => rfl
  | call hm hp _ ih =>
    obtain ⟨s', hw, hh⟩ := analyse_path (hprog _ hm) hp
    have := walk_walkH hw
    simp only [init] at this
    rw [walkH_append, this, hh]
    simpa using ih
  | @reenter a b q _ _ ih1 ih2 =>
    -- the callback is called without the lock, and the inserted calls return without it
    obtain ⟨h1, ha, hrest⟩ := Option.bind_eq_some_iff.mp ((walkH_append false a _).symm.trans ih1)
    obtain ⟨h2, hc, hb⟩ := Option.bind_eq_some_iff.mp hrest
    obtain ⟨rfl, rfl⟩ : h1 = false ∧ h2 = false := by
      simp only [stepH] at hc
      split at hc <;> simp_all
    rw [walkH_append, ha]
    simp only [Option.bind_some, walkH, hc]
    rw [walkH_append, ih2]
    exact hb

theorem proj_append (t : Tid) (a b : Trace) : proj t (a ++ b) = proj t a ++ proj t b := by
  induction a with
  | nil => rfl
  | cons x r ih =>
    obtain ⟨u, e⟩ := x
    simp only [List.cons_append, proj]
    split <;> simp [ih]

theorem mrun_append (o : Option Tid) (a b : Trace) :
    mrun o (a ++ b) = (mrun o a).bind fun o' => mrun o' b :=
  run_append (step := fun o x => mstep o x.1 x.2) (fun _ => rfl) (fun _ _ _ => rfl) o a b

theorem grun_append (o : Option Tid) (a b : Trace) :
    grun o (a ++ b) = (grun o a).bind fun o' => grun o' b :=
  run_append (step := fun o x => gstep o x.1 x.2) (fun _ => rfl) (fun _ _ _ => rfl) o a b

/-- The combined machine is the thread-level check for the flag "`t` owns the mutex", then the
mutex. -/
theorem gstep_eq (o : Option Tid) (t : Tid) (e : Ev) :
    gstep o t e = (stepH (decide (o = some t)) e).bind fun _ => mstep o t e := by
  cases e with
  | lock => cases o <;> simp [gstep, mstep, stepH]
  | unlock => simp only [gstep, mstep, stepH, decide_eq_true_eq]; split <;> rfl
  | _ => simp only [gstep, mstep]; cases stepH (decide (o = some t)) _ <;> rfl

/-- What one step of the combined machine can do: `u` takes the free mutex, `u` gives up its
mutex, or the owner stays and so does `u`'s flag. -/
theorem gstep_cases {o o1 : Option Tid} {u : Tid} {e : Ev} (hs : gstep o u e = some o1) :
    (e = .lock ∧ o = none ∧ o1 = some u) ∨ (e = .unlock ∧ o = some u ∧ o1 = none) ∨
      (o1 = o ∧ stepH (decide (o = some u)) e = some (decide (o = some u))) := by
  cases e with
  | lock =>
    simp only [gstep] at hs
    split at hs
    · rename_i ho; cases hs; exact .inl ⟨rfl, ho, rfl⟩
    · cases hs
  | unlock =>
    simp only [gstep] at hs
    split at hs
    · rename_i ho; cases hs; exact .inr (.inl ⟨rfl, ho, rfl⟩)
    · cases hs
  | _ =>
    simp only [gstep] at hs
    split at hs
    · rename_i hk
      cases hs
      refine .inr (.inr ⟨rfl, ?_⟩)
      revert hk
      simp only [stepH]
      split <;> simp
    · cases hs

/-- Across a step of the combined machine every thread's flag stays "it owns the mutex". -/
theorem gstep_flags {o o1 : Option Tid} {u : Tid} {e : Ev} (hs : gstep o u e = some o1) :
    stepH (decide (o = some u)) e = some (decide (o1 = some u)) ∧
      ∀ t, t ≠ u → decide (o1 = some t) = decide (o = some t) := by
  rcases gstep_cases hs with ⟨rfl, rfl, rfl⟩ | ⟨rfl, rfl, rfl⟩ | ⟨rfl, h⟩
  · exact ⟨by simp [stepH], fun t ht => by simp [Ne.symm ht]⟩
  · exact ⟨by simp [stepH], fun t ht => by simp [Ne.symm ht]⟩
  · exact ⟨h, fun _ _ => rfl⟩

/-- ... so after the step every thread goes on from its flag for the new owner. -/
theorem walkH_proj_gstep {o o1 : Option Tid} {u : Tid} {e : Ev} (hg : gstep o u e = some o1)
    (r : Trace) (t : Tid) :
    walkH (decide (o = some t)) (proj t ((u, e) :: r)) = walkH (decide (o1 = some t)) (proj t r) := by
  obtain ⟨hf, hother⟩ := gstep_flags hg
  by_cases htu : t = u
  · subst htu
    simp [proj, walkH, hf]
  · have : ¬ u = t := fun h => htu h.symm
    simp only [proj, this, if_false, hother t htu]

/-- The central invariant: the `held` flag of thread `t` is "`t` owns the mutex".  An accepted run
of the combined machine takes every thread from its flag for the first owner to its flag for the
last. -/
theorem grun_flags : ∀ (tr : Trace) {o o' : Option Tid}, grun o tr = some o' →
    ∀ t, walkH (decide (o = some t)) (proj t tr) = some (decide (o' = some t))
  | [], _, _, h, _ => by cases h; rfl
  | (u, e) :: r, _, _, h, t => by
    obtain ⟨o1, hg, hr⟩ := Option.bind_eq_some_iff.mp h
    rw [walkH_proj_gstep hg]
    exact grun_flags r hr t

/-- If from the flags for owner `o` every thread's remaining events are well locked at thread
level and the remaining trace respects the mutex, then the combined machine accepts the remaining
trace. -/
theorem grun_of_threads (tr : Trace) :
    ∀ (o : Option Tid),
      (∀ t, (walkH (decide (o = some t)) (proj t tr)).isSome = true) →
      (mrun o tr).isSome = true → ∃ o', grun o tr = some o' := by
  induction tr with
  | nil => exact fun o _ _ => ⟨o, rfl⟩
  | cons x r ih =>
    obtain ⟨u, e⟩ := x
    intro o hth hmx
    have hu := hth u
    simp only [proj, if_true, walkH] at hu
    simp only [mrun] at hmx
    cases hs : stepH (decide (o = some u)) e with
    | none => simp [hs] at hu
    | some h1 =>
      cases hm : mstep o u e with
      | none => simp [hm] at hmx
      | some o1 =>
        simp only [hm, Option.bind_some] at hmx
        have hg : gstep o u e = some o1 := by rw [gstep_eq, hs]; exact hm
        obtain ⟨o', hg'⟩ := ih o1 (fun t => by rw [← walkH_proj_gstep hg]; exact hth t) hmx
        exact ⟨o', by simp [grun, hg, hg']⟩

/-- the first step of an accepted run at which a property `P` of the owner is lost -/
theorem grun_flip {P : Option Tid → Prop} (m : Trace) : ∀ (o : Option Tid) {o' : Option Tid},
    P o → ¬ P o' → grun o m = some o' →
    ∃ m1 u e oa ob m2, m = m1 ++ (u, e) :: m2 ∧ P oa ∧ ¬ P ob ∧ gstep oa u e = some ob ∧
      grun ob m2 = some o' := by
  induction m with
  | nil =>
    intro o o' hp hn h
    cases h
    exact absurd hp hn
  | cons x r ih =>
    obtain ⟨u, e⟩ := x
    intro o o' hp hn h
    obtain ⟨o1, hs, hrest⟩ := Option.bind_eq_some_iff.mp h
    by_cases h1 : P o1
    · obtain ⟨m1, u', e', oa, ob, m2, hm, h⟩ := ih o1 h1 hn hrest
      exact ⟨(u, e) :: m1, u', e', oa, ob, m2, by simp [hm], h⟩
    · exact ⟨[], u, e, o, o1, r, rfl, hp, h1, hs, hrest⟩

/-- a run that ends with owner `t2` from another owner: the step that made `t2` the owner is a
lock by `t2` -/
theorem grun_reach_owner {t2 : Tid} (m : Trace) (o : Option Tid) (hne : o ≠ some t2)
    (h : grun o m = some (some t2)) : ∃ m2 m3, m = m2 ++ (t2, Ev.lock) :: m3 := by
  obtain ⟨m1, u, e, oa, ob, m2, hm, ha, hb, hs, _⟩ := grun_flip (P := (· ≠ some t2)) m o hne (by simp) h
  obtain rfl : ob = some t2 := Decidable.not_not.mp hb
  rcases gstep_cases hs with ⟨rfl, _, hu⟩ | ⟨_, _, hn⟩ | ⟨ho, _⟩
  · obtain rfl : u = t2 := by simpa using hu.symm
    exact ⟨m1, m2, hm⟩
  · cases hn
  · exact absurd ho.symm ha

/-- From owner `some t1` to owner `some t2` with `t1 ≠ t2`: an unlock by `t1` (only that ends
`t1`'s ownership), later a lock by `t2`. -/
theorem grun_handover {t1 t2 : Tid} (hne : t1 ≠ t2) (m : Trace)
    (h : grun (some t1) m = some (some t2)) :
    ∃ m1 m2 m3, m = m1 ++ (t1, Ev.unlock) :: m2 ++ (t2, Ev.lock) :: m3 := by
  obtain ⟨m1, u, e, oa, ob, m2, hm, rfl, hb, hs, hrest⟩ :=
    grun_flip (P := (· = some t1)) m (some t1) rfl (by simpa using Ne.symm hne) h
  rcases gstep_cases hs with ⟨_, hn, _⟩ | ⟨rfl, hu, rfl⟩ | ⟨ho, _⟩
  · cases hn
  · obtain rfl : t1 = u := by simpa using hu
    obtain ⟨m3, m4, hm2⟩ := grun_reach_owner m2 none (by simp) hrest
    exact ⟨m1, m3, m4, by simp [hm, hm2]⟩
  · exact absurd ho hb

theorem gstep_acc {o o' : Option Tid} {t : Tid} {a : Acc} {l : Loc}
    (h : gstep o t (.acc a l) = some o') :
    o' = o ∧ accOK (decide (o = some t)) false a l = true := by
  rcases gstep_cases h with ⟨h, _⟩ | ⟨h, _⟩ | ⟨rfl, h⟩
  · cases h
  · cases h
  · refine ⟨rfl, ?_⟩
    simp only [stepH] at h
    split at h
    · assumption
    · cases h

/-- Under the hypotheses of the race-freedom theorems the combined machine accepts the trace.
Everything else is read off the accepted run: its prefixes are accepted (`grun_append`), the owner
after a prefix is the thread whose own events put it inside a critical section (`grun_flags`), an
access was permitted for that flag (`gstep_acc`). -/
theorem system_accepts {prog : List Method} (hprog : ∀ m ∈ prog, analyse m = true) {tr : Trace}
    (hthreads : ∀ t, ThreadOf prog (proj t tr)) (hmutex : MutexOK tr) : ∃ o, grun none tr = some o := by
  refine grun_of_threads tr none (fun t => ?_) hmutex
  -- the events of `t` so far begin a whole number of calls, which walks to "not held"
  obtain ⟨rest, hr⟩ := hthreads t
  exact walkH_prefix (q := rest) (threadTrace_walkH hprog hr ▸ rfl)

/-- an accepted run, cut at one of its events -/
theorem grun_split {o o' : Option Tid} {pre post : Trace} {t : Tid} {e : Ev}
    (h : grun o (pre ++ (t, e) :: post) = some o') :
    ∃ o1 o2, grun o pre = some o1 ∧ gstep o1 t e = some o2 ∧ grun o2 post = some o' := by
  rw [grun_append] at h
  obtain ⟨o1, h1, h⟩ := Option.bind_eq_some_iff.mp h
  obtain ⟨o2, h2, h⟩ := Option.bind_eq_some_iff.mp h
  exact ⟨o1, o2, h1, h2, h⟩

theorem step_published {s s1 : St} {e : Ev} (hs : s.step e = some s1) (hp : s.published = true) :
    s1.published = true ∧ e ≠ Ev.acc .write (.itemKV true) := by
  cases e with
  | acc a l =>
    simp only [St.step] at hs
    split at hs
    · rename_i hk
      cases hs
      refine ⟨hp, fun he => ?_⟩
      cases he
      simp [accOK, hp] at hk
    · cases hs
  | _ =>
    refine ⟨?_, by simp⟩
    simp only [St.step] at hs
    split at hs <;> cases hs <;> first | exact hp | rfl

/-- Once the local item is published, it stays published and is never written again on a
permitted path. -/
theorem walk_published {s s' : St} {p : List Ev} (h : walk s p = some s') (hp : s.published = true) :
    s'.published = true ∧ ∀ e ∈ p, e ≠ Ev.acc .write (.itemKV true) := by
  induction p generalizing s with
  | nil => simp only [walk] at h; cases h; exact ⟨hp, by simp⟩
  | cons e p ih =>
    obtain ⟨s1, hs, h⟩ := Option.bind_eq_some_iff.mp h
    obtain ⟨hp1, hne⟩ := step_published hs hp
    obtain ⟨h2, h3⟩ := ih h hp1
    exact ⟨h2, List.forall_mem_cons.mpr ⟨hne, h3⟩⟩

end GolibsVerif.C10.Lock
