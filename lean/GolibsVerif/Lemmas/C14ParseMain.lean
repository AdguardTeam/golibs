/-
C14 — `time.ParseDuration` inverts `time.Duration.String`, for every `int64`.
-/
import GolibsVerif.Model.C14Parse
import GolibsVerif.Lemmas.C14Duration
import GolibsVerif.Lemmas.C14ParseLoop

namespace GolibsVerif.C14

theorem e6 : (10 : Nat) ^ 6 = 1000000 := by decide
theorem e3 : (10 : Nat) ^ 3 = 1000 := by decide

/-- **Any list of written groups whose values add up to at most `2^63` parses to the sum.** -/
theorem parseLoop_written : ∀ (gs : List (Bytes × Nat)) (d : Nat), (∀ g ∈ gs, Written g.1 g.2) →
    d + (gs.map (·.2)).sum ≤ two63 →
    parseLoop (gs.map (·.1)).flatten.length (gs.map (·.1)).flatten d = some (d + (gs.map (·.2)).sum) := by
  intro gs
  induction gs with
  | nil => intro d _ _; rfl
  | cons g gs ih =>
    intro d hw hb
    simp only [List.map_cons, List.flatten_cons, List.sum_cons] at hb ⊢
    have hr : NumHead (gs.map (·.1)).flatten := by
      cases gs with
      | nil => exact numHead_nil
      | cons g' gs' => exact (hw g' (by simp)).numHead _
    have hg := parseGroup_written (hw g (by simp)) _ hr (by omega)
    rw [parseLoop_step _ _ d _ hg (by omega), ih (d + g.2) (fun x hx => hw x (by simp [hx])) (by omega),
      Nat.add_assoc]

/-- below one second: a single group `ns`, `µs` or `ms` -/
theorem parse_stdString_small (d : Int) (hd : inInt64 d) (h : d.natAbs < second) :
    parseDuration (stdString d) = some d := by
  by_cases h0 : d.natAbs = 0
  · have hd0 : d = 0 := by omega
    subst hd0; decide
  · obtain ⟨p, ub, frac, hub, hf, e⟩ := stdString_small d h h0
    have hU : (∀ c ∈ ub, isUnit c = true) ∧ ub ≠ [] ∧ unitOf ub = some (10 ^ p) ∧ p ≤ 9 := by
      rcases hub with ⟨rfl, rfl⟩ | ⟨rfl, rfl⟩ | ⟨rfl, rfl⟩ <;>
        exact ⟨by decide, by simp, by decide, by omega⟩
    obtain ⟨hu, hne, hunit, hp⟩ := hU
    have hsum : d.natAbs / 10 ^ p * 10 ^ p + d.natAbs % 10 ^ p = d.natAbs := by
      rw [Nat.mul_comm]; exact Nat.div_add_mod _ _
    have hle : d.natAbs ≤ two63 := by unfold inInt64 at hd; unfold two63; omega
    have hw : Written (intText (d.natAbs / 10 ^ p) ++ (frac ++ ub)) d.natAbs :=
      ⟨_, _, _, frac, ub, rfl, hsum.symm, hu, hne, hunit, .inr ⟨p, hp, rfl, hf⟩⟩
    have := parseLoop_written [(_, _)] 0 (by simpa using hw) (by simpa using hle)
    rw [e]
    apply parseDuration_of_loop d hd _ (by simp [hne])
    simpa using this

/-- a whole number of hours or minutes -/
theorem written_hm (V : Nat) (ub : Bytes) (unit : Nat) (hu : ∀ c ∈ ub, isUnit c = true) (hne : ub ≠ [])
    (hunit : unitOf ub = some unit) (hpos : 0 < unit) : Written (intText V ++ ub) (V * unit) :=
  ⟨V, 0, unit, [], ub, rfl, rfl, hu, hne, hunit, .inl ⟨rfl, rfl, hpos⟩⟩

/-- the hour and minute groups for `M` whole minutes -/
def hmGroups (M : Nat) : List (Bytes × Nat) :=
  (if M / 60 > 0 then [(intText (M / 60) ++ [104], M / 60 * 3600000000000)] else []) ++
  (if M > 0 then [(intText (M % 60) ++ [109], M % 60 * 60000000000)] else [])

theorem hmGroups_spec (M : Nat) : ((hmGroups M).map (·.1)).flatten = hmText M ∧
    ((hmGroups M).map (·.2)).sum = M * 60000000000 ∧ ∀ g ∈ hmGroups M, Written g.1 g.2 := by
  have wh := written_hm (M / 60) [104] 3600000000000 (by decide) (by simp) (by decide) (by decide)
  have wm := written_hm (M % 60) [109] 60000000000 (by decide) (by simp) (by decide) (by decide)
  unfold hmGroups hmText hText
  by_cases h0 : M > 0
  · by_cases h1 : M / 60 > 0
    · simp only [h0, h1, if_true]
      exact ⟨by simp, by simp only [List.map_append, List.map_cons, List.map_nil, List.sum_append, List.sum_cons, List.sum_nil]; omega,
        fun g hg => by simp at hg; rcases hg with rfl | rfl <;> assumption⟩
    · simp only [h0, h1, if_true, if_false]
      exact ⟨by simp, by simp only [List.map_append, List.map_cons, List.map_nil, List.sum_append, List.sum_cons, List.sum_nil]; omega,
        fun g hg => by simp at hg; rcases hg with rfl; assumption⟩
  · have h1 : ¬ M / 60 > 0 := by omega
    simp only [h0, h1, if_false]
    exact ⟨rfl, by simp only [List.map_append, List.map_nil, List.sum_append, List.sum_nil]; omega, fun g hg => by cases hg⟩

/-- one second and above: `[<H>h][<M>m]<S>[.<frac>]s` -/
theorem parse_stdString_big (d : Int) (hd : inInt64 d) (h : second ≤ d.natAbs) :
    parseDuration (stdString d) = some d := by
  obtain ⟨frac, hf, e⟩ := stdString_big d h
  have hle : d.natAbs ≤ 9223372036854775808 := by unfold inInt64 at hd; omega
  rw [e]
  apply parseDuration_of_loop d hd _ (by simp [intText_snoc])
  generalize d.natAbs = u at hf hle ⊢
  obtain ⟨ht, hs, hw⟩ := hmGroups_spec (u / 10 ^ 9 / 60)
  have hsec : Written (intText (u / 10 ^ 9 % 60) ++ (frac ++ [115])) (u / 10 ^ 9 % 60 * 10 ^ 9 + u % 10 ^ 9) :=
    ⟨_, _, _, frac, [115], rfl, rfl, by decide, by simp, by decide, .inr ⟨9, by omega, rfl, hf⟩⟩
  have := parseLoop_written (hmGroups (u / 10 ^ 9 / 60) ++ [(_, _)]) 0
    (fun g hg => by rcases List.mem_append.1 hg with hg | hg
                    · exact hw g hg
                    · obtain rfl := List.mem_singleton.1 hg; exact hsec)
    (by simp only [List.map_append, List.map_cons, List.map_nil, List.sum_append, List.sum_cons, List.sum_nil, hs]
        unfold two63; omega)
  simp only [List.map_append, List.flatten_append, List.sum_append, ht, hs, List.map_cons, List.map_nil,
    List.flatten_cons, List.flatten_nil, List.sum_cons, List.sum_nil, List.append_nil] at this
  rw [this]
  congr 1; omega

theorem parse_stdString_all (d : Int) (hd : inInt64 d) : parseDuration (stdString d) = some d := by
  by_cases h : d.natAbs < second
  · exact parse_stdString_small d hd h
  · exact parse_stdString_big d hd (by omega)

end GolibsVerif.C14
