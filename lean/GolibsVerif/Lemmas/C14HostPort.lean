/-
C14 — lemmas for the host:port round trip: byte search, decimal formatting/parsing of a
`uint16`, bracket trimming.
-/
import GolibsVerif.Model.C14
import GolibsVerif.Lemmas.C14Duration
import GolibsVerif.Lemmas.Strings

namespace GolibsVerif.C14

/-! ### byte search -/

theorem indexByte_eq (s : Bytes) (c : Nat) : indexByte s c = Str.indexByte s c := by
  have : ∀ (s : Bytes) (n : Nat), indexByteAux c s n = Str.indexByteFrom c s n := by
    intro s
    induction s with
    | nil => intro n; rfl
    | cons b rest ih => intro n; simp only [indexByteAux, Str.indexByteFrom, ih]
  exact this s 0

theorem indexByte_not_mem {c : Nat} {s : Bytes} (h : c ∉ s) : indexByte s c = -1 := by
  rw [indexByte_eq, Str.indexByte_not_mem c s h]

theorem indexByte_nonneg_iff {c : Nat} {s : Bytes} : 0 ≤ indexByte s c ↔ c ∈ s := by
  rcases Str.first_cases c s with h | ⟨b, a, rfl, hb⟩
  · rw [indexByte_not_mem h]; simp [h]
  · rw [indexByte_eq, Str.indexByte_append_sep c b a hb]; simp

theorem lastIndexByteAux_not_mem (c : Nat) : ∀ (s : Bytes) (n : Nat) (last : Int), c ∉ s →
    lastIndexByteAux c s n last = last := by
  intro s
  induction s with
  | nil => intro n last _; rfl
  | cons b rest ih =>
    intro n last h
    have hb : b ≠ c := fun e => h (by simp [e])
    have hr : c ∉ rest := fun e => h (by simp [e])
    simp [lastIndexByteAux, hb, ih (n + 1) last hr]

theorem lastIndexByteAux_append (c : Nat) : ∀ (a b : Bytes) (n : Nat) (last : Int), c ∉ b →
    lastIndexByteAux c (a ++ c :: b) n last = ((n + a.length : Nat) : Int) := by
  intro a
  induction a with
  | nil =>
    intro b n last h
    simp [lastIndexByteAux, lastIndexByteAux_not_mem c b (n + 1) _ h]
  | cons x rest ih =>
    intro b n last h
    simp only [List.cons_append, lastIndexByteAux, ih b (n + 1) _ h, List.length_cons]
    congr 1; omega

theorem lastIndexByte_append {c : Nat} (a b : Bytes) (h : c ∉ b) :
    lastIndexByte (a ++ c :: b) c = (a.length : Int) := by
  rw [lastIndexByte, lastIndexByteAux_append c a b 0 _ h]; simp

/-! ### decimal text of a `uint16` (U16-RT, proved) -/

theorem formatUint_range (v : Nat) : ∀ b ∈ formatUint v, 48 ≤ b ∧ b ≤ 57 := by
  unfold formatUint
  rw [fmtInt_eq, List.append_nil]
  exact intText_range v

theorem parseUintLoop_step (M c : Nat) (rest : Bytes) (n : Nat) (hM : M ≤ maxUint64) (hc : c < 10)
    (hn : n * 10 + c ≤ M) :
    parseUintLoop M ((c + 48) :: rest) n = parseUintLoop M rest (n * 10 + c) := by
  have hd : 48 ≤ c + 48 ∧ c + 48 ≤ 57 := by omega
  have h1 : ¬ (n ≥ maxUint64 / 10 + 1) := by omega
  have h2 : (n * 10 + (c + 48 - 48)) % (maxUint64 + 1) = n * 10 + c := by
    rw [Nat.add_sub_cancel]; exact Nat.mod_eq_of_lt (by omega)
  have h3 : ¬ (n * 10 + c < n * 10 ∨ n * 10 + c > M) := by omega
  simp only [parseUintLoop, hd, h1, h2, h3, and_self, if_true, if_false]

/-- **U16-RT**: `strconv.ParseUint(strconv.FormatUint(p, 10), 10, 16) = p` for every `uint16`. -/
theorem parseUint16_formatUint (p : Nat) (hp : p < 65536) : parseUint16 (formatUint p) = .ok p := by
  unfold formatUint
  rw [fmtInt_eq, List.append_nil]
  unfold intText parseUint16
  by_cases h : p = 0
  · subst h; simp [parseUintLoop, maxUint64]
  · simp only [h, if_false]
    have hne : digits p ≠ [] := by rw [digits_pos h]; simp
    rw [if_neg hne]
    have := digits_fold (parseUintLoop 65535) 65535 (parseUintLoop_step 65535 · · · (by decide)) p (by omega) []
    simpa [parseUintLoop] using this

/-! ### `strings.Trim(host, "[]")` -/

theorem trimBrackets_id {s : Bytes} (hl : 91 ∉ s) (hr : 93 ∉ s) : trimBrackets s = s := by
  have h : ∀ b ∈ s, isBracket b = false := fun b hb => by
    have h1 : b ≠ 91 := fun e => hl (e ▸ hb)
    have h2 : b ≠ 93 := fun e => hr (e ▸ hb)
    simp [isBracket, h1, h2]
  unfold trimBrackets
  rw [List.dropWhile_eq_self h, List.dropWhile_eq_self (by intro b hb; exact h b (List.mem_reverse.1 hb)), List.reverse_reverse]

/-! ### `net.SplitHostPort ∘ net.JoinHostPort` -/

theorem splitTail_ok (hp host port : Bytes) (j k i : Int) (sj sk : Bytes)
    (h1 : GoM.sliceFrom hp j = .ok sj) (h2 : 91 ∉ sj)
    (h3 : GoM.sliceFrom hp k = .ok sk) (h4 : 93 ∉ sk)
    (h5 : GoM.sliceFrom hp (i + 1) = .ok port) :
    splitTail hp host j k i = .ok (.ok (host, port)) := by
  unfold splitTail
  have e1 : ¬ (indexByte sj 91 ≥ 0) := by rw [indexByte_not_mem h2]; decide
  have e2 : ¬ (indexByte sk 93 ≥ 0) := by rw [indexByte_not_mem h4]; decide
  simp only [h1, h3, h5, bind, Except.bind, e1, e2, if_false]
  rfl

/-- `host ":" port` -/
theorem netSplit_plain (h p : Bytes) (hc : 58 ∉ h) (pc : 58 ∉ p)
    (n91 : 91 ∉ h ++ 58 :: p) (n93 : 93 ∉ h ++ 58 :: p) :
    netSplitHostPort (h ++ 58 :: p) = .ok (.ok (h, p)) := by
  obtain ⟨c0, i0, hc0⟩ : ∃ c0, GoM.idx (h ++ 58 :: p) 0 = .ok c0 ∧ c0 ≠ 91 := by
    cases h with
    | nil => exact ⟨58, GoM.idx_zero_cons _ _, by decide⟩
    | cons x t => exact ⟨x, GoM.idx_zero_cons _ _, fun e => n91 (by simp [e])⟩
  have c1 : ¬ ((h.length : Int) < 0) := by omega
  have hi : ¬ (indexByte h 58 ≥ 0) := fun hh => hc (indexByte_nonneg_iff.1 hh)
  unfold netSplitHostPort
  simp only [lastIndexByte_append h p pc, if_neg c1, i0, bind, Except.bind, hc0, if_false,
    GoM.sliceTo_append_len, hi]
  exact splitTail_ok _ h p 0 0 _ _ _ (GoM.sliceFrom_append_len [] _) n91 (GoM.sliceFrom_append_len [] _) n93
    (GoM.sliceFrom_append_cons h p 58)

/-- `"[" host "]:" port`, with or without a colon in the host.  The text is written as what stands
before the last colon and what stands behind it, the form in which the index of that colon and
the three slices behind `j`, `k`, `i + 1` are read off. -/
theorem netSplit_bracket (h p : Bytes) (hr : 93 ∉ h) (pc : 58 ∉ p)
    (n91 : 91 ∉ (h ++ [93]) ++ 58 :: p) (n93 : 93 ∉ p) :
    netSplitHostPort ((91 :: h ++ [93]) ++ 58 :: p) = .ok (.ok (h, p)) := by
  have s2 : (91 :: h ++ [93]) ++ 58 :: p = (91 :: h) ++ 93 :: 58 :: p := by simp
  have ei : indexByte ((91 :: h ++ [93]) ++ 58 :: p) 93 = ((91 :: h).length : Int) := by
    rw [s2, indexByte_eq, Str.indexByte_append_sep _ _ _ (by simp [hr])]
  have c1 : ¬ (((91 :: h ++ [93]).length : Int) < 0) := by omega
  have c2 : ¬ (((91 :: h).length : Int) < 0) := by omega
  have c3 : ¬ (((91 :: h).length : Int) + 1 = (((91 :: h ++ [93]) ++ 58 :: p).length : Int)) := by
    simp; omega
  have c4 : ((91 :: h).length : Int) + 1 = ((91 :: h ++ [93]).length : Int) := by simp
  have sl : GoM.slice ((91 :: h ++ [93]) ++ 58 :: p) 1 ((91 :: h).length : Int) = .ok h := by
    simpa [Nat.add_comm] using GoM.slice_append_mid [91] h (93 :: 58 :: p)
  have i0 : GoM.idx ((91 :: h ++ [93]) ++ 58 :: p) 0 = .ok 91 := GoM.idx_zero_cons _ _
  unfold netSplitHostPort
  simp only [lastIndexByte_append _ p pc, ei, if_neg c1, i0, bind, Except.bind, if_true, if_neg c2, if_neg c3,
    if_pos c4, sl]
  exact splitTail_ok _ h p 1 _ _ _ _ (GoM.sliceFrom_one_cons 91 _) n91
    (c4 ▸ GoM.sliceFrom_append_len _ (58 :: p)) (by simp [n93]) (GoM.sliceFrom_append_cons _ p 58)

theorem netSplit_join (h p : Bytes) (hl : 91 ∉ h) (hr : 93 ∉ h)
    (pc : 58 ∉ p) (pl : 91 ∉ p) (pr : 93 ∉ p) :
    netSplitHostPort (netJoinHostPort h p) = .ok (.ok (h, p)) := by
  unfold netJoinHostPort
  by_cases hc : 58 ∈ h
  · rw [if_pos (indexByte_nonneg_iff.2 hc),
      show [91] ++ h ++ [93, 58] ++ p = (91 :: h ++ [93]) ++ 58 :: p by simp]
    exact netSplit_bracket h p hr pc (by simp [hl, pl]) pr
  · rw [if_neg (mt indexByte_nonneg_iff.1 hc), show h ++ [58] ++ p = h ++ 58 :: p by simp]
    exact netSplit_plain h p hc pc (by simp [hl, pl]) (by simp [hr, pr])

/-! ### `netutil.SplitHostPort ∘ netutil.JoinHostPort` -/

theorem splitHostPort_join (h : Bytes) (p : Nat) (hl : 91 ∉ h) (hr : 93 ∉ h) (hp : p < 65536) :
    splitHostPort (joinHostPort h p) = .ok (.ok (h, p)) := by
  have hd := formatUint_range p
  have pc : 58 ∉ formatUint p := fun hm => by have := hd 58 hm; omega
  have pl : 91 ∉ formatUint p := fun hm => by have := hd 91 hm; omega
  have pr : 93 ∉ formatUint p := fun hm => by have := hd 93 hm; omega
  unfold splitHostPort joinHostPort
  simp only [trimBrackets_id hl hr, netSplit_join h (formatUint p) hl hr pc pl pr, bind, Except.bind,
    parseUint16_formatUint p hp]
  rfl

end GolibsVerif.C14
