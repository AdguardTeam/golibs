/-
C05: a byte string and its `'.'`-separated labels, in the form the right-to-left loops of
`reversed.go` need (`frontOf R ++ l`: the `DotFree` labels `R` — nearest first — each followed
by a dot, then the last label `l`).  `exists_frontOf` puts every string in that form;
`splitOn_frontOf`, `lastIndexByte_frontOf`, `count_dot_frontOf` evaluate the string functions on it.
-/
import GolibsVerif.Spec.C05
import GolibsVerif.Lemmas.GoM
import GolibsVerif.Lemmas.Strings

namespace GolibsVerif.C05
open GolibsVerif.Netutil GolibsVerif.Str GolibsVerif.Netip GolibsVerif

/-- the shape `do` notation gives to `let a ← if c then x else y; k a` -/
theorem ite_bind {α β : Type} (c : Prop) [Decidable c] (x y : GoM α) (k : α → GoM β) :
    (if c then x >>= k else y >>= k) = (if c then x else y) >>= k := by
  split <;> rfl

theorem idx_app (a b : Bytes) (c : Nat) (i : Int) (h : i = a.length) :
    GoM.idx (a ++ c :: b) i = .ok c :=
  h ▸ GoM.idx_append_len a b c

theorem idx_app_lt (a b : Bytes) (i : Nat) (h : i < a.length) :
    GoM.idx (a ++ b) (i : Int) = GoM.idx a (i : Int) := by
  rw [GoM.idx_ofNat_lt _ _ h, GoM.idx_ofNat_lt _ _ (by simp; omega)]
  simp [List.getElem_append_left h]

theorem sliceTo_app (a b : Bytes) (i : Int) (h : i = a.length) :
    GoM.sliceTo (a ++ b) i = .ok a :=
  h ▸ GoM.sliceTo_append_len a b

def DotFree (l : Bytes) : Prop := 46 ∉ l

/-- the labels `R` (nearest to the end first), each followed by a dot -/
def frontOf : List Bytes → Bytes
  | [] => []
  | l :: R => frontOf R ++ l ++ [46]

theorem frontOf_append (A B : List Bytes) : frontOf (A ++ B) = frontOf B ++ frontOf A := by
  induction A with
  | nil => simp [frontOf]
  | cons l A ih => simp [frontOf, ih, List.append_assoc]

theorem frontOf_eq_nil (R : List Bytes) : frontOf R = [] ↔ R = [] := by
  cases R <;> simp [frontOf]

theorem splitOn_frontOf (R : List Bytes) (t : Bytes) (h : ∀ l ∈ R, DotFree l) :
    splitOn 46 (frontOf R ++ t) = R.reverse ++ splitOn 46 t := by
  induction R generalizing t with
  | nil => simp [frontOf]
  | cons l R ih =>
    have hl : DotFree l := h l (by simp)
    have hR : ∀ x ∈ R, DotFree x := fun x hx => h x (by simp [hx])
    have : frontOf (l :: R) ++ t = frontOf R ++ (l ++ 46 :: t) := by simp [frontOf]
    rw [this, ih _ hR, splitOn_append_sep 46 l t hl]
    simp

/-- every byte string is its dot-terminated leading labels followed by its last label (cut at
the last dot, and again in what is before it) -/
theorem exists_frontOf (a : Bytes) :
    ∃ l R, DotFree l ∧ (∀ x ∈ R, DotFree x) ∧ a = frontOf R ++ l ∧
      splitOn 46 a = R.reverse ++ [l] := by
  rcases last_cases 46 a with hn | ⟨a', b, rfl, hb⟩
  · exact ⟨a, [], hn, by simp, by simp [frontOf], by simp [splitOn_not_mem 46 a hn]⟩
  · obtain ⟨l', R', hl', hR', rfl, _⟩ := exists_frontOf a'
    have hR : ∀ x ∈ l' :: R', DotFree x := by simpa [hl'] using hR'
    refine ⟨b, l' :: R', hb, hR, by simp [frontOf], ?_⟩
    have : frontOf R' ++ l' ++ 46 :: b = frontOf (l' :: R') ++ b := by simp [frontOf]
    rw [this, splitOn_frontOf _ _ hR, splitOn_not_mem 46 b hb]
termination_by a.length
decreasing_by subst a; simp

theorem frontOf_dot_or_nil (R : List Bytes) : R = [] ∨ ∃ x, frontOf R = x ++ [46] := by
  cases R with
  | nil => exact Or.inl rfl
  | cons l R => exact Or.inr ⟨frontOf R ++ l, rfl⟩

/-- `strings.LastIndexByte(addr, '.') + 1` is the offset of the last label -/
theorem lastIndexByte_frontOf (R : List Bytes) (l : Bytes) (h : DotFree l) :
    lastIndexByte (frontOf R ++ l) 46 + 1 = (frontOf R).length := by
  cases R with
  | nil => simp [frontOf, lastIndexByte_not_mem 46 l h]
  | cons x R =>
    have : frontOf (x :: R) ++ l = (frontOf R ++ x) ++ 46 :: l := by simp [frontOf]
    rw [this, lastIndexByte_append_sep 46 _ l h]
    simp [frontOf]; omega

/-- the dots of a string count its labels but the last -/
theorem count_dot_frontOf (R : List Bytes) (l : Bytes) (h : ∀ x ∈ R, DotFree x) (hl : DotFree l) :
    countByte (frontOf R ++ l) 46 = R.length := by
  unfold countByte
  induction R with
  | nil => simpa [frontOf] using List.count_eq_zero.2 hl
  | cons x R ih =>
    have hx : List.count 46 x = 0 := List.count_eq_zero.2 (h x (by simp))
    have := ih (fun y hy => h y (by simp [hy]))
    simp only [List.count_append] at this ⊢
    simp [frontOf, List.count_append, hx]
    omega

end GolibsVerif.C05
