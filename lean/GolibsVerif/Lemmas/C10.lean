/-
C10 — helper lemmas: concurrent executions (append / split / induction from the right), what a
step does to the framed state and to the call table, the abstraction `absReg` from the cache
state to the register of `Spec/C10.lean`, and the refinement step "every section is an operation
(or a loss) of the sequential specification".
-/
import GolibsVerif.Model.C10
import GolibsVerif.Lemmas.C09Frames
import GolibsVerif.Theorems.C09Frames

namespace GolibsVerif.C10
open GolibsVerif.C09

/-! ### lists: the call table grows at the end and is updated in place -/

theorem getElem?_snoc_lt {α : Type} {l : List α} {a b : α} {j : Nat}
    (h : (l ++ [a])[j]? = some b) : l[j]? = some b ∨ (j = l.length ∧ b = a) := by
  rw [List.getElem?_snoc] at h
  split at h
  · next hj => exact .inr ⟨hj, (Option.some.inj h).symm⟩
  · exact .inl h

theorem getElem?_append_some {α : Type} {l : List α} (l' : List α) {j : Nat} {b : α}
    (h : l[j]? = some b) : (l ++ l')[j]? = some b := by
  rw [List.getElem?_append_left (List.lt_of_getElem? h)]; exact h

theorem getElem?_set_cases {α : Type} {l : List α} {i j : Nat} {a b : α}
    (h : (l.set i a)[j]? = some b) : (j = i ∧ b = a) ∨ (j ≠ i ∧ l[j]? = some b) := by
  rw [List.getElem?_set] at h
  by_cases hij : i = j
  · subst hij
    by_cases hl : i < l.length
    · simp [hl] at h; exact Or.inl ⟨rfl, h.symm⟩
    · simp [hl] at h
  · simp only [hij, if_false] at h
    exact Or.inr ⟨fun hc => hij hc.symm, h⟩

theorem getElem?_set_self' {α : Type} {l : List α} {i : Nat} {a b : α} (h : l[i]? = some b) :
    (l.set i a)[i]? = some a := by
  have := List.lt_of_getElem? h
  simp [this]

theorem snoc_eq_split {α : Type} {h h1 h2 : List α} {e x : α} (heq : h ++ [e] = h1 ++ x :: h2) :
    (h2 = [] ∧ h1 = h ∧ x = e) ∨ ∃ h2', h2 = h2' ++ [e] ∧ h = h1 ++ x :: h2' := by
  rcases List.eq_nil_or_concat h2 with rfl | ⟨h2', y, rfl⟩
  · left
    have : h ++ [e] = h1 ++ [x] := by simpa using heq
    obtain ⟨hh, he⟩ := List.append_inj' this rfl
    exact ⟨rfl, hh.symm, by simpa using he.symm⟩
  · right
    have : h ++ [e] = (h1 ++ x :: h2') ++ [y] := by simpa using heq
    obtain ⟨hh, he⟩ := List.append_inj' this rfl
    have : e = y := by simpa using he
    subst this
    exact ⟨h2', by simp, hh⟩

theorem ctrace_append {c : Conf} {σ σ1 σ2 : KSt} {l1 l2 : List KRec} (h1 : CTrace c σ l1 σ1)
    (h2 : CTrace c σ1 l2 σ2) : CTrace c σ (l1 ++ l2) σ2 := by
  induction h1 with
  | nil => simpa using h2
  | cons hstep _ ih => exact CTrace.cons hstep (ih h2)

theorem ctrace_single {c : Conf} {σ σ' : KSt} {ev : KEv} (h : KStep c σ ev σ') :
    CTrace c σ [⟨ev, σ'⟩] σ' := CTrace.cons h (CTrace.nil σ')

theorem ctrace_snoc {c : Conf} {σ σ1 σ2 : KSt} {l : List KRec} {ev : KEv} (h1 : CTrace c σ l σ1)
    (h2 : KStep c σ1 ev σ2) : CTrace c σ (l ++ [⟨ev, σ2⟩]) σ2 :=
  ctrace_append h1 (ctrace_single h2)

theorem ctrace_split {c : Conf} {σ σ' : KSt} {pre post : List KRec} {ev : KEv} {σ1 : KSt}
    (ht : CTrace c σ (pre ++ ⟨ev, σ1⟩ :: post) σ') :
    ∃ σ0, CTrace c σ pre σ0 ∧ KStep c σ0 ev σ1 ∧ CTrace c σ1 post σ' := by
  induction pre generalizing σ with
  | nil =>
    cases ht with
    | cons hstep hrest => exact ⟨σ, CTrace.nil σ, hstep, hrest⟩
  | cons x xs ih =>
    cases ht with
    | cons hstep hrest =>
      obtain ⟨σ0, h1, h2, h3⟩ := ih hrest
      exact ⟨σ0, CTrace.cons hstep h1, h2, h3⟩

/-- induction over a concurrent execution from a fixed start, one step at the END at a time -/
theorem ctrace_snoc_ind {c : Conf} {σ0 : KSt} {P : List KRec → KSt → Prop} (h0 : P [] σ0)
    (hs : ∀ l σ ev σ', CTrace c σ0 l σ → P l σ → KStep c σ ev σ' → P (l ++ [⟨ev, σ'⟩]) σ') :
    ∀ {l : List KRec} {σ : KSt}, CTrace c σ0 l σ → P l σ := by
  have key : ∀ {σ1 σ : KSt} {l : List KRec}, CTrace c σ1 l σ →
      ∀ pre, CTrace c σ0 pre σ1 → P pre σ1 → P (pre ++ l) σ := by
    intro σ1 σ l ht
    induction ht with
    | nil => intro pre _ hp; simpa using hp
    | @cons σa σb σc ev rest hstep _ ih =>
      intro pre hpre hp
      have := ih (pre ++ [⟨ev, σb⟩]) (ctrace_snoc hpre hstep) (hs pre σa ev σb hpre hp hstep)
      simpa using this
  intro l σ ht
  simpa using key ht [] (CTrace.nil σ0) h0

theorem frameOf_set {σ : KSt} {id i : Nat} {k v : Bytes}
    (h : σ.calls[id]? = some ⟨.set k v, .running (some i)⟩) : σ.frameOf id = some i := by
  simp [KSt.frameOf, h]

theorem kstep_fstep {c : Conf} {σ σ' : KSt} {ev : KEv} (h : KStep c σ ev σ') :
    match ev with
    | .inv _ (.set k v) => FStep c σ.f (.call σ.f.frames.length k v) σ'.f
    | .inv _ _ => σ'.f = σ.f
    | .sec id e => FStep c σ.f (.sec (σ.frameOf id) e) σ'.f
    | .ret .. => σ'.f = σ.f := by
  cases h with
  | invSet k v f' hf => exact hf
  | inv op hop =>
    cases op with
    | set k v => exact absurd rfl (hop k v)
    | _ => rfl
  | secSet id i k v ev f' hc hf => simpa [frameOf_set hc] using hf
  | secOne id op ev f' hc _ hf => simpa [KSt.frameOf, hc] using hf
  | ret id op r hc => rfl

theorem kstep_calls {c : Conf} {σ σ' : KSt} {ev : KEv} (h : KStep c σ ev σ') :
    match ev with
    | .inv id op => id = σ.calls.length ∧ σ'.f.cache = σ.f.cache ∧
        ∃ fr, σ'.calls = σ.calls ++ [⟨op, .running fr⟩]
    | .sec id e => ∃ op fr, σ.calls[id]? = some ⟨op, .running fr⟩ ∧
        σ'.calls = σ.calls.set id ⟨op, statusAfter fr e⟩ ∧ (fr = none → IsSecOf op e)
    | .ret id r => ∃ op, σ.calls[id]? = some ⟨op, .finished r⟩ ∧
        σ' = { σ with calls := σ.calls.set id ⟨op, .returned r⟩ } := by
  cases h with
  | invSet k v f' hf => cases hf; exact ⟨rfl, rfl, _, rfl⟩
  | inv op hop => exact ⟨rfl, rfl, _, rfl⟩
  | secSet id i k v ev f' hc hf => exact ⟨_, _, hc, rfl, fun h => by cases h⟩
  | secOne id op ev f' hc hsecof hf => exact ⟨_, _, hc, rfl, fun _ => hsecof⟩
  | ret id op r hc => exact ⟨_, hc, rfl⟩

theorem ctrace_ftrace {c : Conf} {σ σ' : KSt} {log : List KRec} (ht : CTrace c σ log σ') :
    FTrace c σ.f (flogFrom σ log) σ'.f := by
  induction ht with
  | nil σ => exact FTrace.nil _
  | @cons σa σb σc ev rest hstep _ ih =>
    have hk := kstep_fstep hstep
    cases ev with
    | inv id op =>
      cases op with
      | set k v => simpa [flogFrom] using FTrace.cons hk ih
      | get _ | del _ | clear | stats => simp only at hk; simpa [flogFrom, hk] using ih
    | sec id e => simpa [flogFrom] using FTrace.cons hk ih
    | ret id r => simp only at hk; simpa [flogFrom, hk] using ih

theorem flogFrom_append (σ σ1 : KSt) (l1 l2 : List KRec) {c : Conf} (h : CTrace c σ l1 σ1) :
    flogFrom σ (l1 ++ l2) = flogFrom σ l1 ++ flogFrom σ1 l2 := by
  induction h with
  | nil => simp [flogFrom]
  | cons _ _ ih => simp [flogFrom, ih]

theorem ctrace_inv {c : Conf} {log : List KRec} {σ : KSt} (ht : CTrace c KSt.init log σ) :
    Inv c σ.f.cache ∧ FramesOk c σ.f := by
  have hf := ctrace_ftrace ht
  obtain ⟨hok, htr⟩ := ftrace_proj hf (FramesOk.init c)
  exact ⟨(inv_reachable htr).1, hok⟩

theorem ksec_cstep {c : Conf} {σ σ' : KSt} {id : Nat} {e : Ev} (hok : FramesOk c σ.f)
    (h : KStep c σ (.sec id e) σ') : C09.CStep c σ.f.cache e σ'.f.cache := by
  have := kstep_fstep h
  simp only at this
  exact (fstep_ok hok this).2

/-- the register an association list stands for -/
def regOf (m : List (Bytes × Bytes)) : Reg := fun k => aLookup m k

theorem regOf_remove (m : List (Bytes × Bytes)) (k : Bytes) :
    regOf (aRemove m k) = (regOf m).erase k := by
  funext q
  simp only [regOf, Reg.erase, aLookup_remove]
  exact ite_congr (propext eq_comm) (fun _ => rfl) (fun _ => rfl)

theorem regOf_put (m : List (Bytes × Bytes)) (k v : Bytes) :
    regOf (aRemove m k ++ [(k, v)]) = (regOf m).put k v := by
  funext q
  simp only [regOf, Reg.put, aLookup_remove_append]
  exact ite_congr (propext eq_comm) (fun _ => rfl) (fun _ => rfl)

theorem mem_iff_aLookup {l : List (Bytes × Bytes)} (hn : (l.map (·.1)).Nodup) (k v : Bytes) :
    (k, v) ∈ l ↔ aLookup l k = some v := by
  induction l with
  | nil => simp [aLookup]
  | cons e rest ih =>
    obtain ⟨ek, ev⟩ := e
    simp only [List.map_cons, List.nodup_cons] at hn
    by_cases hk : ek = k
    · subst hk
      have hnot : ∀ v', (ek, v') ∉ rest := fun v' hm => hn.1 (List.mem_map.2 ⟨_, hm, rfl⟩)
      simp only [List.mem_cons, Prod.mk.injEq, true_and, aLookup, List.find?_cons, decide_true,
        Option.map_some, Option.some.injEq]
      constructor
      · rintro (h | h)
        · exact h.symm
        · exact absurd h (hnot v)
      · intro h; exact Or.inl h.symm
    · have hk' : ¬ k = ek := fun hc => hk hc.symm
      have := ih hn.2
      simp only [aLookup] at this
      simp [aLookup, hk, hk', this]

/-- the register the cache state stands for: key ↦ value of the entry with that key -/
def absReg (s : St) : Reg := fun k => aLookup (pairs s.lru) k

/-- what an event does to the register -/
def effect : Ev → Reg → Reg
  | .commit k v _, m => m.put k v
  | .evict k _, m => m.erase k
  | .del k, m => m.erase k
  | .clear, _ => Reg.empty
  | _, m => m

theorem absReg_init : absReg St.init = Reg.empty := rfl

theorem absReg_eq (s : St) : absReg s = regOf (pairs s.lru) := rfl

theorem absReg_step {c : Conf} {s s' : St} {ev : Ev} (hs : C09.CStep c s ev s') (h : Inv c s) :
    absReg s' = effect ev (absReg s) := by
  obtain ⟨_, ha⟩ := step_ok hs h (Agree.self s)
  rw [absReg_eq, absReg_eq, ha.live]
  cases ev with
  | commit k v r => exact regOf_put _ k v
  | evict k _ | del k => exact regOf_remove _ k
  | get k r =>
    cases r with
    | none => rfl
    | some v =>
      cases hb : c.lru
      · simp [absStep, effect]
      · -- a hit moves the entry to the end of the list: the register is the same
        simp only [absStep, effect, if_true]
        cases hlk : aLookup (pairs s.lru) k with
        | none => rfl
        | some v' =>
          rw [regOf_put]
          funext q
          simp only [Reg.put]
          split
          · next hq => rw [hq]; exact hlk.symm
          · rfl
  | clear | refused _ _ | onDelete _ _ | stats _ => rfl

theorem lists_absReg {c : Conf} {s : St} (h : Inv c s) : Lists (pairs s.lru) (absReg s) := by
  have : ((pairs s.lru).map (·.1)).Nodup := by
    have he : (pairs s.lru).map (·.1) = s.lru.map Entry.key := by simp [pairs]
    rw [he]; exact h.nodup
  exact ⟨this, mem_iff_aLookup this⟩

/-- the call whose result the event fixes (an eviction and an `OnDelete` call fix none) -/
def callOf : Ev → Option Call
  | .commit k v _ => some (.set k v)
  | .refused k v => some (.set k v)
  | .get k _ => some (.get k)
  | .del k => some (.del k)
  | .clear => some .clear
  | .stats _ => some .stats
  | .evict .. => none
  | .onDelete .. => none

/-- `ev` is an event of a call `op`: the call whose result it fixes (for `Set`: with ITS key and
value), or some `Set` if it fixes none -/
def OpEv (op : Call) (ev : Ev) : Prop :=
  match callOf ev with
  | some o => op = o
  | none => ∃ k v, op = .set k v

theorem opEv_inv {op o : Call} {ev : Ev} (h : OpEv op ev) (ho : callOf ev = some o) : op = o := by
  simpa only [OpEv, ho] using h

theorem opEv_of_isSecOf {op : Call} {ev : Ev} (h : IsSecOf op ev) : OpEv op ev := by
  -- an event of another kind is excluded by `h`; for the right kind `h` equates the keys
  cases op with
  | set k v => cases ev <;> exact h.elim
  | get k => cases ev <;> first | exact h.elim | exact congrArg Call.get (Eq.symm h)
  | del k => cases ev <;> first | exact h.elim | exact congrArg Call.del (Eq.symm h)
  | clear | stats => cases ev <;> first | exact h.elim | rfl

theorem resOf_of_isSecOf {op : Call} {ev : Ev} (h : IsSecOf op ev) : ∃ r, resOf ev = some r := by
  cases ev with
  | evict k v => cases op <;> exact h.elim
  | onDelete k v => cases op <;> exact h.elim
  | _ => exact ⟨_, rfl⟩

theorem fstep_frame_ev {c : Conf} {σ σ' : FSt} {i : Nat} {ev : Ev} {f : Frame}
    (hs : FStep c σ (.sec (some i) ev) σ') (hf : σ.frames[i]? = some f) :
    OpEv (.set f.key f.val) ev := by
  obtain ⟨g, _, _, hg, hsec, _⟩ := fstep_set_inv hs
  obtain rfl : g = f := Option.some.inj (hg.symm.trans hf)
  cases hsec with
  | refuse | commit => rfl
  | evict | onDelete => exact ⟨_, _, rfl⟩

/-- **the refinement step**: a section that fixes the result `r` of a call `op` is the operation
`op` of the sequential specification with result `r`, from the register the cache stood for
before the section to the one it stands for after it -/
theorem section_is_seqStep {c : Conf} {s s' : St} {ev : Ev} {op : Call} {r : Res}
    (hs : C09.CStep c s ev s') (h : Inv c s) (hop : OpEv op ev) (hr : resOf ev = some r) :
    SeqStep c (absReg s) op r (absReg s') := by
  have habs := absReg_step hs h
  obtain ⟨_, ha⟩ := step_ok hs h (Agree.self s)
  cases hs with
  | refuse k v hc =>
    obtain rfl : op = .set k v := opEv_inv hop rfl
    simp only [resOf, Option.some.injEq] at hr; subst hr
    exact SeqStep.refuse _ _ _
  | evict s' add e _ _ _ he => simp [resOf] at hr
  | onDelete k v _ => simp [resOf] at hr
  | commit s' k v rep _ hnf hc =>
    obtain rfl : op = .set k v := opEv_inv hop rfl
    simp only [resOf, Option.some.injEq] at hr; subst hr
    rw [habs]
    have hrep : rep = (absReg s k).isSome := (setCommit_agree h (Agree.self s) hc).2
    rw [hrep]
    exact SeqStep.store _ _ _
  | get s' k res hg =>
    obtain rfl : op = .get k := opEv_inv hop rfl
    simp only [resOf, Option.some.injEq] at hr; subst hr
    rw [habs]
    have hres : res = absReg s k := (get_agree h (Agree.self s) hg).2
    rw [hres]
    exact SeqStep.get _ _
  | del s' k hd =>
    obtain rfl : op = .del k := opEv_inv hop rfl
    simp only [resOf, Option.some.injEq] at hr; subst hr
    rw [habs]
    exact SeqStep.del _ _
  | clear =>
    obtain rfl : op = .clear := opEv_inv hop rfl
    simp only [resOf, Option.some.injEq] at hr; subst hr
    rw [habs]
    exact SeqStep.clear _
  | stats =>
    obtain rfl : op = .stats := opEv_inv hop rfl
    simp only [resOf, Option.some.injEq] at hr; subst hr
    refine SeqStep.stats _ (pairs s.lru) _ (lists_absReg h) (by simp [stats, pairs]) ?_
      (by simpa [stats] using h.count_le) (by simpa [stats] using h.size_le)
    rw [aSize_pairs]; simpa [stats] using h.size_eq

theorem section_is_tau {c : Conf} {s s' : St} {ev : Ev} (hs : C09.CStep c s ev s') (h : Inv c s)
    (hr : resOf ev = none) : absReg s' = absReg s ∨ ∃ k, absReg s' = (absReg s).erase k := by
  have habs := absReg_step hs h
  cases ev <;> simp [resOf] at hr
  · right; exact ⟨_, habs⟩
  · left; exact habs

/-! ### runs of the specification, from the right -/

theorem run_snoc_drop {c : Conf} {m m' : Reg} {l : List LinOp} (k : Bytes) (h : Run c m l m') :
    Run c m l (m'.erase k) := by
  induction h with
  | nil m => exact Run.drop k (Run.nil _)
  | drop k' _ ih => exact Run.drop k' ih
  | op hstep _ ih => exact Run.op hstep ih

theorem run_snoc_op {c : Conf} {m m1 m' : Reg} {l : List LinOp} {x : LinOp} (h : Run c m l m1)
    (hx : SeqStep c m1 x.op x.res m') : Run c m (l ++ [x]) m' := by
  induction h with
  | nil m => exact Run.op hx (Run.nil _)
  | drop k' _ ih => exact Run.drop k' (ih hx)
  | op hstep _ ih => exact Run.op hstep (ih hx)

/-! ### real-time order and `Before`, one event at a time -/

theorem before_append {l : List Nat} {a b : Nat} (l' : List Nat) (h : Before l a b) :
    Before (l ++ l') a b := by
  obtain ⟨l1, l2, l3, rfl⟩ := h
  exact ⟨l1, l2, l3 ++ l', by simp⟩

theorem before_snoc {l : List Nat} {a : Nat} (b : Nat) (h : a ∈ l) : Before (l ++ [b]) a b := by
  obtain ⟨l1, l2, rfl⟩ := List.append_of_mem h
  exact ⟨l1, l2, [], by simp⟩

theorem rt_snoc {h : History} {e : HEv} {a b : Nat} (hr : RtBefore (h ++ [e]) a b) :
    RtBefore h a b ∨ ((∃ op, e = .inv b op) ∧ ∃ r, HEv.ret a r ∈ h) := by
  obtain ⟨h1, h2, h3, r, op, heq⟩ := hr
  rcases snoc_eq_split heq with ⟨_, hh, he⟩ | ⟨h3', _, hh⟩
  · exact .inr ⟨⟨op, he.symm⟩, r, by rw [← hh]; simp⟩
  · exact .inl ⟨h1, h2, h3', r, op, hh⟩

theorem historyOf_snoc (l : List KRec) (ev : KEv) (σ : KSt) :
    historyOf (l ++ [⟨ev, σ⟩]) = historyOf l ++ (match ev.hist with | some e => [e] | none => []) := by
  simp only [historyOf, List.filterMap_append]
  cases h : ev.hist <;> simp [h]

end GolibsVerif.C10
