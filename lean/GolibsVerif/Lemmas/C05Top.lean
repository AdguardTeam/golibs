/-
C05: the two right-to-left label scans of `ExtractReversedAddr` (`indexV4_spec`,
`indexV6_spec`, both in terms of `scanP`), the longest label-aligned suffix they find
(`longest_of_scan`), and `PrefixFromReversedAddr` / `ExtractReversedAddr` after the prologue,
against the reference decoder (`prefix_cases`, `extract_cases`).
-/
import GolibsVerif.Lemmas.C05V6
import GolibsVerif.Lemmas.C04Dom

namespace GolibsVerif.C05
open GolibsVerif.Netutil GolibsVerif.Str GolibsVerif.Netip GolibsVerif GolibsVerif.Gen.Consts
open GolibsVerif.C04 (NoUpper)

theorem okVal_wrapARPA {α : Type} (a : Bytes) (r : Except Err α) : okVal (wrapARPA a r) = okVal r := by
  cases r <;> rfl

theorem head_asciiLower (s : Bytes) : (asciiLower s).head? = some 46 ↔ s.head? = some 46 := by
  cases s with
  | nil => simp [asciiLower]
  | cons a s =>
    simp only [asciiLower, List.map_cons, List.head?_cons, Option.some.injEq]
    exact C04.lowerByte_eq_dot a

theorem noUpper_mono (a b : Bytes) (h : NoUpper b) (hs : ∀ x ∈ a, x ∈ b) : NoUpper a :=
  fun x hx => h x (hs x hx)

theorem v4Shape_or (p : Prefix) (h : V4Shape p) : V4Shape p ∨ V6Shape p := Or.inl h

theorem string_of_root (s fam : Bytes) (R : List Bytes)
    (h : (splitOn 46 s).reverse = lblArpa :: fam :: R) : s = frontOf R ++ fam ++ 46 :: lblArpa := by
  obtain ⟨l, R', _, _, rfl, hsp⟩ := exists_frontOf s
  rw [hsp] at h
  simp only [List.reverse_append, List.reverse_cons, List.reverse_nil, List.nil_append,
    List.reverse_reverse, List.cons_append, List.cons.injEq] at h
  obtain ⟨rfl, rfl⟩ := h
  simp [frontOf]

theorem hasSuffix_of_root (s fam : Bytes) (R : List Bytes)
    (h : s = frontOf R ++ fam ++ 46 :: lblArpa) : hasSuffix s (fam ++ 46 :: lblArpa) = true :=
  (hasSuffix_iff _ _).2 ⟨frontOf R, by rw [h]; simp⟩

theorem spec_some_root (ls : List Bytes) (p : Prefix) (h : arpaPrefixSpec ls = some p) :
    ∃ R, ls.reverse = lblArpa :: lblInAddr :: R ∨ ls.reverse = lblArpa :: lblIp6 :: R := by
  unfold arpaPrefixSpec at h
  match hrev : ls.reverse with
  | [] | [_] => rw [hrev] at h; cases h
  | root :: fam :: digits =>
    rw [hrev] at h
    by_cases hr : root = lblArpa
    · by_cases h4 : fam = lblInAddr
      · exact ⟨digits, Or.inl (by rw [hr, h4])⟩
      · by_cases h6 : fam = lblIp6
        · exact ⟨digits, Or.inr (by rw [hr, h6])⟩
        · simp only [hr, h4, h6, if_true, if_false] at h; cases h
    · simp only [hr, if_false] at h; cases h

theorem exists_frontOf_of_aligned (pre : Bytes) (h : pre = [] ∨ pre.getLast? = some 46) :
    ∃ F : List Bytes, (∀ x ∈ F, DotFree x) ∧ pre = frontOf F := by
  rcases h with h | h
  · exact ⟨[], by simp, by simp [h, frontOf]⟩
  · obtain ⟨f, rfl⟩ := List.getLast?_eq_some_iff.1 h
    obtain ⟨l, R, hl, hR, rfl, _⟩ := exists_frontOf f
    exact ⟨l :: R, by simpa [hl] using hR, by simp [frontOf]⟩

/-- drop up to `n` leading labels that satisfy `P` -/
def scanP (P : Bytes → Bool) : Nat → List Bytes → List Bytes
  | 0, F => F
  | _ + 1, [] => []
  | n + 1, l :: F => if P l then scanP P n F else l :: F

theorem scanP_split (P : Bytes → Bool) (n : Nat) : ∀ (F : List Bytes),
    ∃ taken, F = taken ++ scanP P n F ∧ (∀ x ∈ taken, P x = true) ∧ taken.length ≤ n ∧
      (scanP P n F = [] ∨ taken.length = n ∨ ∃ x rest, scanP P n F = x :: rest ∧ P x = false) := by
  induction n with
  | zero => intro F; exact ⟨[], by simp [scanP], by simp, by simp, Or.inr (Or.inl rfl)⟩
  | succ n ih =>
    intro F
    cases F with
    | nil => exact ⟨[], by simp [scanP], by simp, by simp, Or.inl (by simp [scanP])⟩
    | cons l F =>
      by_cases hl : P l = true
      · obtain ⟨taken, h1, h2, h3, h4⟩ := ih F
        refine ⟨l :: taken, ?_, ?_, by simp; omega, ?_⟩
        · simp only [scanP, hl, if_true, List.cons_append]; rw [← h1]
        · intro x hx
          simp only [List.mem_cons] at hx
          rcases hx with rfl | hx
          · exact hl
          · exact h2 x hx
        · simp only [scanP, hl, if_true]
          rcases h4 with h4 | h4 | h4
          · exact Or.inl h4
          · exact Or.inr (Or.inl (by simp [h4]))
          · exact Or.inr (Or.inr h4)
      · have hl' : P l = false := by simpa using hl
        exact ⟨[], by simp [scanP, hl'], by simp, by simp, Or.inr (Or.inr ⟨l, F, by simp [scanP, hl'], hl'⟩)⟩

theorem frontOf_scanP (P : Bytes → Bool) (n : Nat) (F taken : List Bytes)
    (h : F = taken ++ scanP P n F) (tail : Bytes) :
    frontOf F ++ tail = frontOf (scanP P n F) ++ (frontOf taken ++ tail) := by
  conv => lhs; rw [h, frontOf_append]
  simp

theorem indexV4_spec (n : Nat) : ∀ (F : List Bytes) (tail : Bytes), (∀ x ∈ F, DotFree x) →
    indexFirstV4Loop (frontOf F ++ tail) n ((frontOf F).length : Int) =
      .ok (((frontOf (scanP octetOK n F)).length : Nat) : Int) := by
  induction n with
  | zero => intro F tail _; simp [indexFirstV4Loop, scanP, pure, Except.pure]
  | succ n ih =>
    intro F tail hF
    cases F with
    | nil => simp [indexFirstV4Loop, scanP, frontOf, pure, Except.pure]
    | cons l F =>
      have hl : DotFree l := hF l (by simp)
      have hF' : ∀ x ∈ F, DotFree x := fun x hx => hF x (by simp [hx])
      have hpos : ((frontOf (l :: F)).length : Int) > 0 := by simp [frontOf]; omega
      unfold indexFirstV4Loop
      simp only [hpos, if_true, bind, Except.bind, pure, Except.pure]
      have e1 : frontOf (l :: F) ++ tail = (frontOf F ++ l) ++ (46 :: tail) := by simp [frontOf]
      rw [e1, sliceTo_app _ _ _ (by simp [frontOf]; omega)]
      simp only [lastIndexByte_frontOf F l hl]
      have e2 : ((frontOf (l :: F)).length : Int) - 1 = ((frontOf F).length + l.length : Nat) := by
        simp [frontOf]; omega
      rw [e2, List.append_assoc, GoM.slice_append_mid]
      simp only [isIPv4Label_eq]
      by_cases hok : octetOK l = true
      · simp only [hok, Bool.not_true, Bool.false_eq_true, if_false, scanP, if_true]
        exact ih F _ hF'
      · have hok' : octetOK l = false := by simpa using hok
        simp [hok', scanP]

theorem indexFirstV4Label_frontOf (F : List Bytes) (hF : ∀ x ∈ F, DotFree x) :
    indexFirstV4Label (frontOf F ++ v4tail) =
      .ok (((frontOf (scanP octetOK 4 F)).length : Nat) : Int) := by
  unfold indexFirstV4Label
  have : ((frontOf F ++ v4tail).length : Int) - (arpaV4Suffix.length : Int) + 1 = ((frontOf F).length : Int) := by
    simp [v4tail, lblInAddr, lblArpa, arpaV4Suffix]; omega
  rw [this]
  exact indexV4_spec 4 F v4tail hF

/-- a label that is one hexadecimal digit -/
def isNib : Bytes → Bool
  | [c] => fromHexByte c != 255
  | _ => false

/-- one iteration of the scan of `indexFirstV6Label` standing two bytes after `A`: it goes on,
from the end of `A`, iff `A` is empty or ends with a dot and the next byte is a hexadecimal digit -/
theorem indexV6_step (A t : Bytes) (c z : Nat) (n : Nat) :
    indexFirstV6Loop (A ++ c :: z :: t) (n + 1) ((A.length + 2 : Nat) : Int) =
      if (A ≠ [] ∧ A.getLast? ≠ some 46) ∨ fromHexByte c = 255 then .ok ((A.length + 2 : Nat) : Int)
      else indexFirstV6Loop (A ++ c :: z :: t) n (A.length : Int) := by
  have hpos : ((A.length + 2 : Nat) : Int) > 0 := by omega
  have hcur : ((A.length + 2 : Nat) : Int) - 2 = (A.length : Int) := by omega
  conv => lhs; unfold indexFirstV6Loop
  simp only [hpos, if_true, hcur, GoM.idx_append_len]
  cases hgl : A.getLast? with
  | none =>
    have : A = [] := List.getLast?_eq_none_iff.1 hgl
    subst this
    simp [pure, Except.pure, bind, Except.bind]
  | some y =>
    obtain ⟨A', rfl⟩ := List.getLast?_eq_some_iff.1 hgl
    have hp : ((A' ++ [y]).length : Int) > 0 := by simp
    have e1 : A' ++ [y] ++ c :: z :: t = A' ++ y :: (c :: z :: t) := by simp
    rw [if_pos hp, e1, idx_app A' _ y _ (by simp)]
    by_cases hy : y = 46 <;> by_cases hc : fromHexByte c = 255 <;>
      simp [hy, hc, pure, Except.pure, bind, Except.bind]

/-- the scan of `indexFirstV6Label` reads `domain[-1]` exactly when it reaches an empty first
label -/
theorem indexV6_spec (n : Nat) : ∀ (F : List Bytes) (tail : Bytes), (∀ x ∈ F, DotFree x) →
    indexFirstV6Loop (frontOf F ++ tail) n ((frontOf F).length : Int) =
        .ok (((frontOf (scanP isNib n F)).length : Nat) : Int) ∨
      (F.getLast? = some [] ∧ ∃ e, indexFirstV6Loop (frontOf F ++ tail) n ((frontOf F).length : Int) = .error e) := by
  induction n with
  | zero => intro F tail _; left; simp [indexFirstV6Loop, scanP, pure, Except.pure]
  | succ n ih =>
    intro F tail hF
    cases F with
    | nil => left; simp [indexFirstV6Loop, scanP, frontOf, pure, Except.pure]
    | cons l F =>
      have hl : DotFree l := hF l (by simp)
      have hF' : ∀ x ∈ F, DotFree x := fun x hx => hF x (by simp [hx])
      -- `frontOf F` is empty or ends with a dot
      have hA : ¬ (frontOf F ≠ [] ∧ (frontOf F).getLast? ≠ some 46) := by
        rcases frontOf_dot_or_nil F with rfl | ⟨x, hx⟩
        · simp [frontOf]
        · simp [hx]
      obtain rfl | ⟨m, c, rfl⟩ : l = [] ∨ ∃ m c, l = m ++ [c] := by
        simpa [List.concat_eq_append] using List.eq_nil_or_concat l
      · -- an empty label: its dot is not a digit, unless it is the first byte of the name
        cases F with
        | nil =>
          right
          refine ⟨rfl, ?_⟩
          simp [frontOf, indexFirstV6Loop, GoM.idx, bind, Except.bind, pure, Except.pure]
        | cons x F' =>
          left
          have e1 : frontOf ([] :: x :: F') ++ tail = (frontOf F' ++ x) ++ 46 :: 46 :: tail := by
            simp [frontOf]
          have e2 : ((frontOf ([] :: x :: F')).length : Int) = (((frontOf F' ++ x).length + 2 : Nat) : Int) := by
            simp [frontOf]; omega
          rw [e1, e2, indexV6_step, if_pos (Or.inr (by decide))]
          simp [scanP, isNib, frontOf]; omega
      · have e1 : frontOf ((m ++ [c]) :: F) ++ tail = (frontOf F ++ m) ++ c :: 46 :: tail := by
          simp [frontOf]
        have e2 : ((frontOf ((m ++ [c]) :: F)).length : Int) = (((frontOf F ++ m).length + 2 : Nat) : Int) := by
          simp [frontOf]; omega
        rw [e1, e2, indexV6_step]
        obtain rfl | ⟨m', y, rfl⟩ : m = [] ∨ ∃ m' y, m = m' ++ [y] := by
          simpa [List.concat_eq_append] using List.eq_nil_or_concat m
        · -- a one-byte label
          rw [List.append_nil]
          by_cases hc : fromHexByte c = 255
          · left; rw [if_pos (Or.inr hc)]; simp [scanP, isNib, hc, frontOf]
          · rw [if_neg (by simp [hA, hc])]
            have hnib : isNib [c] = true := by simp [isNib, hc]
            simp only [List.nil_append, scanP, hnib, if_true]
            rcases ih F (c :: 46 :: tail) hF' with h | ⟨h1, h2⟩
            · exact Or.inl h
            · refine Or.inr ⟨?_, h2⟩
              cases F with
              | nil => simp at h1
              | cons y F' => simpa [List.getLast?_cons_cons] using h1
        · -- a longer label: the byte before its last is not a dot
          left
          have hy : y ≠ 46 := fun e => hl (by simp [e])
          rw [if_pos (Or.inl (by simp [hy]))]
          have hnib : isNib (m' ++ [y, c]) = false := by cases m' <;> simp [isNib]
          simp [scanP, hnib, frontOf]; omega

theorem indexFirstV6Label_frontOf (F : List Bytes) (hF : ∀ x ∈ F, DotFree x) :
    indexFirstV6Label (frontOf F ++ v6tail) = .ok (((frontOf (scanP isNib 32 F)).length : Nat) : Int) ∨
      ((frontOf F ++ v6tail).head? = some 46 ∧
        ∃ e, indexFirstV6Label (frontOf F ++ v6tail) = .error e) := by
  unfold indexFirstV6Label
  have : ((frontOf F ++ v6tail).length : Int) - (arpaV6Suffix.length : Int) + 1 = ((frontOf F).length : Int) := by
    simp [v6tail, lblIp6, lblArpa, arpaV6Suffix]; omega
  rw [this]
  rcases indexV6_spec 32 F v6tail hF with h | ⟨hlast, h⟩
  · exact Or.inl h
  · exact Or.inr ⟨by rw [List.head?_append, frontOf_head_dot F hlast]; rfl, h⟩

theorem longest_eq (al : List Bytes) (p : Prefix) (hal : arpaPrefixSpec al = some p) :
    ∀ fl : List Bytes, (∀ g, g ≠ [] → g <:+ fl → arpaPrefixSpec (g ++ al) = none) →
      longestArpaSuffix (fl ++ al) = some p := by
  intro fl
  induction fl with
  | nil =>
    intro _
    cases al with
    | nil => simp [arpaPrefixSpec] at hal
    | cons a al => simp [longestArpaSuffix, hal]
  | cons x fl ih =>
    intro h
    have h1 := h (x :: fl) (by simp) (List.suffix_refl _)
    simp only [List.cons_append] at h1 ⊢
    rw [longestArpaSuffix, h1]
    exact ih (fun g hg hs => h g hg (List.IsSuffix.trans hs (List.suffix_cons x fl)))

theorem longest_none (ls : List Bytes) (h : ∀ g, g <:+ ls → arpaPrefixSpec g = none) :
    longestArpaSuffix ls = none := by
  induction ls with
  | nil => rfl
  | cons x ls ih =>
    rw [longestArpaSuffix, h _ (List.suffix_refl _)]
    exact ih (fun g hg => h g (List.IsSuffix.trans hg (List.suffix_cons x ls)))

theorem longest_none_of (s : Bytes)
    (h : ∀ R fam, (fam = lblInAddr ∨ fam = lblIp6) → s ≠ frontOf R ++ fam ++ 46 :: lblArpa) :
    longestArpaSuffix (splitOn 46 s) = none := by
  apply longest_none
  intro g hg
  cases hs : arpaPrefixSpec g with
  | none => rfl
  | some p =>
    exfalso
    obtain ⟨hd, hhd⟩ := hg
    obtain ⟨R, hR | hR⟩ := spec_some_root g p hs
    · have : (splitOn 46 s).reverse = lblArpa :: lblInAddr :: (R ++ hd.reverse) := by
        rw [← hhd, List.reverse_append, hR]; simp
      exact h _ _ (Or.inl rfl) (string_of_root s _ _ this)
    · have : (splitOn 46 s).reverse = lblArpa :: lblIp6 :: (R ++ hd.reverse) := by
        rw [← hhd, List.reverse_append, hR]; simp
      exact h _ _ (Or.inr rfl) (string_of_root s _ _ this)

theorem traverse_append_none (f : Bytes → Option Nat) (a : List Bytes) (x : Bytes) (more : List Bytes)
    (h : f x = none) : traverse f (a ++ x :: more) = none := by
  cases ht : traverse f (a ++ x :: more) with
  | none => rfl
  | some vs =>
    have : none ∈ vs.map some := by
      rw [← (traverse_eq_some f _ vs).1 ht]; simp [h]
    simp at this

theorem traverse_isSome (f : Bytes → Option Nat) (ls : List Bytes) (h : ∀ l ∈ ls, (f l).isSome) :
    (traverse f ls).isSome :=
  Option.isSome_iff_exists.2 ⟨ls.map fun l => (f l).getD 0, (traverse_eq_some f ls _).2 (by
    rw [List.map_map]
    exact List.map_congr_left fun l hl => by
      obtain ⟨v, hv⟩ := Option.isSome_iff_exists.1 (h l hl)
      simp [hv])⟩

/-- A scan that drops up to `n` leading labels accepted by `P` finds the longest suffix on which
the reference decoder is defined, for a family `fam` whose digit labels the decoder reads with
`f` (at most `n` of them) and for which `P` is the test "`f` is defined". -/
theorem longest_of_scan (P : Bytes → Bool) (f : Bytes → Option Nat) (n : Nat) (mk : List Nat → Prefix)
    (fam : Bytes) (hfam : DotFree fam)
    (hspec : ∀ ls R, ls.reverse = lblArpa :: fam :: R → arpaPrefixSpec ls = famSpec f n mk R)
    (F : List Bytes) (hF : ∀ x ∈ F, DotFree x)
    (hPt : ∀ x ∈ F, P x = true → (f x).isSome) (hPf : ∀ x, P x = false → f x = none) :
    ∃ taken, F = taken ++ scanP P n F ∧ (∀ x ∈ taken, P x = true) ∧
      longestArpaSuffix (splitOn 46 (frontOf F ++ (fam ++ 46 :: lblArpa))) =
        arpaPrefixSpec (splitOn 46 (frontOf taken ++ (fam ++ 46 :: lblArpa))) := by
  obtain ⟨taken, hsplit, htok, htlen, htmax⟩ := scanP_split P n F
  refine ⟨taken, hsplit, htok, ?_⟩
  have hmem : ∀ x ∈ taken, x ∈ F := fun x hx => by rw [hsplit]; simp [hx]
  have hT : splitOn 46 (fam ++ 46 :: lblArpa) = [fam, lblArpa] := by
    rw [splitOn_append_sep 46 _ _ hfam, splitOn_not_mem 46 _ dotfree_arpa]
  have hal : splitOn 46 (frontOf taken ++ (fam ++ 46 :: lblArpa)) = taken.reverse ++ [fam, lblArpa] := by
    rw [splitOn_frontOf _ _ (fun x hx => hF x (hmem x hx)), hT]
  have hall : splitOn 46 (frontOf F ++ (fam ++ 46 :: lblArpa)) =
      (scanP P n F).reverse ++ (taken.reverse ++ [fam, lblArpa]) := by
    rw [splitOn_frontOf _ _ hF, hT]
    conv => lhs; rw [hsplit]
    simp
  obtain ⟨vs, hvs⟩ := Option.isSome_iff_exists.1
    (traverse_isSome f taken (fun x hx => hPt x (hmem x hx) (htok x hx)))
  have hsome : arpaPrefixSpec (taken.reverse ++ [fam, lblArpa]) = some (mk vs) := by
    rw [hspec _ taken (by simp), famSpec, if_pos htlen, hvs]; rfl
  rw [hall, hal, hsome]
  apply longest_eq _ _ hsome
  intro g hg ⟨hd, hhd⟩
  have hrev : g.reverse ++ hd.reverse = scanP P n F := by
    have := congrArg List.reverse hhd; simpa using this
  cases hgr : g.reverse with
  | nil => simp at hgr; exact absurd hgr hg
  | cons x more =>
    rw [hgr] at hrev
    rw [hspec _ (taken ++ x :: more) (by simp [hgr]), famSpec]
    rcases htmax with h | h | ⟨y, rest', hy1, hy2⟩
    · rw [h] at hrev; cases hrev
    · rw [if_neg (by simp; omega)]
    · rw [hy1] at hrev
      cases hrev
      rw [traverse_append_none _ _ _ _ (hPf _ hy2)]
      simp

theorem prefix_run (toASCII : Bytes → Option Bytes) (s arpa0 : Bytes)
    (hp : arpaPrologue toASCII s = .ok (.ok arpa0)) :
    ∃ r, prefixFromReversedAddr toASCII s = .ok r ∧
      ((asciiLower arpa0).head? ≠ some 46 → okVal r = arpaPrefixSpec (splitOn 46 (asciiLower arpa0))) ∧
      (∀ p, r = .ok p → V4Shape p ∨ V6Shape p) := by
  have hu : NoUpper (asciiLower arpa0) := C04.asciiLower_not_upper arpa0
  unfold prefixFromReversedAddr
  simp only [hp, GoM.ok_bind, v4tail_eq, v6tail_eq]
  generalize asciiLower arpa0 = arpa at hu ⊢
  by_cases h4 : hasSuffix arpa v4tail = true
  · obtain ⟨pre, rfl⟩ := (hasSuffix_iff _ _).1 h4
    obtain ⟨r, h1, h2, h3⟩ := subnetV4_spec pre
    simp only [h4, if_true, h1, GoM.ok_bind]
    refine ⟨_, rfl, fun hd => ?_, fun p hp => Or.inl (h3 p ((C04.wrapARPA_ok _ _ _).1 hp))⟩
    rw [okVal_wrapARPA]
    apply h2
    cases pre with
    | nil => simp
    | cons a pre => simpa using hd
  · simp only [h4]
    by_cases h6 : hasSuffix arpa v6tail = true
    · obtain ⟨pre, rfl⟩ := (hasSuffix_iff _ _).1 h6
      obtain ⟨r, h1, h2, h3⟩ := subnetV6_spec pre (noUpper_mono _ _ hu (by simp +contextual))
      simp only [h6, if_true, h1, GoM.ok_bind]
      exact ⟨_, rfl, fun _ => by rw [okVal_wrapARPA, h2],
        fun p hp => Or.inr (h3 p ((C04.wrapARPA_ok _ _ _).1 hp))⟩
    · simp only [h6]
      refine ⟨_, rfl, fun _ => ?_, fun p hp => nomatch hp⟩
      cases hs : arpaPrefixSpec (splitOn 46 arpa) with
      | none => rfl
      | some p =>
        exfalso
        obtain ⟨R, hR | hR⟩ := spec_some_root _ _ hs
        · exact h4 (hasSuffix_of_root arpa _ R (string_of_root arpa _ R hR))
        · exact h6 (hasSuffix_of_root arpa _ R (string_of_root arpa _ R hR))

/-- `domLen < sufLen || domain[domLen-sufLen] == '.'` -/
def alignedAt (domain : Bytes) (sufLen : Nat) : GoM Bool :=
  if (domain.length : Int) < (sufLen : Int) then pure true
  else (do let c ← GoM.idx domain ((domain.length : Int) - (sufLen : Int)); pure (decide (c = 46)))

theorem alignedAt_eval (pre tail : Bytes) (sufLen : Nat) (h : tail.length + 1 = sufLen) :
    alignedAt (pre ++ tail) sufLen = .ok (decide (pre = [] ∨ pre.getLast? = some 46)) := by
  unfold alignedAt
  cases hgl : pre.getLast? with
  | none =>
    have : pre = [] := List.getLast?_eq_none_iff.1 hgl
    subst this
    simp only [List.nil_append]
    have : (tail.length : Int) < (sufLen : Int) := by omega
    simp [this, pure, Except.pure]
  | some z =>
    obtain ⟨f, rfl⟩ := List.getLast?_eq_some_iff.1 hgl
    have hlt : ¬ (((f ++ [z] ++ tail).length : Int) < (sufLen : Int)) := by simp; omega
    simp only [hlt, if_false, bind, Except.bind, pure, Except.pure]
    have e1 : f ++ [z] ++ tail = f ++ z :: tail := by simp
    rw [e1, idx_app f tail z _ (by simp; omega)]
    simp

theorem head_frontOf_ne_dot (R : List Bytes) (hne : ∀ x ∈ R, x ≠ []) (hd : ∀ x ∈ R, DotFree x) :
    (frontOf R).head? ≠ some 46 := by
  cases hgl : R.getLast? with
  | none =>
    have : R = [] := List.getLast?_eq_none_iff.1 hgl
    subst this; simp [frontOf]
  | some x =>
    obtain ⟨ys, rfl⟩ := List.getLast?_eq_some_iff.1 hgl
    have hx := hne x (by simp)
    have hxd := hd x (by simp)
    cases x with
    | nil => exact absurd rfl hx
    | cons c x' =>
      simp only [frontOf_append, frontOf, List.nil_append, List.cons_append, List.head?_cons]
      intro h
      apply hxd
      simp at h; simp [h]

theorem isNib_iff (x : Bytes) : isNib x = true ↔ ∃ c, x = [c] ∧ fromHexByte c ≠ 255 := by
  match x with
  | [] => simp [isNib]
  | [c] => simp [isNib]
  | _ :: _ :: _ => simp [isNib]

theorem nibbleVal_none_of_not_isNib (x : Bytes) (h : isNib x = false) : nibbleVal x = none := by
  cases hv : nibbleVal x with
  | none => rfl
  | some v =>
    obtain ⟨hlt, rfl⟩ := (nibbleVal_iff x v).1 hv
    simp [isNib, (C04.hexChar_table v hlt).2.1] at h
    omega

theorem mem_frontOf (F : List Bytes) (x : Bytes) (c : Nat) (hx : x ∈ F) (hc : c ∈ x) :
    c ∈ frontOf F := by
  induction F with
  | nil => cases hx
  | cons y F ih =>
    simp only [frontOf, List.mem_append]
    rcases List.mem_cons.1 hx with rfl | hx
    · exact Or.inl (Or.inr hc)
    · exact Or.inl (Or.inl (ih hx))

theorem unaligned_ne (pre fam : Bytes) (R : List Bytes) (hal : ¬ (pre = [] ∨ pre.getLast? = some 46)) :
    pre ++ (fam ++ 46 :: lblArpa) ≠ frontOf R ++ fam ++ 46 :: lblArpa := by
  intro heq
  have : pre = frontOf R := List.append_cancel_right (by rw [heq]; simp)
  rcases frontOf_dot_or_nil R with h | ⟨y, hy⟩
  · exact hal (Or.inl (by rw [this, h]; rfl))
  · exact hal (Or.inr (by rw [this, hy]; simp))

theorem extract_run (toASCII : Bytes → Option Bytes) (s d0 : Bytes)
    (hp : arpaPrologue toASCII s = .ok (.ok d0)) :
    (∃ r, extractReversedAddr toASCII s = .ok r ∧
        okVal r = longestArpaSuffix (splitOn 46 (asciiLower d0)) ∧
        (∀ p, r = .ok p → V4Shape p ∨ V6Shape p)) ∨
      ((asciiLower d0).head? = some 46 ∧ ∃ e, extractReversedAddr toASCII s = .error e) := by
  have hu : NoUpper (asciiLower d0) := C04.asciiLower_not_upper d0
  unfold extractReversedAddr
  simp only [hp, GoM.ok_bind, v4tail_eq, v6tail_eq]
  generalize asciiLower d0 = domain at hu ⊢
  by_cases h4 : hasSuffix domain v4tail = true
  · left
    obtain ⟨pre, rfl⟩ := (hasSuffix_iff _ _).1 h4
    have hal := alignedAt_eval pre v4tail arpaV4Suffix.length (by decide)
    unfold alignedAt at hal
    simp only [h4, if_true]
    rw [ite_bind, hal, GoM.ok_bind]
    by_cases hal : pre = [] ∨ pre.getLast? = some 46
    · obtain ⟨F, hFd, rfl⟩ := exists_frontOf_of_aligned pre hal
      obtain ⟨taken, hsplit, htok, hlong⟩ := longest_of_scan octetOK octetVal 4 v4Prefix lblInAddr
        dotfree_inaddr (fun ls R h => by rw [spec_of_rev ls _ R h, if_pos rfl]) F hFd
        (fun x _ hx => by simp [octetVal, hx]) (fun x hx => (octetVal_eq_none x).2 hx)
      have htd : ∀ x ∈ taken, DotFree x := fun x hx => octetOK_dotfree x (htok x hx)
      obtain ⟨r, hr1, hr2, hr3⟩ := subnetV4_spec (frontOf taken)
      simp only [hal, decide_true, if_true, indexFirstV4Label_frontOf F hFd, GoM.ok_bind]
      rw [frontOf_scanP octetOK 4 F taken hsplit, GoM.sliceFrom_append_len _ _, GoM.ok_bind, hr1, GoM.ok_bind,
        ← frontOf_scanP octetOK 4 F taken hsplit]
      refine ⟨_, rfl, ?_, fun p hp => Or.inl (hr3 p ((C04.wrapARPA_ok _ _ _).1 hp))⟩
      rw [okVal_wrapARPA, hr2 (head_frontOf_ne_dot taken (fun x hx => octetOK_ne_nil x (htok x hx)) htd)]
      exact hlong.symm
    · simp only [hal, decide_false, Bool.false_eq_true, if_false]
      refine ⟨_, rfl, ?_, fun p hp => nomatch hp⟩
      symm
      apply longest_none_of
      rintro R fam (rfl | rfl)
      · exact unaligned_ne pre lblInAddr R hal
      · intro heq
        have h2 : (pre ++ lblInAddr) ++ 46 :: lblArpa = (frontOf R ++ lblIp6) ++ 46 :: lblArpa := by
          rw [← heq]; simp [v4tail]
        exact inaddr_ne_ip6 _ _ (List.append_cancel_right h2)
  · simp only [h4, Bool.false_eq_true, if_false]
    by_cases h6 : hasSuffix domain v6tail = true
    · obtain ⟨pre, rfl⟩ := (hasSuffix_iff _ _).1 h6
      have hal := alignedAt_eval pre v6tail arpaV6Suffix.length (by decide)
      unfold alignedAt at hal
      simp only [h6, if_true]
      rw [ite_bind, hal, GoM.ok_bind]
      by_cases hal : pre = [] ∨ pre.getLast? = some 46
      · obtain ⟨F, hFd, rfl⟩ := exists_frontOf_of_aligned pre hal
        simp only [hal, decide_true, if_true]
        rcases indexFirstV6Label_frontOf F hFd with hidx | ⟨hd, e, hidx⟩
        · left
          obtain ⟨taken, hsplit, htok, hlong⟩ := longest_of_scan isNib nibbleVal 32 v6Prefix lblIp6
            dotfree_ip6 (fun ls R h => by rw [spec_of_rev ls _ R h, if_neg (by decide), if_pos rfl])
            F hFd
            (fun x hx hn => by
              obtain ⟨c, rfl, hc⟩ := (isNib_iff x).1 hn
              rw [nibbleVal_of_hex c hc (hu c (by simp [mem_frontOf F [c] c hx]))]
              rfl)
            (fun x hx => nibbleVal_none_of_not_isNib x hx)
          have hdom := frontOf_scanP isNib 32 F taken hsplit v6tail
          obtain ⟨r, hr1, hr2, hr3⟩ := subnetV6_spec (frontOf taken)
            (noUpper_mono _ _ hu (by rw [hdom]; simp +contextual))
          simp only [hidx, GoM.ok_bind]
          rw [hdom, GoM.sliceFrom_append_len _ _, GoM.ok_bind, hr1, GoM.ok_bind, ← hdom]
          refine ⟨_, rfl, ?_, fun p hp => Or.inr (hr3 p ((C04.wrapARPA_ok _ _ _).1 hp))⟩
          rw [okVal_wrapARPA, hr2]
          exact hlong.symm
        · right
          exact ⟨hd, e, by rw [hidx]; rfl⟩
      · left
        simp only [hal, decide_false, Bool.false_eq_true, if_false]
        refine ⟨_, rfl, ?_, fun p hp => nomatch hp⟩
        symm
        apply longest_none_of
        rintro R fam (rfl | rfl)
        · intro heq
          exact h4 (hasSuffix_of_root _ _ R heq)
        · exact unaligned_ne pre lblIp6 R hal
    · left
      simp only [h6, Bool.false_eq_true, if_false]
      refine ⟨_, rfl, ?_, fun p hp => nomatch hp⟩
      symm
      apply longest_none_of
      rintro R fam (rfl | rfl) heq
      · exact h4 (hasSuffix_of_root _ _ R heq)
      · exact h6 (hasSuffix_of_root _ _ R heq)
/-- `PrefixFromReversedAddr`: a name that fails validation is rejected; on a valid one the
result is what the reference decoder reads off the labels, unless the name starts with a dot -/
theorem prefix_cases (toASCII : Bytes → Option Bytes) (s : Bytes) :
    (validateDomainName toASCII (trimSuffix s [46]) ≠ .ok none ∧
      ∃ e, prefixFromReversedAddr toASCII s = .ok (.error e)) ∨
    (validateDomainName toASCII (trimSuffix s [46]) = .ok none ∧
      ∃ r, prefixFromReversedAddr toASCII s = .ok r ∧
        ((asciiLower (trimSuffix s [46])).head? ≠ some 46 → okVal r = arpaPrefixSpec (labelsOf s)) ∧
        (∀ p, r = .ok p → V4Shape p ∨ V6Shape p)) := by
  rcases C04.prologue_cases toASCII s with ⟨hv, hp⟩ | ⟨inner, hp⟩
  · exact Or.inr ⟨hv, prefix_run toASCII s _ hp⟩
  · refine Or.inl ⟨fun hv => ?_, _, by unfold prefixFromReversedAddr; rw [hp]; rfl⟩
    rw [C04.prologue_accept toASCII s hv] at hp
    cases hp

theorem prefix_sound_of_head (toASCII : Bytes → Option Bytes) (s : Bytes) (p : Prefix)
    (hhead : validateDomainName toASCII (trimSuffix s [46]) = .ok none →
      (trimSuffix s [46]).head? ≠ some 46)
    (h : prefixFromReversedAddr toASCII s = .ok (.ok p)) : arpaPrefixSpec (labelsOf s) = some p := by
  rcases prefix_cases toASCII s with ⟨_, e, he⟩ | ⟨hv, r, hr, hspec, _⟩
  · rw [he] at h; cases h
  · rw [hr] at h
    cases Except.ok.inj h
    exact (hspec fun hd => hhead hv ((head_asciiLower _).1 hd)).symm

/-- `ExtractReversedAddr`: a name that fails validation is rejected; on a valid one the result
is what the reference decoder reads off the longest suffix, unless the name starts with a dot,
when `indexFirstV6Label` may read `domain[-1]` -/
theorem extract_cases (toASCII : Bytes → Option Bytes) (d : Bytes) :
    (validateDomainName toASCII (trimSuffix d [46]) ≠ .ok none ∧
      ∃ e, extractReversedAddr toASCII d = .ok (.error e)) ∨
    (validateDomainName toASCII (trimSuffix d [46]) = .ok none ∧
      ((∃ r, extractReversedAddr toASCII d = .ok r ∧ okVal r = longestArpaSuffix (labelsOf d) ∧
          (∀ p, r = .ok p → V4Shape p ∨ V6Shape p)) ∨
        ((asciiLower (trimSuffix d [46])).head? = some 46 ∧
          ∃ e, extractReversedAddr toASCII d = .error e))) := by
  rcases C04.prologue_cases toASCII d with ⟨hv, hp⟩ | ⟨inner, hp⟩
  · exact Or.inr ⟨hv, extract_run toASCII d _ hp⟩
  · refine Or.inl ⟨fun hv => ?_, _, by unfold extractReversedAddr; rw [hp]; rfl⟩
    rw [C04.prologue_accept toASCII d hv] at hp
    cases hp

end GolibsVerif.C05
