/-
C10 — calls and their frames: a running `Set` owns exactly one frame, which has not returned,
and nobody else owns it; the events of a call's sections are events of that call
(`CallFrames.sec_opEv`).
-/
import GolibsVerif.Lemmas.C10

namespace GolibsVerif.C10
open GolibsVerif.C09

structure CallFrames (σ : KSt) : Prop where
  /-- a running `Set` owns a frame with its key and value that has not returned -/
  own : ∀ (id : Nat) (op : Call) (i : Nat), σ.calls[id]? = some ⟨op, .running (some i)⟩ →
    ∃ f : Frame, σ.f.frames[i]? = some f ∧ f.phase ≠ .done ∧ op = .set f.key f.val
  /-- no two running calls own the same frame -/
  inj : ∀ (id id' : Nat) (op op' : Call) (i : Nat), σ.calls[id]? = some ⟨op, .running (some i)⟩ →
    σ.calls[id']? = some ⟨op', .running (some i)⟩ → id = id'
  /-- a running call without a frame is a one-section call -/
  one : ∀ (id : Nat) (op : Call), σ.calls[id]? = some ⟨op, .running none⟩ → ∀ k v, op ≠ .set k v

theorem CallFrames.init : CallFrames KSt.init :=
  ⟨by simp [KSt.init], by simp [KSt.init], by simp [KSt.init]⟩

/-- what a section of frame `i` does to the frames: frame `i` changes phase — to `done` exactly
when the section fixes the result — and every other frame stays -/
theorem fstep_frame_phase {c : Conf} {σ σ' : FSt} {i : Nat} {ev : Ev}
    (hs : FStep c σ (.sec (some i) ev) σ') :
    ∃ (f : Frame) (p : Phase), σ.frames[i]? = some f ∧
      (∀ j, σ'.frames[j]? = if j = i then some { f with phase := p } else σ.frames[j]?) ∧
      (p = .done ↔ (resOf ev).isSome) := by
  obtain ⟨f, p, s, hf, hsec, rfl⟩ := fstep_set_inv hs
  refine ⟨f, p, hf, fun j => move_frames _ _ hf j, ?_⟩
  cases hsec with
  | evict => cases c.hasCb <;> simp [resOf]
  | _ => simp [resOf]

theorem statusAfter_running {fr fr' : Option Nat} {ev : Ev} (h : statusAfter fr ev = .running fr') :
    resOf ev = none ∧ fr' = fr := by
  unfold statusAfter at h
  split at h
  · cases h
  · rename_i hr; injection h with h; exact ⟨hr, h.symm⟩

/-- replacing the status `st` of call `id` by `st'`, where `st'` is running only if it is `st`,
creates no running entry: an entry that is running afterwards was there before -/
theorem running_of_set {calls : List CallSt} {id : Nat} {op : Call} {st st' : Status}
    (hc : calls[id]? = some ⟨op, st⟩) (hst : ∀ fr, st' = .running fr → st = .running fr)
    {x : Nat} {o : Call} {fr : Option Nat}
    (hx : (calls.set id ⟨op, st'⟩)[x]? = some ⟨o, .running fr⟩) :
    calls[x]? = some ⟨o, .running fr⟩ := by
  rcases getElem?_set_cases hx with ⟨rfl, heq⟩ | ⟨_, h1⟩
  · injection heq with h1 h2
    rw [hc, h1, hst fr h2.symm]
  · exact h1

/-- a step that updates the status of call `id` in place keeps `CallFrames` if the frames of the
calls that are running afterwards keep their key and value and have still not returned -/
theorem callFrames_set {σ : KSt} (h : CallFrames σ) {id : Nat} {op : Call} {st st' : Status}
    (hc : σ.calls[id]? = some ⟨op, st⟩) (hst : ∀ fr, st' = .running fr → st = .running fr)
    {f' : FSt}
    (hfr : ∀ (x : Nat) (o : Call) (j : Nat) (f : Frame),
      σ.calls[x]? = some ⟨o, .running (some j)⟩ → (x = id → st' = .running (some j)) →
      σ.f.frames[j]? = some f → f.phase ≠ .done →
      ∃ f2 : Frame, f'.frames[j]? = some f2 ∧ f2.phase ≠ .done ∧ f2.key = f.key ∧ f2.val = f.val) :
    CallFrames ⟨f', σ.calls.set id ⟨op, st'⟩⟩ := by
  refine ⟨?_, ?_, ?_⟩
  · intro x o j hx
    have hold := running_of_set hc hst hx
    obtain ⟨f, hf, hp, hop⟩ := h.own x o j hold
    have hnew : x = id → st' = .running (some j) := by
      rintro rfl
      rw [getElem?_set_self' hc] at hx
      injection hx with hx; injection hx
    obtain ⟨f2, hf2, hp2, hk, hv⟩ := hfr x o j f hold hnew hf hp
    exact ⟨f2, hf2, hp2, by rw [hk, hv]; exact hop⟩
  · intro x x' o o' j hx hx'
    exact h.inj x x' o o' j (running_of_set hc hst hx) (running_of_set hc hst hx')
  · intro x o hx
    exact h.one x o (running_of_set hc hst hx)

/-- an invocation keeps `CallFrames`: the new call is a one-section call, or a `Set` with the new
last frame -/
theorem callFrames_push {σ : KSt} (h : CallFrames σ) {op : Call} {fr : Option Nat} {f' : FSt}
    (hold : ∀ (j : Nat) (f : Frame), σ.f.frames[j]? = some f → f'.frames[j]? = some f)
    (hnew : match fr with
      | some i => i = σ.f.frames.length ∧
          ∃ f : Frame, f'.frames[i]? = some f ∧ f.phase ≠ .done ∧ op = .set f.key f.val
      | none => ∀ k v, op ≠ .set k v) :
    CallFrames ⟨f', σ.calls ++ [⟨op, .running fr⟩]⟩ := by
  -- frames owned so far are older than a new one
  have hlt : ∀ (id : Nat) (o : Call) (i : Nat),
      σ.calls[id]? = some ⟨o, .running (some i)⟩ → i < σ.f.frames.length := by
    intro id o i hc
    obtain ⟨f, hf, _⟩ := h.own id o i hc
    exact List.lt_of_getElem? hf
  refine ⟨?_, ?_, ?_⟩
  · intro id o i hc
    rcases getElem?_snoc_lt hc with h1 | ⟨_, heq⟩
    · obtain ⟨f, hf, hp, hop⟩ := h.own id o i h1
      exact ⟨f, hold i f hf, hp, hop⟩
    · cases heq
      exact hnew.2
  · intro id id' o o' i hc hc'
    rcases getElem?_snoc_lt hc with h1 | ⟨hid, heq⟩ <;>
      rcases getElem?_snoc_lt hc' with h1' | ⟨hid', heq'⟩
    · exact h.inj id id' o o' i h1 h1'
    · cases heq'
      have := hlt id o i h1
      have := hnew.1
      omega
    · cases heq
      have := hlt id' o' i h1'
      have := hnew.1
      omega
    · omega
  · intro id o hc
    rcases getElem?_snoc_lt hc with h1 | ⟨_, heq⟩
    · exact h.one id o h1
    · cases heq
      exact hnew

theorem callFrames_step {c : Conf} {σ σ' : KSt} {ev : KEv} (h : CallFrames σ)
    (hs : KStep c σ ev σ') : CallFrames σ' := by
  cases hs with
  | invSet k v f' hf =>
    cases hf with
    | call =>
      exact callFrames_push h (fun j f hf => getElem?_append_some _ hf)
        ⟨rfl, ⟨k, v, .start⟩, by simp, by simp, rfl⟩
  | inv op hop => exact callFrames_push h (fun _ _ hf => hf) hop
  | secSet id i k v e f' hc hf =>
    obtain ⟨f, p, hff, hfr, hdone⟩ := fstep_frame_phase hf
    refine callFrames_set h hc (fun fr hst => by rw [(statusAfter_running hst).2]) ?_
    intro x o j g hx hnew hg hp
    by_cases hji : j = i
    · -- the frame of this very call: it goes on, so the section has not fixed its result
      subst hji
      rw [hff] at hg; injection hg with hg; subst hg
      have hr := (statusAfter_running (hnew (h.inj x id o _ j hx hc))).1
      refine ⟨{ f with phase := p }, by rw [hfr]; simp, fun hpd => ?_, rfl, rfl⟩
      have := hdone.1 hpd
      rw [hr] at this; cases this
    · exact ⟨g, by rw [hfr]; simp [hji, hg], hp, rfl, rfl⟩
  | secOne id op e f' hc hsecof hf =>
    have hfr := fstep_none_frames hf
    refine callFrames_set h hc (fun fr hst => ?_) ?_
    · obtain ⟨r, hr⟩ := resOf_of_isSecOf hsecof
      rw [(statusAfter_running hst).1] at hr; cases hr
    · intro x o j g _ _ hg hp
      exact ⟨g, by rw [hfr]; exact hg, hp, rfl, rfl⟩
  | ret id op r hc =>
    refine callFrames_set h hc (fun fr hst => by cases hst) ?_
    intro x o j g _ _ hg hp
    exact ⟨g, hg, hp, rfl, rfl⟩

theorem callFrames_reachable {c : Conf} {log : List KRec} {σ : KSt}
    (ht : CTrace c KSt.init log σ) : CallFrames σ := by
  refine ctrace_snoc_ind (P := fun _ σ => CallFrames σ) CallFrames.init ?_ ht
  intro l σ ev σ' _ ih hstep
  exact callFrames_step ih hstep

theorem CallFrames.sec_opEv {c : Conf} {σ σ' : KSt} (h : CallFrames σ) {id : Nat} {e : Ev}
    (hs : KStep c σ (.sec id e) σ') {op : Call} {fr : Option Nat}
    (hc : σ.calls[id]? = some ⟨op, .running fr⟩) : OpEv op e := by
  have hf := kstep_fstep hs
  obtain ⟨op', fr', hc', _, hone⟩ := kstep_calls hs
  rw [hc] at hc'
  cases hc'
  cases fr with
  | none => exact opEv_of_isSecOf (hone rfl)
  | some i =>
    obtain ⟨f, hff, _, rfl⟩ := h.own id op i hc
    simp only [frameOf_set hc] at hf
    exact fstep_frame_ev hf hff

end GolibsVerif.C10
