/- C04: decimal numerals and hex digits of the canonical names, ASCII lower-casing, `joinDot`
against `splitOn`. -/
import GolibsVerif.Spec.C04
import GolibsVerif.Model.NetReversed
import GolibsVerif.Lemmas.GoM
import GolibsVerif.Lemmas.Strings
import GolibsVerif.Lemmas.Digits

namespace GolibsVerif.C04
open GolibsVerif.Netutil GolibsVerif.Str GolibsVerif.Netip GolibsVerif.Gen.Consts GolibsVerif

/-- the model's `strconv.Itoa` of a byte is the decimal numeral -/
theorem itoa_eq_dec (n : Nat) (h : n < 1000) : itoa n = dec n := by
  unfold itoa
  by_cases h1 : n < 10
  · rw [if_pos h1, dec_lt10 n h1]
  · by_cases h2 : n < 100
    · rw [if_neg h1, if_pos h2, dec_ge10 n (by omega), dec_lt10 (n / 10) (by omega)]; rfl
    · rw [if_neg h1, if_neg h2, dec_ge10 n (by omega), dec_ge10 (n / 10) (by omega),
        dec_lt10 (n / 10 / 10) (by omega), show n / 10 / 10 = n / 100 by omega]; rfl

/-- the sixteen hexadecimal digits, by evaluation: the digit `strconv` writes for `n` is
`hexChar n`, `fromHexByte` reads it back, and it is one of `0`–`9`, `a`–`f` -/
theorem hexChar_table : ∀ n < 16, hexDigit n = hexChar n ∧ fromHexByte (hexChar n) = n ∧
    ((48 ≤ hexChar n ∧ hexChar n ≤ 57) ∨ (97 ≤ hexChar n ∧ hexChar n ≤ 102)) := by decide

theorem hexChar_lower : ∀ n < 16, lowerByte (hexChar n) = hexChar n := by
  intro n h
  have := (hexChar_table n h).2.2
  rw [lowerByte, if_neg (by omega)]

theorem fromHexByte_inv (c : Nat) (hc : ¬ (65 ≤ c ∧ c ≤ 90)) (h : fromHexByte c ≠ 255) :
    fromHexByte c < 16 ∧ c = hexChar (fromHexByte c) := by
  unfold fromHexByte hexVal at h ⊢
  by_cases h1 : 48 ≤ c ∧ c ≤ 57
  · rw [if_pos h1, Option.getD_some, ← (hexChar_table (c - 48) (by omega)).1, hexDigit, if_pos (by omega)]
    omega
  rw [if_neg h1] at h ⊢
  by_cases h2 : 97 ≤ c ∧ c ≤ 102
  · rw [if_pos h2, Option.getD_some, ← (hexChar_table (c - 97 + 10) (by omega)).1, hexDigit,
      if_neg (by omega)]
    omega
  rw [if_neg h2, if_neg fun h3 => hc ⟨h3.1, by omega⟩] at h
  exact absurd rfl h

theorem hexChar_not_upper (n : Nat) : ¬ (65 ≤ hexChar n ∧ hexChar n ≤ 90) := by
  by_cases h : n < 16
  · have := (hexChar_table n h).2.2; omega
  · have : hexChar n = 0 := by
      unfold hexChar
      rw [List.getD_eq_getElem?_getD, List.getElem?_eq_none (by simp; omega)]; rfl
    omega

theorem lowerByte_not_upper (b : Nat) : ¬ (65 ≤ lowerByte b ∧ lowerByte b ≤ 90) := by
  unfold lowerByte; split <;> omega

/-- no ASCII upper-case letter (what `toLowerASCII` guarantees) -/
def NoUpper (s : Bytes) : Prop := ∀ b ∈ s, ¬ (65 ≤ b ∧ b ≤ 90)

theorem asciiLower_not_upper (s : Bytes) : NoUpper (asciiLower s) := by
  intro c hc
  simp only [asciiLower, List.mem_map] at hc
  obtain ⟨b, _, rfl⟩ := hc
  exact lowerByte_not_upper b

theorem lowerByte_eq_dot (b : Nat) : lowerByte b = 46 ↔ b = 46 := by
  unfold lowerByte; split <;> omega

theorem lowerByte_lt128 (b : Nat) (h : lowerByte b < 128) : b < 128 := by
  unfold lowerByte at h; split at h <;> omega

theorem asciiLower_length (s : Bytes) : (asciiLower s).length = s.length := by
  simp [asciiLower]

theorem asciiLower_append (s t : Bytes) : asciiLower (s ++ t) = asciiLower s ++ asciiLower t := by
  simp [asciiLower]

theorem splitOn_asciiLower (s : Bytes) :
    splitOn 46 (asciiLower s) = (splitOn 46 s).map asciiLower := by
  induction s with
  | nil => simp [splitOn, asciiLower]
  | cons b rest ih =>
    have hne := splitOn_ne_nil 46 rest
    simp only [asciiLower, List.map_cons] at ih ⊢
    unfold splitOn
    by_cases hb : b = 46
    · subst hb
      have : lowerByte 46 = 46 := by decide
      simp [this, ih, asciiLower]
    · have hb' : lowerByte b ≠ 46 := fun h => hb ((lowerByte_eq_dot b).1 h)
      simp only [hb, hb', if_false]
      rw [ih]
      cases hs : splitOn 46 rest with
      | nil => exact absurd hs hne
      | cons p ps => simp [asciiLower]

theorem joinDot_cons_cons (l l' : Bytes) (ls : List Bytes) :
    joinDot (l :: l' :: ls) = l ++ 46 :: joinDot (l' :: ls) := rfl

theorem splitOn_append_dot (l rest : Bytes) (hl : ∀ c ∈ l, c ≠ 46) :
    splitOn 46 (l ++ 46 :: rest) = l :: splitOn 46 rest :=
  splitOn_append_sep 46 l rest fun h => hl 46 h rfl

theorem splitOn_nodot (l : Bytes) (hl : ∀ c ∈ l, c ≠ 46) : splitOn 46 l = [l] :=
  splitOn_not_mem 46 l fun h => hl 46 h rfl

theorem splitOn_joinDot (ls : List Bytes) (hne : ls ≠ []) (hl : ∀ l ∈ ls, ∀ c ∈ l, c ≠ 46) :
    splitOn 46 (joinDot ls) = ls := by
  induction ls with
  | nil => exact absurd rfl hne
  | cons l rest ih =>
    cases rest with
    | nil => simpa [joinDot] using splitOn_nodot l (hl l (by simp))
    | cons l' rest' =>
      rw [joinDot_cons_cons, splitOn_append_dot l _ (hl l (by simp))]
      rw [ih (by simp) (fun x hx => hl x (by simp [hx]))]

theorem joinDot_append_two (ls : List Bytes) (x y : Bytes) :
    joinDot (ls ++ [x, y]) = ls.flatMap (fun l => l ++ [46]) ++ (x ++ 46 :: y) := by
  induction ls with
  | nil => simp [joinDot]
  | cons l rest ih =>
    have : (l :: rest) ++ [x, y] = l :: (rest ++ [x, y]) := rfl
    rw [this]
    cases hr : rest ++ [x, y] with
    | nil => simp at hr
    | cons a as =>
      rw [joinDot_cons_cons, ← hr, ih]
      simp

theorem idx_of_drop (s : Bytes) (n k c : Nat) (j : Int) (hj : j = ((n + k : Nat) : Int))
    (h : (s.drop n)[k]? = some c) : GoM.idx s j = .ok c := by
  subst hj
  rw [List.getElem?_drop] at h
  have h1 : ¬ (((n + k : Nat) : Int) < 0) := by omega
  simp only [GoM.idx, h1, if_false, Int.toNat_natCast, h]

end GolibsVerif.C04
