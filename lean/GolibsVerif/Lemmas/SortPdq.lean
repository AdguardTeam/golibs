/-
`pdqsortCmpFunc` of `Go/Sort.lean`.

`pdqsort_spec`, by induction on the fuel (every tail call and every recursive call works on a
strictly shorter range):
* for EVERY comparator the call succeeds — no index out of range, the fuel suffices — and
  permutes `[0, b)` (not `[a, b)`: see `Lemmas/SortPartial.lean`);
* for a strict weak order, under the invariant `LB` (`data[a-1]`, if any, is a lower bound of
  `[a, b)`) only `[a, b)` is permuted and it is sorted afterwards.
-/
import GolibsVerif.Lemmas.SortPartition
import GolibsVerif.Lemmas.SortHeap
import GolibsVerif.Lemmas.SortMisc
import GolibsVerif.Lemmas.SortPartial

namespace GolibsVerif.Slices

variable {α : Type} {cmp : α → α → Int}

theorem pdqBreak_spec (d : Array α) (a b limit : Int) (wb : Bool) (ha : 0 ≤ a) (hb : b ≤ d.size) :
    ∃ d1 l1, pdqBreak d a b limit wb = .ok (d1, l1) ∧ Frame d d1 a b := by
  unfold pdqBreak
  split
  · obtain ⟨d1, h1, hf1⟩ := breakPatterns_spec d a b ha hb
    simp only [h1, ok_bind, pure_ok]
    exact ⟨d1, _, rfl, hf1⟩
  · exact ⟨d, _, rfl, Frame.refl ..⟩

theorem pdqPivot_spec (cmp : α → α → Int) (d : Array α) (a b : Int) (ha : 0 ≤ a) (hab : a < b)
    (hb : b ≤ d.size) :
    ∃ d2 pivot hint, pdqPivot cmp d a b = .ok (d2, pivot, hint) ∧ Frame d d2 a b ∧ a ≤ pivot ∧ pivot < b := by
  obtain ⟨pivot, hint, h1, hp1, hp2⟩ := choosePivot_spec cmp d a b ha hab hb
  simp only [pdqPivot, h1, ok_bind]
  split
  · obtain ⟨d2, h2, hf2⟩ := reverseRange_spec d a b ha hb
    simp only [h2, ok_bind, pure_ok]
    exact ⟨d2, _, _, rfl, hf2, by omega, by omega⟩
  · exact ⟨d, pivot, hint, rfl, Frame.refl .., hp1, hp2⟩

theorem pdqPartial_spec (cmp : α → α → Int) (d : Array α) (a b : Int) (wb wp : Bool) (hint : SortedHint)
    (ha : 0 ≤ a) (hab : a < b) (hb : b ≤ d.size) :
    ∃ d3 done, pdqPartial cmp d a b wb wp hint = .ok (d3, done) ∧ Frame d d3 0 b ∧
      (WeakCmp cmp → LB cmp d a b → Frame d d3 a b ∧ (done = true → SortedOn cmp d3 a b)) := by
  unfold pdqPartial
  split
  · exact partialInsertionSort_spec cmp d a b ha hab hb
  · exact ⟨d, false, rfl, Frame.refl .., fun _ _ => ⟨Frame.refl .., by intro h; cases h⟩⟩

theorem pdqEqTest_spec (cmp : α → α → Int) (d : Array α) (a pivot : Int) (hap : a ≤ pivot)
    (hp : pivot < d.size) :
    ∃ e, pdqEqTest cmp d a pivot = .ok e ∧ (e = true → a > 0 ∧ NotLess cmp d (a - 1) pivot) := by
  unfold pdqEqTest
  split
  · rename_i h0
    obtain ⟨x, hx⟩ := at?_eq_some d (a - 1) (by omega)
    obtain ⟨y, hy⟩ := at?_eq_some d pivot (by omega)
    simp only [get_ok hx, get_ok hy, ok_bind, pure_ok]
    exact ⟨_, rfl, fun he => ⟨h0, NotLess.of_get hx hy (by simpa using he)⟩⟩
  · exact ⟨false, rfl, by intro h; cases h⟩

theorem Parted.lb {d : Array α} {a mid b : Int} {p : α} (h : Parted cmp d a mid b p) :
    LB cmp d (mid + 1) b := by
  intro _ k hk1 hk2 x m hx hm
  rw [show mid + 1 - 1 = mid by omega, h.pivot] at hm
  cases hm
  exact h.notLess k x hk1 hk2 hx

theorem Parted.sorted {d : Array α} {a mid b : Int} {p : α} (h : Parted cmp d a mid b p)
    (hw : WeakCmp cmp) (hL : SortedOn cmp d a mid) (hR : SortedOn cmp d (mid + 1) b) : SortedOn cmp d a b := by
  intro i j hi hij hj
  by_cases hjm : j < mid
  · exact hL i j hi hij hjm
  · by_cases him : mid < i
    · exact hR i j (by omega) hij hj
    · intro y x hy hx
      by_cases hje : j = mid
      · subst hje
        rw [h.pivot] at hy; cases hy
        exact hw.asymm (h.less i x hi hij hx)
      · have hy' := h.notLess j y (by omega) hj hy
        by_cases hie : i = mid
        · subst hie
          rw [h.pivot] at hx; cases hx
          exact hy'
        · exact hw.asymm (hw.lt_of_lt_of_le (h.less i x hi (by omega) hx) hy')

/-- after `partitionEqual` and sorting the right part the range is sorted -/
theorem sorted_join_eq (hw : WeakCmp cmp) {d : Array α} {a mid b : Int} {p : α}
    (hR : SortedOn cmp d mid b) (hle : AllOn (fun x => ¬ cmp p x < 0) d a mid)
    (hge : AllOn (fun x => ¬ cmp x p < 0) d a mid) (hgt : AllOn (fun x => cmp p x < 0) d mid b) :
    SortedOn cmp d a b := by
  intro i j hi hij hj
  by_cases him : mid ≤ i
  · exact hR i j him hij hj
  · intro y x hy hx
    have hx' := hle i x hi (by omega) hx
    by_cases hjm : j < mid
    · exact hw.le_trans hx' (hge j y (by omega) hjm hy)
    · exact hw.asymm (hw.lt_of_le_of_lt hx' (hgt j y (by omega) hj hy))

theorem pdqsort_spec (cmp : α → α → Int) : ∀ (fuel : Nat) (d : Array α) (a b limit : Int) (wb wp : Bool),
    b - a < fuel → 0 ≤ a → a ≤ b → b ≤ d.size →
    ∃ d', pdqsort cmp fuel d a b limit wb wp = .ok d' ∧ Frame d d' 0 b ∧
      (WeakCmp cmp → LB cmp d a b → Frame d d' a b ∧ SortedOn cmp d' a b) := by
  intro fuel
  induction fuel with
  | zero => intro d a b limit wb wp hf; omega
  | succ fuel ih =>
    intro d a b limit wb wp hfu ha hab hb
    simp only [pdqsort]
    by_cases hlen : b - a ≤ maxInsertion
    · rw [if_pos hlen]
      obtain ⟨d', h1, hf, hs⟩ := insertionSort_spec cmp d a b ha hb
      exact ⟨d', h1, hf.mono ha (Int.le_refl _), fun hw _ => ⟨hf, hs hw⟩⟩
    · rw [if_neg hlen]
      have hlen' : 12 < b - a := by simp only [maxInsertion] at hlen; omega
      by_cases hlim : limit = 0
      · rw [if_pos hlim]
        obtain ⟨d', h1, hf, hs⟩ := heapSort_spec cmp d a b ha (by omega) hb
        exact ⟨d', h1, hf.mono ha (Int.le_refl _), fun hw _ => ⟨hf, hs hw⟩⟩
      · rw [if_neg hlim]
        obtain ⟨d1, l1, h1, hf1⟩ := pdqBreak_spec d a b limit wb ha hb
        have hb1 := hf1.size_le hb
        obtain ⟨d2, pivot, hint, h2, hf2, hp1, hp2⟩ := pdqPivot_spec cmp d1 a b ha (by omega) hb1
        have hb2 := hf2.size_le hb1
        obtain ⟨d3, done, h3, hf3, hw3⟩ := pdqPartial_spec cmp d2 a b wb wp hint ha (by omega) hb2
        have hb3 := hf3.size_le hb2
        simp only [h1, h2, h3, ok_bind]
        have hf03 : Frame d d3 0 b :=
          (hf1.mono ha (Int.le_refl _)).trans ((hf2.mono ha (Int.le_refl _)).trans hf3)
        have hW3 : WeakCmp cmp → LB cmp d a b →
            Frame d d3 a b ∧ LB cmp d3 a b ∧ (done = true → SortedOn cmp d3 a b) := by
          intro hw hlb
          have hlb2 : LB cmp d2 a b := (hlb.frame hf1 ha).frame hf2 ha
          obtain ⟨hf3', hs3⟩ := hw3 hw hlb2
          exact ⟨hf1.trans (hf2.trans hf3'), hlb2.frame hf3' ha, hs3⟩
        by_cases hdone : done = true
        · rw [if_pos hdone]
          refine ⟨d3, rfl, hf03, ?_⟩
          intro hw hlb
          obtain ⟨hf3', _, hs3⟩ := hW3 hw hlb
          exact ⟨hf3', hs3 hdone⟩
        · rw [if_neg hdone]
          obtain ⟨e, h4, he⟩ := pdqEqTest_spec cmp d3 a pivot hp1 (by omega)
          simp only [h4, ok_bind]
          obtain ⟨p, hp⟩ := at?_eq_some d3 pivot (by omega)
          by_cases hee : e = true
          · rw [if_pos hee]
            obtain ⟨d4, mid, h5, hf4, hm1, hm2, hpa, hLe, hGt⟩ :=
              partitionEqual_spec cmp d3 a b pivot p ha hp1 hp2 hb3 hp
            have hb4 := hf4.size_le hb3
            obtain ⟨d5, h6, hf5, hw5⟩ := ih d4 mid b l1 wb wp (by omega) (by omega) hm2 hb4
            simp only [h5, h6, ok_bind]
            refine ⟨d5, rfl, hf03.trans ((hf4.mono ha (Int.le_refl _)).trans hf5), ?_⟩
            intro hw hlb
            obtain ⟨hf3', hlb3, _⟩ := hW3 hw hlb
            obtain ⟨ha0, hmp⟩ := he hee
            -- the pivot is not less than `data[a-1]`, a lower bound of the range: so is the pivot
            obtain ⟨m, hm⟩ := at?_eq_some d3 (a - 1) (by omega)
            have hge3 : AllOn (fun x => ¬ cmp x p < 0) d3 a b := fun k x hk1 hk2 hx =>
              hw.le_trans (hmp m p hm hp) (hlb3 ha0 k hk1 hk2 x m hx hm)
            have hge4 := hf4.allOn ha hge3
            have hle4 : AllOn (fun x => ¬ cmp p x < 0) d4 a mid := by
              intro k x hk1 hk2 hx
              by_cases hka : k = a
              · subst hka; rw [hpa] at hx; cases hx; exact hw.irrefl _
              · exact hLe k x (by omega) hk2 hx
            have hlb4 : LB cmp d4 mid b := fun _ k hk1 hk2 y q hy hq =>
              hw.asymm (hw.lt_of_le_of_lt (hle4 (mid - 1) q (by omega) (by omega) hq) (hGt k y hk1 hk2 hy))
            obtain ⟨hf5', hs5⟩ := hw5 hw hlb4
            exact ⟨hf3'.trans (hf4.trans (hf5'.mono (by omega) (Int.le_refl _))),
              sorted_join_eq hw hs5 (hle4.frame_out hf5' (Or.inl (Int.le_refl _)))
                (AllOn.frame_out (fun k x h1 h2 => hge4 k x h1 (by omega)) hf5' (Or.inl (Int.le_refl _)))
                (hf5'.allOn (by omega) hGt)⟩
          · rw [if_neg hee]
            obtain ⟨d4, mid, ap, h5, hf4, hm1, hm2, hP⟩ :=
              partition_spec cmp d3 a b pivot p ha hp1 hp2 hb3 hp
            have hb4 := hf4.size_le hb3
            simp only [h5, ok_bind]
            by_cases hlr : mid - a < b - mid
            · rw [if_pos hlr]
              obtain ⟨d5, h6, hf5, hw5⟩ := ih d4 a mid l1 true true (by omega) ha hm1 (by omega)
              have hb5 := hf5.size_le hb4
              obtain ⟨d6, h7, hf6, hw6⟩ := ih d5 (mid + 1) b l1 (decide (mid - a ≥ (b - a).tdiv 8)) ap
                (by omega) (by omega) (by omega) hb5
              simp only [h6, h7, ok_bind]
              refine ⟨d6, rfl, hf03.trans ((hf4.mono ha (Int.le_refl _)).trans
                ((hf5.mono (Int.le_refl _) (by omega)).trans hf6)), ?_⟩
              intro hw hlb
              obtain ⟨hf3', hlb3, _⟩ := hW3 hw hlb
              obtain ⟨hf5', hs5⟩ := hw5 hw ((hlb3.frame hf4 ha).sub (by omega))
              have hP5 := hP.frame_left hf5' ha
              obtain ⟨hf6', hs6⟩ := hw6 hw hP5.lb
              exact ⟨hf3'.trans (hf4.trans ((hf5'.mono (Int.le_refl _) (by omega)).trans
                  (hf6'.mono (by omega) (Int.le_refl _)))),
                (hP5.frame_right hf6' (by omega)).sorted hw (hs5.frame_out hf6' (Or.inl (by omega))) hs6⟩
            · rw [if_neg hlr]
              obtain ⟨d5, h6, hf5, hw5⟩ := ih d4 (mid + 1) b l1 true true (by omega) (by omega) (by omega) hb4
              have hb5 := hf5.size_le hb4
              obtain ⟨d6, h7, hf6, hw6⟩ := ih d5 a mid l1 (decide (b - mid ≥ (b - a).tdiv 8)) ap
                (by omega) ha hm1 (by omega)
              simp only [h6, h7, ok_bind]
              refine ⟨d6, rfl, hf03.trans ((hf4.mono ha (Int.le_refl _)).trans
                (hf5.trans (hf6.mono (Int.le_refl _) (by omega)))), ?_⟩
              intro hw hlb
              obtain ⟨hf3', hlb3, _⟩ := hW3 hw hlb
              obtain ⟨hf5', hs5⟩ := hw5 hw hP.lb
              obtain ⟨hf6', hs6⟩ := hw6 hw (((hlb3.frame hf4 ha).sub (by omega)).frame_out hf5' (by omega) hm1)
              exact ⟨hf3'.trans (hf4.trans ((hf5'.mono (by omega) (Int.le_refl _)).trans
                  (hf6'.mono (Int.le_refl _) (by omega)))),
                ((hP.frame_right hf5' (by omega)).frame_left hf6' ha).sorted hw hs6
                  (hs5.frame_out hf6' (Or.inr (by omega)))⟩

end GolibsVerif.Slices
