/-
Go-semantics layer: `bufio.Scanner` (`$GOROOT/src/bufio/scan.go`, Go 1.24) — an
executable model of `(*Scanner).Scan`, `advance`, `setErr`, `Err`, `Buffer`, and of the split
function `ScanLines` (with `dropCR`), reading from a *scripted* reader.

The reader.  A reader is a byte stream plus a *fragmentation script*: a list of read results
`(n, err)`.  One call `r.Read(p)` with `len(p) = room` consumes the head `(n, err)`:
  * `n ≤ room`: it delivers the next `n` bytes of the stream together with `err`;
  * `n > room`: it delivers the next `room` bytes with a nil error and leaves `(n - room, err)`
    at the head (a reader cannot deliver more than `len(p)` bytes; what it still holds comes
    with the next call);
  * an exhausted script answers `(0, io.EOF)`; `len(p) = 0` answers `(0, nil)` (the `io.Reader`
    contract; `Scan` never asks for it).
Every run of any `io.Reader` against the scanner is the run of a script: take the results
`(n_i, err_i)` the reader actually returned (then `n_i ≤ room_i`, so no entry is split).
Theorems quantified over all scripts therefore cover every reader behaviour (that returns
`0 ≤ n ≤ len(p)`: the `ErrBadReadCount` branch is kept in `fill` but is dead for this reader).

The scanner state is what `Scan` reads and writes: `len(s.buf)`, `s.start`, the bytes
`s.buf[s.start:s.end]` (`s.end = start + data.length`; the bytes outside this window are never
read again, so they are not represented), `s.err`, `s.empties`, `s.done`, `s.maxTokenSize`.
`s.token` is returned by `scan` (`some` = non-nil) instead of being stored; `s.scanCalled`
only guards `Buffer` / `Split` and is not represented.  Buffer shifting and growth are
modelled on the lengths (`shift`, `grow`), which is all they can influence: the `room` of the
next `Read` and the `ErrTooLong` rule.
-/
import GolibsVerif.Go.Basic

namespace GolibsVerif.Bufio

/-- the `error` values that occur: `io.EOF`, an error of the reader, the scanner's own -/
inductive Err where
  | eof                     -- io.EOF
  | reader (id : Nat)       -- any other error value returned by the reader
  | tooLong                 -- bufio.ErrTooLong
  | negativeAdvance         -- bufio.ErrNegativeAdvance
  | advanceTooFar           -- bufio.ErrAdvanceTooFar
  | badReadCount            -- bufio.ErrBadReadCount
  | noProgress              -- io.ErrNoProgress
  | split (id : Nat)        -- an error returned by the split function (not `ErrFinalToken`)
  deriving Repr, DecidableEq

/-! ### the scripted reader -/

/-- a fragmentation script: the read results `(n, err)`, `none` = nil error -/
abbrev Script := List (Nat × Option Err)

structure Reader where
  rest : Bytes          -- the bytes not yet delivered
  script : Script
  deriving Repr

/-- `r.Read(p)` with `len(p) = room`: the bytes copied to `p`, the error, the reader after -/
def Reader.read (r : Reader) (room : Nat) : Bytes × Option Err × Reader :=
  if room = 0 then ([], none, r)
  else match r.script with
    | [] => ([], some .eof, r)
    | (n, e) :: tl =>
      if n ≤ room then (r.rest.take n, e, { rest := r.rest.drop n, script := tl })
      else (r.rest.take room, none, { rest := r.rest.drop room, script := (n - room, e) :: tl })

/-- termination measure of a script: no `Read` makes it larger, and a `Read` with `room > 0` that
brings no error makes it smaller (`Reader.read_size`) -/
def scriptSize : Script → Nat
  | [] => 0
  | (n, _) :: tl => n + 1 + scriptSize tl

/-! ### split functions, `ScanLines` -/

/-- what a split function may return as `err` -/
inductive SplitErr where
  | finalToken            -- bufio.ErrFinalToken
  | other (id : Nat)
  deriving Repr, DecidableEq

/-- `(advance int, token []byte, err error)`; `token = none` is the nil slice -/
structure SplitResult where
  advance : Int
  token : Option Bytes
  err : Option SplitErr
  deriving Repr

/-- `bufio.SplitFunc` -/
abbrev SplitFunc := Bytes → Bool → SplitResult

/-- `if len(data) > 0 && data[len(data)-1] == '\r' { return data[0 : len(data)-1] }` -/
def dropCR (data : Bytes) : Bytes :=
  if data.length > 0 ∧ data[data.length - 1]? = some 13 then data.take (data.length - 1) else data

/-- `bytes.IndexByte(data, c)`; `none` is −1 -/
def indexByte : Bytes → Nat → Option Nat
  | [], _ => none
  | b :: t, c => if b = c then some 0 else (indexByte t c).map (· + 1)

/-- `bufio.ScanLines` -/
def scanLinesSplit : SplitFunc := fun data atEOF =>
  if atEOF ∧ data.length = 0 then ⟨0, none, none⟩
  else match indexByte data 10 with
    | some i => ⟨((i + 1 : Nat) : Int), some (dropCR (data.take i)), none⟩   -- a full newline-terminated line
    | none =>
      if atEOF then ⟨(data.length : Int), some (dropCR data), none⟩          -- final, non-terminated line
      else ⟨0, none, none⟩                                                   -- request more data

/-! ### the scanner -/

def maxConsecutiveEmptyReads : Nat := 100
def maxScanTokenSize : Nat := 64 * 1024
def startBufSize : Nat := 4096
/-- `int(^uint(0) >> 1)` on a 64-bit platform -/
def maxInt : Nat := 2 ^ 63 - 1

structure Scanner where
  rd : Reader               -- s.r
  maxTokenSize : Nat        -- s.maxTokenSize
  bufLen : Nat              -- len(s.buf)
  start : Nat               -- s.start
  data : Bytes              -- s.buf[s.start:s.end]
  err : Option Err          -- s.err
  empties : Nat             -- s.empties
  done : Bool               -- s.done
  deriving Repr

/-- `s.end` -/
def Scanner.end_ (s : Scanner) : Nat := s.start + s.data.length

/-- `bufio.NewScanner(r)` followed by `s.Buffer(buf, max)` with `cap(buf) = bufCap` -/
def Scanner.new (rd : Reader) (bufCap max : Nat) : Scanner :=
  { rd := rd, maxTokenSize := max, bufLen := bufCap, start := 0, data := [], err := none, empties := 0,
    done := false }

/-- records the first error encountered (`io.EOF` may be overwritten) -/
def Scanner.setErr (s : Scanner) (e : Err) : Scanner :=
  if s.err = none ∨ s.err = some .eof then { s with err := some e } else s

/-- `(*Scanner).Err` -/
def Scanner.errValue (s : Scanner) : Option Err :=
  if s.err = some .eof then none else s.err

theorem Reader.read_zero (r : Reader) : r.read 0 = ([], none, r) := by
  simp [Reader.read]

theorem Reader.read_nil (rest : Bytes) {room : Nat} (h : room ≠ 0) :
    Reader.read ⟨rest, []⟩ room = ([], some .eof, ⟨rest, []⟩) := by
  simp [Reader.read, h]

theorem Reader.read_cons (rest : Bytes) (n : Nat) (e : Option Err) (tl : Script) {room : Nat} (h : room ≠ 0) :
    Reader.read ⟨rest, (n, e) :: tl⟩ room =
      if n ≤ room then (rest.take n, e, ⟨rest.drop n, tl⟩)
      else (rest.take room, none, ⟨rest.drop room, (n - room, e) :: tl⟩) := by
  simp [Reader.read, h]

/-- every entry of a script counts one more than its bytes: a `Read` with room that brings no
error makes the script smaller even when it brings no bytes -/
theorem Reader.read_size (r : Reader) (room : Nat) :
    (r.read room).1.length ≤ room ∧
      (r.read room).1.length + scriptSize (r.read room).2.2.script ≤ scriptSize r.script ∧
      (room ≠ 0 → (r.read room).2.1 = none → scriptSize (r.read room).2.2.script < scriptSize r.script) := by
  obtain ⟨rest, script⟩ := r
  by_cases h0 : room = 0
  · subst h0; simp [Reader.read_zero]
  · cases script with
    | nil => simp [Reader.read_nil rest h0]
    | cons hd tl =>
      obtain ⟨n, e⟩ := hd
      rw [Reader.read_cons rest n e tl h0]
      split
      · have := List.length_take_le n rest
        simp only [scriptSize]; omega
      · have := List.length_take_le room rest
        simp only [scriptSize]; omega

/-- the read loop of `Scan`
```
for loop := 0; ; {
    n, err := s.r.Read(s.buf[s.end:len(s.buf)])
    if n < 0 || len(s.buf)-s.end < n { s.setErr(ErrBadReadCount); break }
    s.end += n
    if err != nil { s.setErr(err); break }
    if n > 0 { s.empties = 0; break }
    loop++
    if loop > maxConsecutiveEmptyReads { s.setErr(io.ErrNoProgress); break }
}
```
entered with the given value of `loop` -/
def fill (s : Scanner) (loop : Nat) : Scanner :=
  let res := s.rd.read (s.bufLen - s.end_)            -- (bytes copied, err, reader after)
  if s.bufLen - s.end_ < res.1.length then { s with rd := res.2.2 }.setErr .badReadCount
  else
    let s' : Scanner := { s with rd := res.2.2, data := s.data ++ res.1 }
    match herr : res.2.1 with
    | some e => s'.setErr e
    | none =>
      if res.1.length > 0 then { s' with empties := 0 }
      else if loop + 1 > maxConsecutiveEmptyReads then s'.setErr .noProgress
      else fill s' (loop + 1)
termination_by (scriptSize s.rd.script, maxConsecutiveEmptyReads + 1 - loop)
decreasing_by
  all_goals simp_wf
  simp only [maxConsecutiveEmptyReads] at *
  have hr := Reader.read_size s.rd (s.bufLen - s.end_)
  by_cases h0 : s.bufLen - s.end_ = 0
  · have := Reader.read_zero s.rd
    rw [h0, this]
    exact Prod.Lex.right _ (by omega)
  · exact Prod.Lex.left _ _ (hr.2.2 h0 herr)

/-- the first part of the loop body of `Scan`: try to get a token out of what is held -/
inductive Try where
  | ret (r : GoM (Option Bytes × Scanner))    -- `Scan` returns: `some t` = true with token `t`, `none` = false
  | more (s : Scanner)                        -- fall through: a token cannot be generated yet

/--
```
if s.end > s.start || s.err != nil {
    advance, token, err := s.split(s.buf[s.start:s.end], s.err != nil)
    if err != nil {
        if err == ErrFinalToken { s.token = token; s.done = true; return token != nil }
        s.setErr(err); return false
    }
    if !s.advance(advance) { return false }
    s.token = token
    if token != nil {
        if s.err == nil || advance > 0 { s.empties = 0 } else {
            s.empties++
            if s.empties > maxConsecutiveEmptyReads { panic("bufio.Scan: too many empty tokens without progressing") }
        }
        return true
    }
}
```
with `advance` inlined (`ErrNegativeAdvance`, `ErrAdvanceTooFar`, `s.start += n`).  A `Scan`
that returns false with `ErrFinalToken` and a nil token is `ret (none, _)`. -/
def tryToken (split : SplitFunc) (s : Scanner) : Try :=
  if s.data.length > 0 ∨ s.err ≠ none then
    let r := split s.data (s.err ≠ none)
    match r.err with
    | some .finalToken => .ret (.ok (r.token, { s with done := true }))
    | some (.other id) => .ret (.ok (none, s.setErr (.split id)))
    | none =>
      if r.advance < 0 then .ret (.ok (none, s.setErr .negativeAdvance))
      else if r.advance > (s.data.length : Int) then .ret (.ok (none, s.setErr .advanceTooFar))
      else
        let s : Scanner := { s with start := s.start + r.advance.toNat, data := s.data.drop r.advance.toNat }
        match r.token with
        | some t =>
          if s.err = none ∨ r.advance > 0 then .ret (.ok (some t, { s with empties := 0 }))
          else
            let s : Scanner := { s with empties := s.empties + 1 }
            if s.empties > maxConsecutiveEmptyReads then
              .ret (.error (.explicit "bufio.Scan: too many empty tokens without progressing"))
            else .ret (.ok (some t, s))
        | none => .more s
  else .more s

/--
```
if s.start > 0 && (s.end == len(s.buf) || s.start > len(s.buf)/2) {
    copy(s.buf, s.buf[s.start:s.end]); s.end -= s.start; s.start = 0
}
``` -/
def shift (s : Scanner) : Scanner :=
  if s.start > 0 ∧ (s.end_ = s.bufLen ∨ s.start > s.bufLen / 2) then { s with start := 0 } else s

/--
```
if s.end == len(s.buf) {
    if len(s.buf) >= s.maxTokenSize || len(s.buf) > maxInt/2 { s.setErr(ErrTooLong); return false }
    newSize := len(s.buf) * 2
    if newSize == 0 { newSize = startBufSize }
    newSize = min(newSize, s.maxTokenSize)
    newBuf := make([]byte, newSize); copy(newBuf, s.buf[s.start:s.end]); s.buf = newBuf
    s.end -= s.start; s.start = 0
}
```
`none` = the `ErrTooLong` exit -/
def grow (s : Scanner) : Option Scanner :=
  if s.end_ = s.bufLen then
    if s.bufLen ≥ s.maxTokenSize ∨ s.bufLen > maxInt / 2 then none
    else
      let newSize := s.bufLen * 2
      let newSize := if newSize = 0 then startBufSize else newSize
      let newSize := min newSize s.maxTokenSize
      some { s with bufLen := newSize, start := 0 }
  else some s

theorem Scanner.setErr_of_none {s : Scanner} (h : s.err = none) (e : Err) :
    s.setErr e = { s with err := some e } := by
  simp [Scanner.setErr, h]

theorem Scanner.setErr_frame (s : Scanner) (e : Err) :
    (s.setErr e).rd = s.rd ∧ (s.setErr e).data = s.data ∧ (s.setErr e).err ≠ none := by
  unfold Scanner.setErr
  split
  · simp
  · rename_i h; exact ⟨rfl, rfl, fun hc => h (Or.inl hc)⟩

theorem fill_appends (s : Scanner) (loop : Nat) :
    ∃ bytes, (fill s loop).data = s.data ++ bytes ∧
      bytes.length + scriptSize (fill s loop).rd.script ≤ scriptSize s.rd.script ∧
      (s.err = none → (fill s loop).err = none → bytes ≠ []) := by
  fun_induction fill s loop with
  | case1 s loop res hbad =>
    have hr : res.1.length ≤ _ := (Reader.read_size s.rd (s.bufLen - s.end_)).1
    omega
  | case2 s loop res hbad s' e he' =>
    obtain ⟨h1, h2, h3⟩ := s'.setErr_frame e
    rw [h1, h2]
    exact ⟨res.1, rfl, (Reader.read_size s.rd (s.bufLen - s.end_)).2.1, fun _ h => absurd h h3⟩
  | case3 s loop res hbad s' he' hpos =>
    exact ⟨res.1, rfl, (Reader.read_size s.rd (s.bufLen - s.end_)).2.1, fun _ _ => List.ne_nil_of_length_pos hpos⟩
  | case4 s loop res hbad s' he' hpos hloop =>
    obtain ⟨h1, h2, h3⟩ := s'.setErr_frame .noProgress
    rw [h1, h2]
    exact ⟨res.1, rfl, (Reader.read_size s.rd (s.bufLen - s.end_)).2.1, fun _ h => absurd h h3⟩
  | case5 s loop res hbad s' he' hpos hloop ih =>
    obtain ⟨bytes, h1, h2, h3⟩ := ih
    have hr : res.1.length + scriptSize s'.rd.script ≤ _ := (Reader.read_size s.rd (s.bufLen - s.end_)).2.1
    refine ⟨res.1 ++ bytes, by rw [h1, List.append_assoc], ?_, fun he h => ?_⟩
    · rw [List.length_append]; omega
    · exact List.append_ne_nil_of_right_ne_nil _ (h3 he h)

theorem fill_size (s : Scanner) (loop : Nat) :
    scriptSize (fill s loop).rd.script ≤ scriptSize s.rd.script ∧
      (s.err = none → (fill s loop).err = none →
        scriptSize (fill s loop).rd.script < scriptSize s.rd.script) := by
  obtain ⟨bytes, _, h2, h3⟩ := fill_appends s loop
  exact ⟨by omega, fun he h => by have := List.length_pos_iff.2 (h3 he h); omega⟩

theorem tryToken_more (split : SplitFunc) (s s' : Scanner) (h : tryToken split s = .more s') :
    s'.rd = s.rd ∧ s'.err = s.err ∧ s'.data.length ≤ s.data.length := by
  unfold tryToken at h
  by_cases hc : s.data.length > 0 ∨ s.err ≠ none
  · rw [if_pos hc] at h
    generalize split s.data (decide (s.err ≠ none)) = r at h
    obtain ⟨adv, tok, err⟩ := r
    dsimp only at h
    cases err with
    | some e => cases e <;> cases h
    | none =>
      dsimp only at h
      by_cases h1 : adv < 0
      · rw [if_pos h1] at h; cases h
      · rw [if_neg h1] at h
        by_cases h2 : adv > (s.data.length : Int)
        · rw [if_pos h2] at h; cases h
        · rw [if_neg h2] at h
          cases tok with
          | none => cases h; exact ⟨rfl, rfl, List.length_drop ▸ Nat.sub_le _ _⟩
          | some t =>
            dsimp only at h
            split at h
            · cases h
            · split at h <;> cases h
  · rw [if_neg hc] at h
    cases h
    exact ⟨rfl, rfl, Nat.le_refl _⟩

theorem shift_frame (s : Scanner) : (shift s).rd = s.rd ∧ (shift s).err = s.err ∧ (shift s).data = s.data := by
  unfold shift; split <;> simp

theorem grow_frame (s s' : Scanner) (h : grow s = some s') :
    s'.rd = s.rd ∧ s'.err = s.err ∧ s'.data = s.data := by
  unfold grow at h
  split at h
  · split at h
    · simp at h
    · simp only [Option.some.injEq] at h; subst h; simp
  · simp only [Option.some.injEq] at h; subst h; simp

set_option linter.unusedVariables false in
/-- the loop `for { … }` of `Scan` -/
def scanLoop (split : SplitFunc) (s : Scanner) : GoM (Option Bytes × Scanner) :=
  match h : tryToken split s with
  | .ret r => r
  | .more s1 =>
    -- We cannot generate a token with what we are holding.
    if s1.err ≠ none then
      .ok (none, { s1 with start := 0, data := [] })           -- s.start = 0; s.end = 0; return false
    else
      match h2 : grow (shift s1) with
      | none => .ok (none, (shift s1).setErr .tooLong)          -- s.setErr(ErrTooLong); return false
      | some s2 => scanLoop split (fill s2 0)
termination_by 2 * scriptSize s.rd.script + (if s.err = none then 1 else 0)
decreasing_by
  rename_i herr
  have h1 := tryToken_more split _ _ h
  have h3 := shift_frame s1
  have h4 := grow_frame _ _ h2
  have hs1 : s1.err = none := by simpa using herr
  have hs2 : s2.err = none := by rw [h4.2.1, h3.2.1]; exact hs1
  have h5 := fill_size s2 0
  rw [h4.1, h3.1, h1.1] at h5
  have hs : s.err = none := by rw [← h1.2.1]; exact hs1
  simp only [hs, if_true]
  by_cases hf : (fill s2 0).err = none
  · have := h5.2 hs2 hf
    simp only [hf, if_true]
    omega
  · simp only [hf, if_false]
    have := h5.1
    omega

/-- `(*Scanner).Scan`: `some t` = true with `s.Bytes() = t`, `none` = false -/
def scan (split : SplitFunc) (s : Scanner) : GoM (Option Bytes × Scanner) :=
  if s.done then .ok (none, s) else scanLoop split s

/-! ### running a scanner to the end, as `for s.Scan() { … }; s.Err()` does -/

/-- termination measure of the `for s.Scan()` loop -/
def Scanner.weight (s : Scanner) : Nat :=
  2 * scriptSize s.rd.script + s.data.length + (if s.err = none then 1 else 0)

theorem fill_weight (s : Scanner) (loop : Nat) (he : s.err = none) : (fill s loop).weight ≤ s.weight := by
  obtain ⟨bytes, h1, h2, _⟩ := fill_appends s loop
  simp only [Scanner.weight, he, if_true, h1, List.length_append]
  split <;> omega

theorem indexByte_some (d : Bytes) (c i : Nat) (h : indexByte d c = some i) :
    i < d.length ∧ d = d.take i ++ c :: d.drop (i + 1) ∧ c ∉ d.take i := by
  induction d generalizing i with
  | nil => cases h
  | cons b t ih =>
    unfold indexByte at h
    split at h
    · rename_i hb
      cases h; subst hb
      exact ⟨Nat.zero_lt_succ _, rfl, List.not_mem_nil⟩
    · rename_i hb
      cases ht : indexByte t c with
      | none => rw [ht] at h; cases h
      | some j =>
        rw [ht] at h; cases h
        obtain ⟨h1, h2, h3⟩ := ih j ht
        refine ⟨Nat.succ_lt_succ h1, congrArg (b :: ·) h2, fun hm => ?_⟩
        rcases List.mem_cons.1 hm with rfl | hm
        · exact hb rfl
        · exact h3 hm

theorem indexByte_none (d : Bytes) (c : Nat) (h : indexByte d c = none) : c ∉ d := by
  induction d with
  | nil => simp
  | cons b t ih =>
    unfold indexByte at h
    split at h
    · simp at h
    · rename_i hb
      simp only [Option.map_eq_none_iff] at h
      simp only [List.mem_cons, not_or]
      exact ⟨fun h => hb h.symm, ih h⟩

/-- `tryToken` with `ScanLines`: a newline in what is held ends a token; without one the loop
falls through while `s.err == nil` or nothing is held, and at the end of the input the non-empty
rest is the final token -/
theorem tryToken_lines (s : Scanner) :
    (∃ i, indexByte s.data 10 = some i ∧
      tryToken scanLinesSplit s = .ret (.ok (some (dropCR (s.data.take i)),
        { s with start := s.start + (i + 1), data := s.data.drop (i + 1), empties := 0 }))) ∨
    (indexByte s.data 10 = none ∧ (s.err = none ∨ s.data = []) ∧ tryToken scanLinesSplit s = .more s) ∨
    (indexByte s.data 10 = none ∧ s.err ≠ none ∧ s.data ≠ [] ∧
      tryToken scanLinesSplit s = .ret (.ok (some (dropCR s.data),
        { s with start := s.start + s.data.length, data := [], empties := 0 }))) := by
  cases h : indexByte s.data 10 with
  | some i =>
    have hi := (indexByte_some _ _ _ h).1
    have hlen : s.data.length > 0 := by omega
    have h1 : ¬ ((i : Int) + 1 < 0) := by omega
    have h2 : ¬ ((i : Int) + 1 > (s.data.length : Int)) := by omega
    have h3 : (i : Int) + 1 > 0 := by omega
    have h4 : ((i : Int) + 1).toNat = i + 1 := by omega
    have h5 : s.data ≠ [] := by intro hd; simp [hd] at hlen
    exact Or.inl ⟨i, rfl, by simp [tryToken, scanLinesSplit, h, hlen, h1, h2, h3, h4, h5]⟩
  | none =>
    refine Or.inr ?_
    by_cases hd : s.data = []
    · -- `.more` of the scanner advanced by 0 is `.more s` only after `s` is taken apart
      obtain ⟨rd, mt, bl, st, data, err, em, dn⟩ := s
      subst hd
      exact Or.inl ⟨rfl, Or.inr rfl, by by_cases he : err = none <;> simp [tryToken, scanLinesSplit, he]⟩
    · have hlen : s.data.length > 0 := List.length_pos_iff.2 hd
      by_cases he : s.err = none
      · have h1 : ¬ ((s.data.length : Int) < 0) := by omega
        obtain ⟨rd, mt, bl, st, data, err, em, dn⟩ := s
        subst he
        exact Or.inl ⟨rfl, Or.inl rfl, by simp [tryToken, scanLinesSplit, h, hd, hlen, h1]⟩
      · exact Or.inr ⟨rfl, he, hd, by simp [tryToken, scanLinesSplit, h, he, hd, hlen]⟩

theorem tryToken_lines_more_inv {s s1 : Scanner} (h : tryToken scanLinesSplit s = .more s1) :
    s1 = s ∧ indexByte s.data 10 = none ∧ (s.err = none ∨ s.data = []) := by
  rcases tryToken_lines s with ⟨i, _, ht⟩ | ⟨hi, hor, ht⟩ | ⟨_, _, _, ht⟩
  · rw [ht] at h; cases h
  · rw [ht] at h; cases h
    exact ⟨rfl, hi, hor⟩
  · rw [ht] at h; cases h

/-- a `ScanLines` token always advances the input -/
theorem tryToken_lines_ret (s s' : Scanner) (t : Bytes)
    (h : tryToken scanLinesSplit s = .ret (.ok (some t, s'))) :
    s'.rd = s.rd ∧ s'.err = s.err ∧ s'.data.length < s.data.length := by
  rcases tryToken_lines s with ⟨i, hi, ht⟩ | ⟨_, _, ht⟩ | ⟨_, _, hd, ht⟩
  · rw [ht] at h; cases h
    have := (indexByte_some _ _ _ hi).1
    exact ⟨rfl, rfl, by simp only [List.length_drop]; omega⟩
  · rw [ht] at h; cases h
  · rw [ht] at h; cases h
    exact ⟨rfl, rfl, List.length_pos_iff.2 hd⟩

theorem scanLoop_lines_weight (s s' : Scanner) (t : Bytes)
    (h : scanLoop scanLinesSplit s = .ok (some t, s')) : s'.weight < s.weight := by
  fun_induction scanLoop scanLinesSplit s with
  | case1 s r hr =>
    subst h
    have := tryToken_lines_ret _ _ _ hr
    simp only [Scanner.weight, this.1, this.2.1]
    omega
  | case2 s s1 hm he => simp at h
  | case3 s s1 hm he hg => simp at h
  | case4 s s1 hm he s2 hg ih =>
    obtain ⟨rfl, _, _⟩ := tryToken_lines_more_inv hm
    have h3 := shift_frame s1
    have h4 := grow_frame _ _ hg
    have hw : s2.weight = s1.weight := by
      simp only [Scanner.weight, h4.1, h4.2.1, h4.2.2, h3.1, h3.2.1, h3.2.2]
    have hs2 : s2.err = none := by rw [h4.2.1, h3.2.1]; simpa using he
    have h5 := fill_weight s2 0 hs2
    have ih := ih h
    omega

set_option linter.unusedVariables false in
/-- the loop `for s.Scan() { tokens = append(tokens, s.Bytes()) }` followed by `s.Err()`, with
`ScanLines` as the split function: the tokens and the final `Err()` (`none` = nil) -/
def scanAll (s : Scanner) : GoM (List Bytes × Option Err) :=
  match h : scan scanLinesSplit s with
  | .error p => .error p
  | .ok (none, s') => .ok ([], s'.errValue)
  | .ok (some t, s') =>
    match scanAll s' with
    | .error p => .error p
    | .ok (ts, e) => .ok (t :: ts, e)
termination_by s.weight
decreasing_by
  unfold scan at h
  split at h
  · simp at h
  · exact scanLoop_lines_weight _ _ _ h

/-- `bufio.NewScanner(src)`, `s.Buffer(buf, max)` and the scan loop, for a reader that holds
`stream` and answers by `script` -/
def scanStream (bufCap max : Nat) (stream : Bytes) (script : Script) : GoM (List Bytes × Option Err) :=
  scanAll (Scanner.new { rest := stream, script := script } bufCap max)

end GolibsVerif.Bufio
