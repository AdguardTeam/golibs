-- Root of the `GolibsVerif` library (regenerated by notes/regen_registry.py): models, specs, lemmas, theorems.
import GolibsVerif.Go.Basic
import GolibsVerif.Go.Idna
import GolibsVerif.Go.Netip
import GolibsVerif.Go.NetipFmt
import GolibsVerif.Go.Scanner
import GolibsVerif.Go.Skel
import GolibsVerif.Go.Sort
import GolibsVerif.Go.Strings
import GolibsVerif.Go.Unicode
import GolibsVerif.Model.C06
import GolibsVerif.Model.C06F
import GolibsVerif.Model.C07
import GolibsVerif.Model.C08
import GolibsVerif.Model.C08Scan
import GolibsVerif.Model.C09
import GolibsVerif.Model.C09Frames
import GolibsVerif.Model.C09List
import GolibsVerif.Model.C10
import GolibsVerif.Model.C10Hist
import GolibsVerif.Model.C10IR
import GolibsVerif.Model.C11
import GolibsVerif.Model.C11Heap
import GolibsVerif.Model.C12
import GolibsVerif.Model.C13
import GolibsVerif.Model.C14
import GolibsVerif.Model.C14Parse
import GolibsVerif.Model.C15
import GolibsVerif.Model.C16
import GolibsVerif.Model.C17
import GolibsVerif.Model.C18
import GolibsVerif.Model.C18Fine
import GolibsVerif.Model.C18Skel
import GolibsVerif.Model.C19
import GolibsVerif.Model.C19Lts
import GolibsVerif.Model.C20
import GolibsVerif.Model.NetAddr
import GolibsVerif.Model.NetIP
import GolibsVerif.Model.NetMisc
import GolibsVerif.Model.NetReversed
import GolibsVerif.Spec.C03
import GolibsVerif.Spec.C04
import GolibsVerif.Spec.C05
import GolibsVerif.Spec.C06
import GolibsVerif.Spec.C07
import GolibsVerif.Spec.C08
import GolibsVerif.Spec.C08Scan
import GolibsVerif.Spec.C09
import GolibsVerif.Spec.C09List
import GolibsVerif.Spec.C10
import GolibsVerif.Spec.C11
import GolibsVerif.Spec.C12
import GolibsVerif.Spec.C13
import GolibsVerif.Spec.C14
import GolibsVerif.Spec.C17
import GolibsVerif.Spec.C19
import GolibsVerif.Spec.Idna
import GolibsVerif.Lemmas.C01
import GolibsVerif.Lemmas.C02Host
import GolibsVerif.Lemmas.C02IPAddr
import GolibsVerif.Lemmas.C02IPPort
import GolibsVerif.Lemmas.C02IPv4
import GolibsVerif.Lemmas.C02IPv6
import GolibsVerif.Lemmas.C03
import GolibsVerif.Lemmas.C04Basic
import GolibsVerif.Lemmas.C04Dom
import GolibsVerif.Lemmas.C04Main
import GolibsVerif.Lemmas.C04V4
import GolibsVerif.Lemmas.C04V6
import GolibsVerif.Lemmas.C05Idna
import GolibsVerif.Lemmas.C05Mask
import GolibsVerif.Lemmas.C05Str
import GolibsVerif.Lemmas.C05Top
import GolibsVerif.Lemmas.C05V4
import GolibsVerif.Lemmas.C05V6
import GolibsVerif.Lemmas.C06
import GolibsVerif.Lemmas.C07
import GolibsVerif.Lemmas.C07Addr
import GolibsVerif.Lemmas.C08
import GolibsVerif.Lemmas.C08Range
import GolibsVerif.Lemmas.C08Scan
import GolibsVerif.Lemmas.C09
import GolibsVerif.Lemmas.C09Frames
import GolibsVerif.Lemmas.C09FramesRun
import GolibsVerif.Lemmas.C09List
import GolibsVerif.Lemmas.C09ListTie
import GolibsVerif.Lemmas.C10
import GolibsVerif.Lemmas.C10Hist
import GolibsVerif.Lemmas.C10IR
import GolibsVerif.Lemmas.C10Lin
import GolibsVerif.Lemmas.C10Obs
import GolibsVerif.Lemmas.C10Profile
import GolibsVerif.Lemmas.C10Progress
import GolibsVerif.Lemmas.C10Sched
import GolibsVerif.Lemmas.C11Heap
import GolibsVerif.Lemmas.C11Ring
import GolibsVerif.Lemmas.C11Sets
import GolibsVerif.Lemmas.C11Sort
import GolibsVerif.Lemmas.C12
import GolibsVerif.Lemmas.C12Mask
import GolibsVerif.Lemmas.C13
import GolibsVerif.Lemmas.C13Fold
import GolibsVerif.Lemmas.C14Duration
import GolibsVerif.Lemmas.C14HostPort
import GolibsVerif.Lemmas.C14ParseDrop
import GolibsVerif.Lemmas.C14ParseFloat
import GolibsVerif.Lemmas.C14ParseGroup
import GolibsVerif.Lemmas.C14ParseLex
import GolibsVerif.Lemmas.C14ParseLoop
import GolibsVerif.Lemmas.C14ParseMain
import GolibsVerif.Lemmas.C16
import GolibsVerif.Lemmas.C17
import GolibsVerif.Lemmas.C17Monitor
import GolibsVerif.Lemmas.C18
import GolibsVerif.Lemmas.C18Fine
import GolibsVerif.Lemmas.C18FineCoarse
import GolibsVerif.Lemmas.C19Heap
import GolibsVerif.Lemmas.C19Json
import GolibsVerif.Lemmas.C19Lts
import GolibsVerif.Lemmas.C19World
import GolibsVerif.Lemmas.C20Inv
import GolibsVerif.Lemmas.C20Pool
import GolibsVerif.Lemmas.Digits
import GolibsVerif.Lemmas.GoM
import GolibsVerif.Lemmas.Idna
import GolibsVerif.Lemmas.ListFacts
import GolibsVerif.Lemmas.NetipDispatch
import GolibsVerif.Lemmas.NetipFmt
import GolibsVerif.Lemmas.NetipFmtBasic
import GolibsVerif.Lemmas.NetipFmtParse
import GolibsVerif.Lemmas.NetipFmtRT
import GolibsVerif.Lemmas.NetipFmtWF
import GolibsVerif.Lemmas.SortBasic
import GolibsVerif.Lemmas.SortC12
import GolibsVerif.Lemmas.SortHeap
import GolibsVerif.Lemmas.SortInsertion
import GolibsVerif.Lemmas.SortMisc
import GolibsVerif.Lemmas.SortPartial
import GolibsVerif.Lemmas.SortPartition
import GolibsVerif.Lemmas.SortPdq
import GolibsVerif.Lemmas.SortSearch
import GolibsVerif.Lemmas.Strings
import GolibsVerif.Lemmas.Unicode
import GolibsVerif.Lemmas.UnicodeFold1
import GolibsVerif.Lemmas.UnicodeSearch
import GolibsVerif.Theorems.C01
import GolibsVerif.Theorems.C02
import GolibsVerif.Theorems.C02IP
import GolibsVerif.Theorems.C03
import GolibsVerif.Theorems.C03Idna
import GolibsVerif.Theorems.C04
import GolibsVerif.Theorems.C04Idna
import GolibsVerif.Theorems.C05
import GolibsVerif.Theorems.C05Idna
import GolibsVerif.Theorems.C06
import GolibsVerif.Theorems.C07
import GolibsVerif.Theorems.C08
import GolibsVerif.Theorems.C08Scan
import GolibsVerif.Theorems.C09
import GolibsVerif.Theorems.C09Frames
import GolibsVerif.Theorems.C09List
import GolibsVerif.Theorems.C10
import GolibsVerif.Theorems.C10Lock
import GolibsVerif.Theorems.C11
import GolibsVerif.Theorems.C11Sort
import GolibsVerif.Theorems.C12
import GolibsVerif.Theorems.C12Sort
import GolibsVerif.Theorems.C13
import GolibsVerif.Theorems.C14
import GolibsVerif.Theorems.C14Parse
import GolibsVerif.Theorems.C15
import GolibsVerif.Theorems.C16
import GolibsVerif.Theorems.C17
import GolibsVerif.Theorems.C18
import GolibsVerif.Theorems.C18Fine
import GolibsVerif.Theorems.C19
import GolibsVerif.Theorems.C20
import GolibsVerif.Theorems.Idna
